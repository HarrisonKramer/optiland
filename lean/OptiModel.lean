import OptiModel.Num
import OptiModel.Model.Aberr
import OptiModel.Model.Analysis
import OptiModel.Model.DualF
import OptiModel.Model.Effects
import OptiModel.Model.Material
import OptiModel.Model.Merid
import OptiModel.Model.Optim
import OptiModel.Model.Parax
import OptiModel.Model.Polar
import OptiModel.Model.Presc
import OptiModel.Model.Psf
import OptiModel.Model.RayGen
import OptiModel.Model.Real
import OptiModel.Model.Serial
import OptiModel.Model.Toler
import OptiModel.Model.Wavefront
import OptiModel.Model.Zernike
import OptiModel.Model.Zmx
import OptiModel.Model.ZmxLex
import OptiModel.Gen.Catalog
import OptiModel.Gen.CatalogCert
import OptiModel.Gen.ZernikeTables
import OptiModel.Proofs.Aberr
import OptiModel.Proofs.AberrExt
import OptiModel.Proofs.Analysis
import OptiModel.Proofs.Cardinal
import OptiModel.Proofs.ConicMirrors
import OptiModel.Proofs.ConicRefract
import OptiModel.Proofs.Covariance
import OptiModel.Proofs.Dft
import OptiModel.Proofs.Effects
import OptiModel.Proofs.EffectsBatch
import OptiModel.Proofs.Launch
import OptiModel.Proofs.LaunchEx
import OptiModel.Proofs.MaterialReal
import OptiModel.Proofs.MaterialStr
import OptiModel.Proofs.NumReal
import OptiModel.Proofs.Optim
import OptiModel.Proofs.OptimMulti
import OptiModel.Proofs.OptimPresc
import OptiModel.Proofs.Polar
import OptiModel.Proofs.PsfBridge
import OptiModel.Proofs.RayReal
import OptiModel.Proofs.SelectRoot
import OptiModel.Proofs.Serial
import OptiModel.Proofs.TolerAbs
import OptiModel.Proofs.TolerPresc
import OptiModel.Proofs.TraceLaws
import OptiModel.Proofs.Wavefront
import OptiModel.Proofs.Zernike
import OptiModel.Proofs.ZernikeFit
import OptiModel.Proofs.ZernikeIdx
import OptiModel.Proofs.ZernikeTab
import OptiModel.Props.C01
import OptiModel.Props.C02
import OptiModel.Props.C03
import OptiModel.Props.C04
import OptiModel.Props.C05
import OptiModel.Props.C06
import OptiModel.Props.C07
import OptiModel.Props.C08
import OptiModel.Props.C09
import OptiModel.Props.C10
import OptiModel.Props.C11
import OptiModel.Props.C12
import OptiModel.Props.C13
import OptiModel.Props.C14
import OptiModel.Props.C15
import OptiModel.Props.C16
import OptiModel.Props.C17
import OptiModel.Props.C18
import OptiModel.Props.C19
import OptiModel.Props.C20
