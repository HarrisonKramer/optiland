import OptiModel.Proofs.OptimPresc
import OptiModel.Proofs.Cardinal
import Mathlib.Tactic.NormNum
/-!
# C01  Lens prescription stays consistent under any history of edits
Theorems over ℝ about `Model/Presc.lean` (state machine of `Optic`/`SurfaceGroup`/
`SurfaceFactory`/`WavelengthGroup`/`Pickup`/`MarginalRayHeightSolve`).

Clause → theorem:
* building in index order (success, vertex = running sum, media, one stop): `addSurface_end_eq`, `build_in_order`
* at most one stop / exactly one primary after any history: `stop_at_most_one`, `primary_exactly_one`
* setters read back and change nothing else: `setRadius_readback_frame`, `setConic_readback_frame`,
  `setThickness_readback_frame` (on the lens; `setThickness_thick` is the vertex-vector algebra),
  `setIndex_readback_frame`, `step_field_setters`, `step_setCoeff`
* media chain after any in-order history of edits: `media_chain_after_any_history`
* pickups (one application): `applyPickup_radius`, `applyPickup_conic`, `applyPickup_thickness`
* marginal-ray-height solve: `solve_places_marginal_ray` (infinite object, EPD aperture, `idx ≥ 2`);
  `solve_places_ray_step` is the one-step algebra it rests on.
Still partial: "after `update()` *each* pickup holds" is proved only for one application (a later pickup or
solve may overwrite the source of an earlier one — the model applies them in order, once); the solve clause
is not proved for finite objects / F-number apertures (there the launch of the marginal ray itself depends
on the vertices that the solve moves).
-/
namespace C01
open Model


/-- a position-wise modification that preserves a projection preserves the projected list; every setter,
pickup and solve rewrites the surface list by `mapIdx` -/
theorem map_mapIdx {β γ : Type} (l : List β) (f : Nat → β → β) (g : β → γ) (h : ∀ i x, g (f i x) = g x) :
    (l.mapIdx f).map g = l.map g := by
  apply List.ext_getElem?
  intro i
  rw [List.getElem?_map, List.getElem?_mapIdx, List.getElem?_map, Option.map_map]
  exact congrArg (Option.map · l[i]?) (funext (h i))

theorem modifyAt_length {β : Type} (l : List β) (k : Nat) (f : β → β) : (modifyAt l k f).length = l.length :=
  OptimProofs.length_modifyAt l k f

theorem modifyAt_getElem? {β : Type} (l : List β) (k i : Nat) (f : β → β) :
    (modifyAt l k f)[i]? = if i = k then l[i]?.map f else l[i]? := by
  rw [OptimProofs.getElem?_modifyAt]
  split
  · rfl
  · cases l[i]? <;> rfl

theorem map_modifyAt {β γ : Type} (l : List β) (k : Nat) (f : β → β) (g : β → γ) (h : ∀ x, g (f x) = g x) :
    (modifyAt l k f).map g = l.map g :=
  OptimProofs.map_modifyAt l k f g fun x _ => h x

theorem guardIdx_ok {P r P' : Presc ℝ} {k : Nat} (h : guardIdx P k r = .ok P') : P' = r := by
  unfold guardIdx at h
  split at h
  · exact (Except.ok.inj h).symm
  · cases h

theorem removeSurface_ok {P P' : Presc ℝ} {i : Nat} (h : removeSurface P i = .ok P') :
    P' = { P with surfs := P.surfs.eraseIdx i } := by
  unfold removeSurface at h
  split_ifs at h
  exact (Except.ok.inj h).symm

theorem setCoeff_ok {P P' : Presc ℝ} {v : ℝ} {k i : Nat} (h : step P (.setCoeff v k i) = .ok P') :
    P' = setCoeff P v k i := by
  simp only [step] at h
  split at h
  · cases h
  · split_ifs at h
    exact (Except.ok.inj h).symm

/-- the surface list after `add_surface(index = N)` when the new surface carries stop flag `b` -/
def clearStops (l : List (SRec ℝ)) (b : Bool) : List (SRec ℝ) :=
  if b then l.map fun t => { t with stop := false } else l

theorem clearStops_length (l : List (SRec ℝ)) (b : Bool) : (clearStops l b).length = l.length := by
  unfold clearStops; split <;> simp

theorem clearStops_map {γ : Type} (l : List (SRec ℝ)) (b : Bool) (g : SRec ℝ → γ)
    (hg : ∀ t : SRec ℝ, g { t with stop := false } = g t) : (clearStops l b).map g = l.map g := by
  unfold clearStops; split
  · rw [List.map_map]; apply List.map_congr_left; intro t _; exact hg t
  · rfl

/-- `add_surface` inserts one new record at `index` (after clearing the stop flags if it is the stop),
may extend the medium table and notes the thickness; nothing else changes -/
theorem addSurface_ok {P P' : Presc ℝ} {a : AddArgs ℝ} (h : addSurface P a = .ok P') :
    ∃ (b : Bool) (s : SRec ℝ) (mats : List ℝ), P' = { P with
      surfs := (clearStops P.surfs b).take a.index ++ [s] ++ (clearStops P.surfs b).drop a.index,
      mats := mats, lastThickness := a.thickness } ∧ s.stop = b := by
  unfold addSurface at h
  split at h
  · cases h
  · dsimp only at h
    generalize (if a.index = 0 then some 0 else if a.index = 0 then none
      else (P.surfs.map (·.mPost))[a.index - 1]?) = o at h
    cases o with
    | none => cases h
    | some pre0 => exact ⟨_, _, _, (Except.ok.inj h).symm, rfl⟩

theorem foldl_keeps {β γ : Type} (obs : Presc ℝ → γ) (f : Presc ℝ → β → Presc ℝ)
    (hf : ∀ P x, obs (f P x) = obs P) : ∀ (l : List β) (P : Presc ℝ), obs (l.foldl f P) = obs P
  | [], _ => rfl
  | x :: l, P => (foldl_keeps obs f hf l (f P x)).trans (hf P x)

theorem applyPickup_keeps {γ : Type} (obs : Presc ℝ → γ) (hr : ∀ P v k, obs (setRadius P v k) = obs P)
    (hc : ∀ P v k, obs (setConic P v k) = obs P) (ht : ∀ P v k, obs (setThickness P v k) = obs P)
    (P : Presc ℝ) (p : Pickup ℝ) : obs (applyPickup P p) = obs P := by
  unfold applyPickup
  cases p.attr
  · exact hr _ _ _
  · exact hc _ _ _
  · exact ht _ _ _

theorem update_keeps {γ : Type} (obs : Presc ℝ → γ) (hp : ∀ P p, obs (applyPickup P p) = obs P)
    (hs : ∀ P s, obs (applySolve P s) = obs P) (P : Presc ℝ) : obs (update P) = obs P :=
  (foldl_keeps obs applySolve hs _ _).trans (foldl_keeps obs applyPickup hp _ _)

theorem scaleSystem_keeps {γ : Type} (obs : Presc ℝ → γ) (hr : ∀ P v k, obs (setRadius P v k) = obs P)
    (ht : ∀ P v k, obs (setThickness P v k) = obs P) (ha : ∀ (P : Presc ℝ) x, obs { P with apValue := x } = obs P)
    (P : Presc ℝ) (s : ℝ) (a b : List Bool) : obs (scaleSystem P s a b) = obs P := by
  unfold scaleSystem
  dsimp only
  generalize hF : List.foldl _ P _ = F
  have hFP : obs F = obs P := by
    rw [← hF]
    refine foldl_keeps obs _ (fun Q k => ?_) _ _
    rw [apply_ite obs, ht, ite_self, apply_ite obs, hr, ite_self]
  split
  · exact (ha _ _).trans hFP
  · exact hFP

def countPrimary (ws : List (ℝ × Bool)) : Nat := (ws.filter (·.2)).length

theorem addWave_primary (P : Presc ℝ) (v : ℝ) (p : Bool)
    (h : P.waves = [] ∨ countPrimary P.waves = 1) : countPrimary (addWave P v p).waves = 1 := by
  unfold addWave countPrimary
  cases p
  · rcases h with h | h
    · simp [h]
    · have hne : P.waves.isEmpty = false := by
        cases hw : P.waves with
        | nil => rw [hw] at h; cases h
        | cons a l => rfl
      simp only [Bool.false_eq_true, if_false, hne, List.filter_append, List.length_append]
      simpa [countPrimary] using h
  · simp [List.filter_append, List.filter_map, Function.comp_def]

theorem applyPickup_waves (P : Presc ℝ) (p : Pickup ℝ) : (applyPickup P p).waves = P.waves :=
  applyPickup_keeps (·.waves) (fun _ _ _ => rfl) (fun _ _ _ => rfl) (fun _ _ _ => rfl) P p

theorem applySolve_waves (P : Presc ℝ) (s : Solve ℝ) : (applySolve P s).waves = P.waves := rfl

theorem foldl_waves {β : Type} (f : Presc ℝ → β → Presc ℝ) (hf : ∀ P x, (f P x).waves = P.waves) :
    ∀ (l : List β) (P : Presc ℝ), (l.foldl f P).waves = P.waves :=
  foldl_keeps (·.waves) f hf

theorem update_waves (P : Presc ℝ) : (update P).waves = P.waves :=
  update_keeps (·.waves) applyPickup_waves applySolve_waves P

theorem scaleSystem_waves (P : Presc ℝ) (s : ℝ) (a b : List Bool) : (scaleSystem P s a b).waves = P.waves :=
  scaleSystem_keeps (·.waves) (fun _ _ _ => rfl) (fun _ _ _ => rfl) (fun _ _ => rfl) P s a b

def countStop (ss : List (SRec ℝ)) : Nat := (ss.filter (·.stop)).length

theorem countStop_append (a b : List (SRec ℝ)) : countStop (a ++ b) = countStop a + countStop b := by
  simp only [countStop, List.filter_append, List.length_append]

theorem countStop_take_drop (l : List (SRec ℝ)) (i : Nat) :
    countStop (l.take i) + countStop (l.drop i) = countStop l := by
  rw [← countStop_append, List.take_append_drop]

theorem countStop_clear (l : List (SRec ℝ)) : countStop (l.map fun t => { t with stop := false }) = 0 := by
  simp [countStop, List.filter_map, Function.comp_def]

/-- adding a surface anywhere keeps at most one stop -/
theorem addSurface_stop (P P' : Presc ℝ) (a : AddArgs ℝ) (h : addSurface P a = .ok P')
    (h1 : countStop P.surfs ≤ 1) : countStop P'.surfs ≤ 1 := by
  obtain ⟨b, s, mats, rfl, hs⟩ := addSurface_ok h
  dsimp only
  rw [countStop_append, countStop_append, Nat.add_right_comm, countStop_take_drop]
  -- a new stop finds the flags cleared; otherwise the count is the old one
  have e : countStop [s] = if b then 1 else 0 := by
    rw [countStop, List.filter_singleton, hs]; cases b <;> rfl
  rw [e]
  cases b
  · exact h1
  · exact (congrArg (· + 1) (countStop_clear P.surfs)).le

theorem countStop_eraseIdx (l : List (SRec ℝ)) (i : Nat) : countStop (l.eraseIdx i) ≤ countStop l :=
  ((List.eraseIdx_sublist l i).filter _).length_le

theorem countStop_of_map_eq (l l' : List (SRec ℝ)) (h : l'.map (·.stop) = l.map (·.stop)) :
    countStop l' = countStop l := by
  have e : ∀ m : List (SRec ℝ), countStop m = ((m.map (·.stop)).filter id).length := fun m => by
    rw [List.filter_map, List.length_map]; rfl
  rw [e, e, h]

def stops (P : Presc ℝ) : List Bool := P.surfs.map (·.stop)

theorem stops_setRadius (P : Presc ℝ) (v : ℝ) (k : Nat) : stops (setRadius P v k) = stops P :=
  map_modifyAt _ _ _ _ fun x => by cases x.gk <;> rfl
theorem stops_setConic (P : Presc ℝ) (v : ℝ) (k : Nat) : stops (setConic P v k) = stops P :=
  map_modifyAt _ _ _ _ fun _ => rfl
theorem stops_setThickness (P : Presc ℝ) (v : ℝ) (k : Nat) : stops (setThickness P v k) = stops P :=
  map_mapIdx _ _ _ fun _ _ => rfl
theorem stops_setIndex (P : Presc ℝ) (v : ℝ) (k : Nat) : stops (setIndex P v k) = stops P :=
  Eq.trans (map_modifyAt _ _ _ _ fun _ => rfl) (map_modifyAt _ _ _ _ fun _ => rfl)
theorem stops_setCoeff (P : Presc ℝ) (v : ℝ) (k i : Nat) : stops (setCoeff P v k i) = stops P :=
  map_modifyAt _ _ _ _ fun _ => rfl
theorem stops_applyPickup (P : Presc ℝ) (p : Pickup ℝ) : stops (applyPickup P p) = stops P :=
  applyPickup_keeps stops stops_setRadius stops_setConic stops_setThickness P p
theorem stops_applySolve (P : Presc ℝ) (s : Solve ℝ) : stops (applySolve P s) = stops P :=
  map_mapIdx _ _ _ fun _ _ => by split <;> rfl
theorem foldl_stops {β : Type} (f : Presc ℝ → β → Presc ℝ) (hf : ∀ P x, stops (f P x) = stops P) :
    ∀ (l : List β) (P : Presc ℝ), stops (l.foldl f P) = stops P :=
  foldl_keeps stops f hf
theorem stops_update (P : Presc ℝ) : stops (update P) = stops P :=
  update_keeps stops stops_applyPickup stops_applySolve P
theorem stops_imageSolve (P : Presc ℝ) : stops (imageSolve P) = stops P :=
  map_modifyAt _ _ _ _ fun _ => rfl
theorem stops_scaleSystem (P : Presc ℝ) (s : ℝ) (a b : List Bool) : stops (scaleSystem P s a b) = stops P :=
  scaleSystem_keeps stops stops_setRadius stops_setThickness (fun _ _ => rfl) P s a b

def media (P : Presc ℝ) : List (Nat × Nat) := P.surfs.map fun s => (s.mPre, s.mPost)

theorem media_setRadius (P : Presc ℝ) (v : ℝ) (k : Nat) : media (setRadius P v k) = media P :=
  map_modifyAt _ _ _ _ fun x => by cases x.gk <;> rfl
theorem media_setConic (P : Presc ℝ) (v : ℝ) (k : Nat) : media (setConic P v k) = media P :=
  map_modifyAt _ _ _ _ fun _ => rfl
theorem media_setThickness (P : Presc ℝ) (v : ℝ) (k : Nat) : media (setThickness P v k) = media P :=
  map_mapIdx _ _ _ fun _ _ => rfl
theorem media_setCoeff (P : Presc ℝ) (v : ℝ) (k i : Nat) : media (setCoeff P v k i) = media P :=
  map_modifyAt _ _ _ _ fun _ => rfl
theorem media_applyPickup (P : Presc ℝ) (p : Pickup ℝ) : media (applyPickup P p) = media P :=
  applyPickup_keeps media media_setRadius media_setConic media_setThickness P p
theorem media_applySolve (P : Presc ℝ) (s : Solve ℝ) : media (applySolve P s) = media P :=
  map_mapIdx _ _ _ fun _ _ => by split <;> rfl
theorem foldl_media {β : Type} (f : Presc ℝ → β → Presc ℝ) (hf : ∀ P x, media (f P x) = media P) :
    ∀ (l : List β) (P : Presc ℝ), media (l.foldl f P) = media P :=
  foldl_keeps media f hf
theorem media_update (P : Presc ℝ) : media (update P) = media P :=
  update_keeps media media_applyPickup media_applySolve P
theorem media_imageSolve (P : Presc ℝ) : media (imageSolve P) = media P :=
  map_modifyAt _ _ _ _ fun _ => rfl
theorem media_scaleSystem (P : Presc ℝ) (s : ℝ) (a b : List Bool) : media (scaleSystem P s a b) = media P :=
  scaleSystem_keeps media media_setRadius media_setThickness (fun _ _ => rfl) P s a b

/-- a successful call leaves stop flags, media and wavelengths as they were, unless it is an addition, a
removal, a `set_index` or an `add_wavelength` -/
theorem step_frame {P P' : Presc ℝ} {op : Op ℝ} (h : step P op = .ok P') :
    (stops P' = stops P ∧ media P' = media P ∧ P'.waves = P.waves) ∨ (∃ a, op = .add a) ∨ (∃ i, op = .remove i) ∨
      (∃ v k, P' = setIndex P v k) ∨ ∃ v p, P' = addWave P v p := by
  cases op with
  | add a => exact .inr (.inl ⟨a, rfl⟩)
  | remove i => exact .inr (.inr (.inl ⟨i, rfl⟩))
  | setIndex v k => exact .inr (.inr (.inr (.inl ⟨v, k, guardIdx_ok h⟩)))
  | addWave v p => exact .inr (.inr (.inr (.inr ⟨v, p, (Except.ok.inj h).symm⟩)))
  | setRadius v k =>
    obtain rfl := guardIdx_ok h; exact .inl ⟨stops_setRadius P v k, media_setRadius P v k, rfl⟩
  | setConic v k =>
    obtain rfl := guardIdx_ok h; exact .inl ⟨stops_setConic P v k, media_setConic P v k, rfl⟩
  | setThickness v k =>
    obtain rfl := guardIdx_ok h; exact .inl ⟨stops_setThickness P v k, media_setThickness P v k, rfl⟩
  | setCoeff v k i =>
    obtain rfl := setCoeff_ok h; exact .inl ⟨stops_setCoeff P v k i, media_setCoeff P v k i, rfl⟩
  | setTiltX v k | setTiltY v k | setDecX v k | setDecY v k =>
    obtain rfl := guardIdx_ok h
    exact .inl ⟨map_modifyAt _ _ _ _ fun _ => rfl, map_modifyAt _ _ _ _ fun _ => rfl, rfl⟩
  | pickupAdd p =>
    obtain rfl := Except.ok.inj h
    exact .inl ⟨stops_applyPickup P p, media_applyPickup P p, applyPickup_waves P p⟩
  | solveAdd s =>
    obtain rfl := Except.ok.inj h; exact .inl ⟨stops_applySolve P s, media_applySolve P s, rfl⟩
  | update => obtain rfl := Except.ok.inj h; exact .inl ⟨stops_update P, media_update P, update_waves P⟩
  | imageSolve => obtain rfl := Except.ok.inj h; exact .inl ⟨stops_imageSolve P, media_imageSolve P, rfl⟩
  | scale s a b =>
    obtain rfl := Except.ok.inj h
    exact .inl ⟨stops_scaleSystem P s a b, media_scaleSystem P s a b, scaleSystem_waves P s a b⟩

/-- an invariant of every successful call is an invariant of every history: a call that raises leaves the
lens as it was -/
theorem runOps_inv (Inv : Presc ℝ → Prop) (hstep : ∀ P P' op, step P op = .ok P' → Inv P → Inv P')
    (ops : List (Op ℝ)) (P : Presc ℝ) (h : Inv P) : Inv (runOps P ops) := by
  induction ops generalizing P with
  | nil => exact h
  | cons op ops ih =>
    simp only [runOps, List.foldl_cons]
    cases hs : step P op with
    | error e => exact ih P h
    | ok P' => exact ih P' (hstep P P' op hs h)

/-- only `add_wavelength` touches the wavelength list -/
theorem step_waves (P P' : Presc ℝ) (op : Op ℝ) (h : step P op = .ok P') :
    P'.waves = P.waves ∨ ∃ v p, P' = addWave P v p := by
  rcases step_frame h with ⟨-, -, hw⟩ | ⟨a, rfl⟩ | ⟨i, rfl⟩ | ⟨v, k, rfl⟩ | hw
  · exact .inl hw
  · obtain ⟨b, s, m, rfl, -⟩ := addSurface_ok h; exact .inl rfl
  · obtain rfl := removeSurface_ok h; exact .inl rfl
  · exact .inl rfl
  · exact .inr hw

/-- **primary_exactly_one**: after any history of public calls, as soon as there is a wavelength
exactly one is primary -/
theorem primary_exactly_one (ops : List (Op ℝ)) (P : Presc ℝ)
    (h : P.waves = [] ∨ countPrimary P.waves = 1) :
    (runOps P ops).waves = [] ∨ countPrimary (runOps P ops).waves = 1 := by
  refine runOps_inv (fun P => P.waves = [] ∨ countPrimary P.waves = 1) (fun P P' op hs h => ?_) ops P h
  rcases step_waves P P' op hs with hw | ⟨v, p, rfl⟩
  · rw [hw]; exact h
  · exact .inr (addWave_primary P v p h)

theorem step_stop (P P' : Presc ℝ) (op : Op ℝ) (h : step P op = .ok P') (h1 : countStop P.surfs ≤ 1) :
    countStop P'.surfs ≤ 1 := by
  rcases step_frame h with ⟨hs, -, -⟩ | ⟨a, rfl⟩ | ⟨i, rfl⟩ | ⟨v, k, rfl⟩ | ⟨v, p, rfl⟩
  · rw [countStop_of_map_eq _ _ hs]; exact h1
  · exact addSurface_stop P P' a h h1
  · obtain rfl := removeSurface_ok h; exact (countStop_eraseIdx _ _).trans h1
  · rw [countStop_of_map_eq _ _ (stops_setIndex P v k)]; exact h1
  · exact h1

/-- **stop_at_most_one**: after any history of public calls (additions anywhere, removals, edits,
pickups, solves, scaling) at most one surface is the aperture stop -/
theorem stop_at_most_one (ops : List (Op ℝ)) (P : Presc ℝ) (h : countStop P.surfs ≤ 1) :
    countStop (runOps P ops).surfs ≤ 1 :=
  runOps_inv (fun P => countStop P.surfs ≤ 1) step_stop ops P h

/-- `SurfaceGroup.radii[k]`, `conic[k]` … as partial reads -/
def radiusAt (P : Presc ℝ) (k : Nat) : Option ℝ := P.surfs[k]?.map (·.radius)
def conicAt (P : Presc ℝ) (k : Nat) : Option ℝ := P.surfs[k]?.map (·.conic)

/-- **set_radius**: reads back, changes no other radius, no vertex, no medium, no stop flag -/
theorem setRadius_readback_frame (P : Presc ℝ) (v : ℝ) (k : Nat) (hk : k < P.surfs.length) :
    radiusAt (setRadius P v k) k = some v ∧
    (∀ j, j ≠ k → radiusAt (setRadius P v k) j = radiusAt P j) ∧
    positions (setRadius P v k) = positions P ∧
    (setRadius P v k).surfs.map (·.mPre) = P.surfs.map (·.mPre) ∧
    (setRadius P v k).surfs.map (·.mPost) = P.surfs.map (·.mPost) ∧
    (setRadius P v k).surfs.map (·.stop) = P.surfs.map (·.stop) ∧
    (setRadius P v k).mats = P.mats := by
  refine ⟨?_, fun j hj => ?_, ?_, ?_, ?_, ?_, rfl⟩
  · show ((modifyAt P.surfs k _)[k]?).map _ = _
    rw [modifyAt_getElem?, if_pos rfl, List.getElem?_eq_getElem hk]
    exact congrArg some (by dsimp only; cases P.surfs[k].gk <;> rfl)
  · show ((modifyAt P.surfs k _)[j]?).map _ = _
    rw [modifyAt_getElem?, if_neg hj]
    rfl
  all_goals exact map_modifyAt _ _ _ _ fun x => by cases x.gk <;> rfl

/-- **set_conic**: reads back and changes nothing else -/
theorem setConic_readback_frame (P : Presc ℝ) (v : ℝ) (k : Nat) (hk : k < P.surfs.length) :
    conicAt (setConic P v k) k = some v ∧
    (∀ j, j ≠ k → conicAt (setConic P v k) j = conicAt P j) ∧
    positions (setConic P v k) = positions P ∧
    (setConic P v k).surfs.map (·.radius) = P.surfs.map (·.radius) ∧
    (setConic P v k).surfs.map (·.mPost) = P.surfs.map (·.mPost) := by
  refine ⟨?_, fun j hj => ?_, ?_, ?_, ?_⟩
  · show ((modifyAt P.surfs k _)[k]?).map _ = _
    rw [modifyAt_getElem?, if_pos rfl, List.getElem?_eq_getElem hk]
    rfl
  · show ((modifyAt P.surfs k _)[j]?).map _ = _
    rw [modifyAt_getElem?, if_neg hj]
    rfl
  all_goals exact map_modifyAt _ _ _ _ fun _ => rfl

def thick (pos : List ℝ) (j : Nat) : ℝ := pos.getD (j+1) 0 - pos.getD j 0

theorem getD_setThicknessPos (pos : List ℝ) (v : ℝ) (k i : Nat) (hi : i < pos.length) (h1 : 1 < pos.length) :
    (setThicknessPos pos v k).getD i 0 =
      (if k + 1 ≤ i then pos.getD i 0 + (v - pos.getD (k+1) 0 + pos.getD k 0) else pos.getD i 0)
      - (if k + 1 ≤ 1 then pos.getD 1 0 + (v - pos.getD (k+1) 0 + pos.getD k 0) else pos.getD 1 0) := by
  rw [OptimProofs.getD_setThicknessPos _ _ _ _ hi, OptimProofs.getD_bump _ _ _ _ hi, OptimProofs.getD_bump _ _ _ _ h1]

/-- thickness `k` reads back `v`; every other thickness is unchanged, i.e. all later vertices move rigidly -/
theorem setThickness_thick (pos : List ℝ) (v : ℝ) (k j : Nat) (hk : k + 1 < pos.length)
    (hj : j + 1 < pos.length) :
    thick (setThicknessPos pos v k) j = if j = k then v else thick pos j :=
  OptimProofs.thick_setThicknessPos pos v k j hj

/-- the first surface is re-zeroed -/
theorem setThickness_first (pos : List ℝ) (v : ℝ) (k : Nat) (h1 : 1 < pos.length) :
    (setThicknessPos pos v k).getD 1 0 = 0 :=
  OptimProofs.getD_one_setThicknessPos pos v k

/-- `set_thickness` touches nothing but the vertex positions -/
theorem setThickness_frame (P : Presc ℝ) (v : ℝ) (k : Nat) :
    (setThickness P v k).surfs.map (·.radius) = P.surfs.map (·.radius) ∧
    (setThickness P v k).surfs.map (·.conic) = P.surfs.map (·.conic) ∧
    (setThickness P v k).surfs.map (·.mPre) = P.surfs.map (·.mPre) ∧
    (setThickness P v k).surfs.map (·.mPost) = P.surfs.map (·.mPost) ∧
    (setThickness P v k).surfs.map (·.stop) = P.surfs.map (·.stop) ∧
    (setThickness P v k).mats = P.mats := by
  refine ⟨?_, ?_, ?_, ?_, ?_, rfl⟩ <;> exact map_mapIdx _ _ _ fun _ _ => rfl

theorem setThicknessPos_length (pos : List ℝ) (v : ℝ) (k : Nat) : (setThicknessPos pos v k).length = pos.length :=
  OptimProofs.length_setThicknessPos pos v k

theorem positions_setThickness (P : Presc ℝ) (v : ℝ) (k : Nat) :
    positions (setThickness P v k) = setThicknessPos (positions P) v k :=
  OptimProofs.positions_setThickness P v k

/-- **set_thickness (read-back and frame, on the lens)**: afterwards thickness `k` is `v`, every other
thickness is what it was (all later vertices moved rigidly) and the first surface is at `z = 0` -/
theorem setThickness_readback_frame (P : Presc ℝ) (v : ℝ) (k : Nat) (hk : k + 1 < P.surfs.length) :
    thickness (setThickness P v k) k = v ∧
    (∀ j, j ≠ k → j + 1 < P.surfs.length → thickness (setThickness P v k) j = thickness P j) ∧
    posAt (setThickness P v k) 1 = 0 := by
  refine ⟨?_, fun j hj hj2 => ?_, ?_⟩
  · rw [OptimProofs.thickness_setThickness P v k k hk, if_pos rfl]
  · rw [OptimProofs.thickness_setThickness P v k j hj2, if_neg hj]
  · unfold posAt
    rw [positions_setThickness]
    exact setThickness_first _ _ _ (by rw [positions, List.length_map]; omega)

/-- the medium in front of each surface is (the same object as) the medium behind its predecessor -/
def Chain (l : List (SRec ℝ)) : Prop :=
  ∀ j a b, l[j]? = some a → l[j+1]? = some b → b.mPre = a.mPost

theorem chain_of_maps (l l' : List (SRec ℝ)) (h1 : l'.map (·.mPre) = l.map (·.mPre))
    (h2 : l'.map (·.mPost) = l.map (·.mPost)) (hc : Chain l) : Chain l' := by
  intro j a' b' ha hb
  have e1 := congrArg (fun m => m[j+1]?) h1
  have e2 := congrArg (fun m => m[j]?) h2
  simp only [List.getElem?_map, ha, hb, Option.map_some] at e1 e2
  obtain ⟨b, hb0, eb⟩ := Option.map_eq_some_iff.mp e1.symm
  obtain ⟨a, ha0, ea⟩ := Option.map_eq_some_iff.mp e2.symm
  rw [← eb, ← ea]
  exact hc j a b ha0 hb0

theorem chain_append (l : List (SRec ℝ)) (s : SRec ℝ) (hc : Chain l)
    (hs : ∀ a, l[l.length - 1]? = some a → l ≠ [] → s.mPre = a.mPost) : Chain (l ++ [s]) := by
  intro j a b ha hb
  rcases Nat.lt_trichotomy (j + 1) l.length with hj | hj | hj
  · rw [List.getElem?_append_left (by omega)] at ha
    rw [List.getElem?_append_left hj] at hb
    exact hc j a b ha hb
  · rw [List.getElem?_append_left (by omega)] at ha
    rw [List.getElem?_append_right hj.ge, hj, Nat.sub_self] at hb
    obtain rfl : s = b := Option.some.inj hb
    refine hs a ?_ (by rintro rfl; cases hj)
    rwa [← hj, Nat.add_sub_cancel]
  · rw [List.getElem?_eq_none (by rw [List.length_append, List.length_singleton]; omega)] at hb
    cases hb

theorem setIndex_getElem? (P : Presc ℝ) (v : ℝ) (k j : Nat) :
    (setIndex P v k).surfs[j]? = (P.surfs[j]?).map (fun s =>
      if j = k then { s with mPost := P.mats.length }
      else if j = k + 1 then { s with mPre := P.mats.length } else s) := by
  show (modifyAt (modifyAt P.surfs k _) (k + 1) _)[j]? = _
  rw [modifyAt_getElem?, modifyAt_getElem?]
  by_cases h2 : j = k
  · subst h2
    simp only [Nat.ne_of_lt (Nat.lt_succ_self j), ↓reduceIte]
  · simp only [h2, if_false]
    split
    · rfl
    · cases P.surfs[j]? <;> rfl

/-- **set_index keeps the chain**: the new medium is written behind surface `k` and in front of
surface `k+1` -/
theorem setIndex_chain (P : Presc ℝ) (v : ℝ) (k : Nat) (hc : Chain P.surfs) : Chain (setIndex P v k).surfs := by
  intro j a b ha hb
  rw [setIndex_getElem?] at ha hb
  obtain ⟨a0, h0, rfl⟩ := Option.map_eq_some_iff.mp ha
  obtain ⟨b0, h1, rfl⟩ := Option.map_eq_some_iff.mp hb
  have hab := hc j a0 b0 h0 h1
  -- the pair `(k, k+1)` gets the new medium on both sides; every other pair keeps both of its media
  by_cases c : j = k
  · subst c
    simp only [Nat.ne_of_gt (Nat.lt_succ_self j), ↓reduceIte]
  · have c2 : ¬ j + 1 = k + 1 := by omega
    simp only [c, c2, if_false]
    split_ifs <;> exact hab

/-- **pickup (radius)**: immediately after a radius pickup is applied its target satisfies
`target = scale·source + offset` (source ≠ target, both in range) -/
theorem applyPickup_radius (P : Presc ℝ) (p : Pickup ℝ) (ha : p.attr = .radius) (hne : p.src ≠ p.tgt)
    (hs : p.src < P.surfs.length) (ht : p.tgt < P.surfs.length) :
    ∃ rs, radiusAt P p.src = some rs ∧ radiusAt (applyPickup P p) p.src = some rs ∧
      radiusAt (applyPickup P p) p.tgt = some (p.scale * rs + p.offset) := by
  have e : radiusAt P p.src = some (P.surfs[p.src]).radius := by rw [radiusAt, List.getElem?_eq_getElem hs]; rfl
  have hrb := fun v => setRadius_readback_frame P v p.tgt ht
  simp only [applyPickup, ha]
  refine ⟨_, e, ((hrb _).2.1 p.src hne).trans e, (hrb _).1.trans ?_⟩
  rw [List.getD_eq_getElem?_getD, List.getElem?_map, List.getElem?_eq_getElem hs]
  rfl

/-- **pickup (conic)** -/
theorem applyPickup_conic (P : Presc ℝ) (p : Pickup ℝ) (ha : p.attr = .conic) (hne : p.src ≠ p.tgt)
    (hs : p.src < P.surfs.length) (ht : p.tgt < P.surfs.length) :
    ∃ cs, conicAt P p.src = some cs ∧ conicAt (applyPickup P p) p.src = some cs ∧
      conicAt (applyPickup P p) p.tgt = some (p.scale * cs + p.offset) := by
  have e : conicAt P p.src = some (P.surfs[p.src]).conic := by rw [conicAt, List.getElem?_eq_getElem hs]; rfl
  have hrb := fun v => setConic_readback_frame P v p.tgt ht
  simp only [applyPickup, ha]
  refine ⟨_, e, ((hrb _).2.1 p.src hne).trans e, (hrb _).1.trans ?_⟩
  rw [List.getD_eq_getElem?_getD, List.getElem?_map, List.getElem?_eq_getElem hs]
  rfl

/-- **pickup (thickness)**: afterwards the target thickness is `scale × source thickness + offset`, the
source thickness being unchanged by the application (source ≠ target) -/
theorem applyPickup_thickness (P : Presc ℝ) (p : Pickup ℝ) (ha : p.attr = .thickness) (hne : p.src ≠ p.tgt)
    (hs : p.src + 1 < P.surfs.length) (ht : p.tgt + 1 < P.surfs.length) :
    thickness (applyPickup P p) p.src = thickness P p.src ∧
    thickness (applyPickup P p) p.tgt = p.scale * thickness P p.src + p.offset := by
  simp only [applyPickup, ha]
  obtain ⟨h1, h2, -⟩ := setThickness_readback_frame P (p.scale * thickness P p.src + p.offset) p.tgt ht
  exact ⟨h2 p.src hne hs, h1⟩

def newMats (P : Presc ℝ) (a : AddArgs ℝ) : List ℝ :=
  match a.material with
  | .air => P.mats ++ [1]
  | .ideal n => P.mats ++ [n]
  | .mirror => P.mats

/-- identifier of the medium in front of a surface appended at the end -/
def prevPost (P : Presc ℝ) : Nat := (P.surfs.map (·.mPost)).getD (P.surfs.length - 1) 0

def newPost (P : Presc ℝ) (a : AddArgs ℝ) : Nat :=
  match a.material with
  | .mirror => if a.index = 0 then 0 else prevPost P
  | _ => P.mats.length

def newGk (a : AddArgs ℝ) : GKind :=
  match a.gk with
  | .standard => if a.radiusInf then .plane else .standard
  | g => g

noncomputable def newSurf (P : Presc ℝ) (a : AddArgs ℝ) : SRec ℝ :=
  { kind := if a.index = 0 then .object else .standard, gk := newGk a,
    z := newZ P a.index a.thickness, dx := a.dx, dy := a.dy, rx := a.rx, ry := a.ry, radius := a.radius,
    conic := (match newGk a with | .plane => 0 | _ => a.conic), coeffs := a.coeffs,
    mPre := if a.index = 0 then newPost P a else prevPost P, mPost := newPost P a,
    stop := if a.index = 0 then false else a.stop,
    refl := match a.material with | .mirror => true | _ => false }

/-- **add_succeeds / placement / media (one call)**: `add_surface(index = number of surfaces so far)` with
*any* other arguments succeeds (neither `ValueError` nor `IndexError`); the result is the old list (stop
flags cleared when the new surface is the stop) with `newSurf` appended: vertex `newZ` (`−thickness` for the
object surface, `0` for surface 1, previous vertex + previous thickness afterwards), front medium = the very
medium object behind the previous surface (`prevPost`), back medium a fresh table entry carrying the index
given (`1` for air; a mirror re-uses the front medium); `last_thickness` := the thickness given. -/
theorem addSurface_end_eq (P : Presc ℝ) (a : AddArgs ℝ) (h : a.index = P.surfs.length) :
    addSurface P a = .ok { P with surfs := clearStops P.surfs (newSurf P a).stop ++ [newSurf P a],
                                  mats := newMats P a, lastThickness := a.thickness } := by
  have hlen : ¬ (P.surfs.length < a.index) := by omega
  have htd' : ∀ (l : List (SRec ℝ)) (s : SRec ℝ), l.length = a.index → l.take a.index ++ [s] ++ l.drop a.index = l ++ [s] := by
    intro l s hl
    rw [← hl, List.take_length, List.drop_length, List.append_nil]
  have hd : (if a.index = 0 then some 0 else if a.index = 0 then none
      else (P.surfs.map (·.mPost))[a.index - 1]?) = some (if a.index = 0 then 0 else prevPost P) := by
    split
    · rfl
    · rw [h, prevPost, List.getD_eq_getElem?_getD, List.getElem?_eq_getElem (by rw [List.length_map]; omega)]
      rfl
  unfold addSurface
  rw [if_neg hlen]
  dsimp only
  rw [hd]
  dsimp only
  rw [htd' _ _ (by exact (clearStops_length P.surfs _).trans h.symm)]
  unfold newSurf newMats newPost newGk clearStops
  have hii : ∀ x : Nat, (if a.index = 0 then x else if a.index = 0 then 0 else prevPost P) =
      if a.index = 0 then x else prevPost P := fun x => by split_ifs <;> rfl
  rw [hii]
  cases a.material <;> rfl

theorem getD_append_lt (ts : List ℝ) (t : ℝ) (k : Nat) (hk : k < ts.length) :
    (ts ++ [t]).getD k 0 = ts.getD k 0 := by
  rw [List.getD_eq_getElem?_getD, List.getD_eq_getElem?_getD, List.getElem?_append_left hk]

theorem getD_snoc_len (l : List ℝ) (x : ℝ) : (l ++ [x]).getD l.length 0 = x := by
  rw [List.getD_eq_getElem?_getD, List.getElem?_append_right le_rfl, Nat.sub_self]; rfl

/-- the back medium of the appended surface carries the index given; older table entries are kept -/
theorem addSurface_end_index (P : Presc ℝ) (a : AddArgs ℝ) :
    (a.material = .air → (newMats P a).getD (newPost P a) 0 = 1) ∧
    (∀ n, a.material = .ideal n → (newMats P a).getD (newPost P a) 0 = n) ∧
    (∀ id, id < P.mats.length → (newMats P a).getD id 0 = P.mats.getD id 0) := by
  refine ⟨fun h => ?_, fun n h => ?_, fun id hid => ?_⟩
  · rw [newMats, newPost, h]; exact getD_snoc_len P.mats 1
  · rw [newMats, newPost, h]; exact getD_snoc_len P.mats n
  · unfold newMats
    cases a.material
    · exact getD_append_lt _ _ _ hid
    · rfl
    · exact getD_append_lt _ _ _ hid

theorem positions_addSurface_end (P : Presc ℝ) (a : AddArgs ℝ) :
    (clearStops P.surfs (newSurf P a).stop ++ [newSurf P a]).map (·.z)
      = positions P ++ [newZ P a.index a.thickness] := by
  rw [List.map_append, clearStops_map _ _ _ (fun _ => rfl)]; rfl

/-- add the surfaces one after the other through the public call; `none` as soon as one call raises -/
noncomputable def buildFrom (P : Presc ℝ) : List (AddArgs ℝ) → Option (Presc ℝ)
  | [] => some P
  | a :: as => match step P (.add a) with
    | .ok P' => buildFrom P' as
    | .error _ => none

theorem buildFrom_snoc (P : Presc ℝ) (as : List (AddArgs ℝ)) (a : AddArgs ℝ) :
    buildFrom P (as ++ [a]) = (buildFrom P as).bind fun Q => buildFrom Q [a] := by
  induction as generalizing P with
  | nil => simp [buildFrom]
  | cons b bs ih =>
    simp only [List.cons_append, buildFrom]
    cases step P (.add b) with
    | ok P' => exact ih P'
    | error e => rfl

/-- the specification of the vertex positions: `z₀ = −t₀` (object surface), `z₁ = 0`,
`z_{k+2} = z_{k+1} + t_{k+1}` — the running sum of the thicknesses given for the surfaces before -/
noncomputable def vertexSpec (ts : List ℝ) : Nat → ℝ
  | 0 => -(ts.getD 0 0)
  | 1 => 0
  | k + 2 => vertexSpec ts (k + 1) + ts.getD (k + 1) 0

theorem vertexSpec_sum (ts : List ℝ) (k : Nat) :
    vertexSpec ts (k + 1) = ((List.range k).map fun j => ts.getD (j + 1) 0).sum := by
  induction k with
  | zero => rfl
  | succ k ih =>
    rw [vertexSpec, ih, List.range_succ, List.map_append, List.sum_append, List.map_singleton, List.sum_singleton]

theorem vertexSpec_snoc (ts : List ℝ) (t : ℝ) (k : Nat) (hk : k < ts.length) :
    vertexSpec (ts ++ [t]) k = vertexSpec ts k := by
  induction k with
  | zero => simp only [vertexSpec]; rw [getD_append_lt ts t 0 hk]
  | succ k ih =>
    cases k with
    | zero => rfl
    | succ j =>
      simp only [vertexSpec]
      rw [ih (by omega), getD_append_lt ts t (j + 1) (by omega)]

theorem posAt_eq (P : Presc ℝ) (k : Nat) : posAt P k = (positions P).getD k 0 := rfl

theorem chain_addSurface_end (P : Presc ℝ) (a : AddArgs ℝ) (h : a.index = P.surfs.length) (hc : Chain P.surfs) :
    Chain (clearStops P.surfs (newSurf P a).stop ++ [newSurf P a]) := by
  have hc' : Chain (clearStops P.surfs (newSurf P a).stop) :=
    chain_of_maps _ _ (clearStops_map _ _ _ fun _ => rfl) (clearStops_map _ _ _ fun _ => rfl) hc
  apply chain_append _ _ hc'
  intro p hp hne
  have hne' : P.surfs ≠ [] := by
    intro e; apply hne; simp [clearStops, e]
  have h0 : a.index ≠ 0 := by
    rw [h]; intro e; exact hne' (List.eq_nil_of_length_eq_zero e)
  have e1 := congrArg (fun m => m[P.surfs.length - 1]?)
    (clearStops_map P.surfs (newSurf P a).stop (·.mPost) fun _ => rfl)
  simp only [List.getElem?_map] at e1
  rw [clearStops_length] at hp
  rw [hp] at e1
  simp only [newSurf, h0, if_false, prevPost, List.getD_eq_getElem?_getD, List.getElem?_map]
  rw [← e1]; rfl

/-- a surface appended to a lens whose vertices follow `vertexSpec ts`, and whose noted thickness is the last
of `ts`, gets the next vertex of `vertexSpec` -/
theorem newZ_vertexSpec (P : Presc ℝ) (ts : List ℝ) (t : ℝ)
    (hpos : ∀ k, k < ts.length → posAt P k = vertexSpec ts k)
    (hlast : ∀ h : ts ≠ [], P.lastThickness = ts.getLast h) :
    newZ P ts.length t = vertexSpec (ts ++ [t]) ts.length := by
  rcases ts with _ | ⟨t0, _ | ⟨t1, ts⟩⟩
  · rfl
  · rfl
  · show posAt P (ts.length + 1) + P.lastThickness = vertexSpec _ (ts.length + 1) + _
    rw [hpos (ts.length + 1) (Nat.lt_succ_self _), hlast (List.cons_ne_nil _ _), vertexSpec_snoc _ _ _ (Nat.lt_succ_self _),
      getD_append_lt _ _ _ (Nat.lt_succ_self _), List.getLast_eq_getElem, List.getD_eq_getElem?_getD,
      List.getElem?_eq_getElem (Nat.lt_succ_self _)]
    rfl

/-- **build_in_order** (the first sentence of C01): a lens built from the empty state by calling
`add_surface` with indices `0, 1, 2, …` and *any* other arguments: every call succeeds; surface `k` has its
vertex at `vertexSpec` (object at `−t₀`, surface 1 at `0`, afterwards the running sum of the thicknesses
given for the surfaces before it); the medium in front of every surface is the medium object behind its
predecessor; at most one surface is the stop. -/
theorem build_in_order (as : List (AddArgs ℝ)) (P0 : Presc ℝ) (h0 : P0.surfs = [])
    (hidx : ∀ i (h : i < as.length), as[i].index = i) :
    ∃ P, buildFrom P0 as = some P ∧ P.surfs.length = as.length ∧
      (∀ k, k < as.length → posAt P k = vertexSpec (as.map (·.thickness)) k) ∧
      (∀ h : as ≠ [], P.lastThickness = (as.getLast h).thickness) ∧
      Chain P.surfs ∧ countStop P.surfs ≤ 1 := by
  induction as using List.reverseRecOn with
  | nil =>
    refine ⟨P0, rfl, by rw [h0]; rfl, fun k hk => absurd hk (Nat.not_lt_zero k), fun h => absurd rfl h, ?_, ?_⟩
    · rw [h0]; intro j a b ha; cases ha
    · rw [h0]; exact Nat.zero_le 1
  | append_singleton as a ih =>
    have hidx' : ∀ i (h : i < as.length), as[i].index = i := fun i hi => by
      have := hidx i (by rw [List.length_append]; exact Nat.lt_add_right 1 hi)
      rwa [List.getElem_append_left hi] at this
    obtain ⟨P, hb, hlen, hpos, hlast, hch, hst⟩ := ih hidx'
    have ha : a.index = P.surfs.length := by
      have := hidx as.length (by rw [List.length_append]; exact Nat.lt_succ_self _)
      rwa [List.getElem_concat_length rfl, ← hlen] at this
    have hadd := addSurface_end_eq P a ha
    have hts : (as.map (·.thickness)).length = as.length := List.length_map _
    refine ⟨_, ?_, ?_, fun k hk => ?_, fun _ => ?_, chain_addSurface_end P a ha hch, addSurface_stop P _ a hadd hst⟩
    · rw [buildFrom_snoc, hb]
      show (match step P (.add a) with | .ok P' => some P' | .error _ => none) = _
      rw [show step P (.add a) = _ from hadd]
    · show (clearStops P.surfs _ ++ [newSurf P a]).length = (as ++ [a]).length
      rw [List.length_append, List.length_append, clearStops_length, hlen]
      rfl
    · show ((clearStops P.surfs _ ++ [newSurf P a]).map (·.z)).getD k 0 = _
      rw [positions_addSurface_end, List.map_append, List.map_cons, List.map_nil]
      have hpl : (positions P).length = as.length := (List.length_map _).trans hlen
      rw [List.length_append] at hk
      rcases Nat.lt_succ_iff_lt_or_eq.mp hk with hk' | rfl
      · rw [getD_append_lt _ _ _ (hpl ▸ hk'), vertexSpec_snoc _ _ _ (hts ▸ hk')]
        exact hpos k hk'
      · have hz := newZ_vertexSpec P (as.map (·.thickness)) a.thickness (fun k hk => hpos k (hts ▸ hk))
          (fun h => by rw [List.getLast_map]; exact hlast (fun e => h (by rw [e]; rfl)))
        rw [hts] at hz
        rw [← hz, ha, hlen, ← hpl]
        exact getD_snoc_len _ _
    · rw [List.getLast_append_singleton]
/-- non-vacuity of `build_in_order`: finite object at 100, a 5 mm lens (stop on its front surface), image
100 behind it, built in index order: every call succeeds and the vertices are `−100, 0, 5, 105`. -/
example : ∃ P : Presc ℝ,
    buildFrom { lastThickness := 0, apValue := 10, maxYField := 1 }
      [⟨0, .standard, true, 0, 0, 100, .air, false, 0, 0, 0, 0, []⟩,
       ⟨1, .standard, false, 50, 0, 5, .ideal (3/2), true, 0, 0, 0, 0, []⟩,
       ⟨2, .standard, false, -50, 0, 100, .air, false, 0, 0, 0, 0, []⟩,
       ⟨3, .standard, true, 0, 0, 0, .air, false, 0, 0, 0, 0, []⟩] = some P ∧
    posAt P 0 = -100 ∧ posAt P 1 = 0 ∧ posAt P 2 = 5 ∧ posAt P 3 = 105 ∧ Chain P.surfs := by
  refine (build_in_order _ _ rfl (by decide)).imp fun P ⟨hb, _, hpos, _, hc, _⟩ => ⟨hb, ?_, ?_, ?_, ?_, hc⟩
  · rw [hpos 0 (by decide)]; rfl
  · rw [hpos 1 (by decide)]; rfl
  · rw [hpos 2 (by decide)]; exact zero_add 5
  · rw [hpos 3 (by decide)]; show (0:ℝ) + 5 + 100 = 105; norm_num

/-- **set_index (read-back and frame)**: the index behind surface `k` reads back `v`; no entry of the medium
table is overwritten (so every other medium keeps its index); only `material_post` of surface `k` and
`material_pre` of surface `k+1` are re-pointed; vertices, radii, conics, stop flags untouched. -/
theorem setIndex_readback_frame (P : Presc ℝ) (v : ℝ) (k : Nat) (hk : k < P.surfs.length) :
    (∃ s, (setIndex P v k).surfs[k]? = some s ∧ matN (setIndex P v k) s.mPost = v) ∧
    (∀ id, id < P.mats.length → matN (setIndex P v k) id = matN P id) ∧
    (∀ j, j ≠ k → (setIndex P v k).surfs[j]?.map (·.mPost) = P.surfs[j]?.map (·.mPost)) ∧
    (∀ j, j ≠ k + 1 → (setIndex P v k).surfs[j]?.map (·.mPre) = P.surfs[j]?.map (·.mPre)) ∧
    positions (setIndex P v k) = positions P ∧
    (setIndex P v k).surfs.map (·.radius) = P.surfs.map (·.radius) ∧
    (setIndex P v k).surfs.map (·.conic) = P.surfs.map (·.conic) ∧
    stops (setIndex P v k) = stops P := by
  have hm : ∀ {γ : Type} (g : SRec ℝ → γ), (∀ (x : SRec ℝ) (a : Nat), g { x with mPost := a } = g x) →
      (∀ (x : SRec ℝ) (a : Nat), g { x with mPre := a } = g x) →
      (setIndex P v k).surfs.map g = P.surfs.map g := fun g h1 h2 =>
    Eq.trans (map_modifyAt _ _ _ g fun x => h2 x _) (map_modifyAt _ _ _ g fun x => h1 x _)
  refine ⟨?_, fun id hid => getD_append_lt _ _ _ hid, fun j hj => ?_, fun j hj => ?_,
    hm _ (fun _ _ => rfl) (fun _ _ => rfl), hm _ (fun _ _ => rfl) (fun _ _ => rfl),
    hm _ (fun _ _ => rfl) (fun _ _ => rfl), stops_setIndex P v k⟩
  · rw [setIndex_getElem?, List.getElem?_eq_getElem hk]
    refine ⟨_, rfl, ?_⟩
    dsimp only
    rw [if_pos rfl]
    exact getD_snoc_len P.mats v
  all_goals
    rw [setIndex_getElem?]
    cases P.surfs[j]? with
    | none => rfl
    | some s => simp only [Option.map_some, hj, if_false]; split <;> rfl

theorem chain_of_media (P P' : Presc ℝ) (h : media P' = media P) (hc : Chain P.surfs) : Chain P'.surfs := by
  apply chain_of_maps P.surfs P'.surfs _ _ hc
  · have := congrArg (List.map Prod.fst) h
    simpa [media, List.map_map, Function.comp_def] using this
  · have := congrArg (List.map Prod.snd) h
    simpa [media, List.map_map, Function.comp_def] using this


/-- the calls of the property's quantifier: additions at the end (index order), no removal -/
def InOrderOp (P : Presc ℝ) : Op ℝ → Prop
  | .add a => a.index = P.surfs.length
  | .remove _ => False
  | _ => True


theorem step_chain (P P' : Presc ℝ) (op : Op ℝ) (h : step P op = .ok P') (hop : InOrderOp P op)
    (hc : Chain P.surfs) : Chain P'.surfs := by
  rcases step_frame h with ⟨-, hm, -⟩ | ⟨a, rfl⟩ | ⟨i, rfl⟩ | ⟨v, k, rfl⟩ | ⟨v, p, rfl⟩
  · exact chain_of_media P P' hm hc
  · have ha : a.index = P.surfs.length := hop
    obtain rfl := Except.ok.inj ((addSurface_end_eq P a ha).symm.trans h)
    exact chain_addSurface_end P a ha hc
  · exact hop.elim
  · exact setIndex_chain P v k hc
  · exact hc

/-- every call of the history is an in-order call in the state it meets -/
def InOrderHistory : Presc ℝ → List (Op ℝ) → Prop
  | _, [] => True
  | P, op :: ops => InOrderOp P op ∧
      match step P op with
      | .ok P' => InOrderHistory P' ops
      | .error _ => InOrderHistory P ops

/-- **media_chain_after_any_history**: after any sequence of public calls in which surfaces are only
appended (index order) and never removed — additions, every setter any number of times in any order,
pickups, solves, `update`, `image_solve`, scaling, wavelengths — the medium in front of every surface is
still the very medium object behind its predecessor. -/
theorem media_chain_after_any_history (ops : List (Op ℝ)) (P : Presc ℝ) (hc : Chain P.surfs)
    (hops : InOrderHistory P ops) : Chain (runOps P ops).surfs := by
  induction ops generalizing P with
  | nil => exact hc
  | cons op ops ih =>
    simp only [runOps, List.foldl_cons]
    obtain ⟨h1, h2⟩ := hops
    cases hs : step P op with
    | error e => rw [hs] at h2; exact ih P hc h2
    | ok P' => rw [hs] at h2; exact ih P' (step_chain P P' op hs h1 hc) h2

/-- **tilt / decentre / aspheric coefficient (read-back and frame)**: each of these calls with a valid
index succeeds, writes exactly the addressed field of surface `k` and leaves every other surface as it
was -/
theorem step_field_setters (P : Presc ℝ) (v : ℝ) (k : Nat) (hk : k < P.surfs.length) :
    (∃ P', step P (.setTiltX v k) = .ok P' ∧ P'.surfs[k]? = P.surfs[k]?.map (fun s => { s with rx := v }) ∧
      ∀ j, j ≠ k → P'.surfs[j]? = P.surfs[j]?) ∧
    (∃ P', step P (.setTiltY v k) = .ok P' ∧ P'.surfs[k]? = P.surfs[k]?.map (fun s => { s with ry := v }) ∧
      ∀ j, j ≠ k → P'.surfs[j]? = P.surfs[j]?) ∧
    (∃ P', step P (.setDecX v k) = .ok P' ∧ P'.surfs[k]? = P.surfs[k]?.map (fun s => { s with dx := v }) ∧
      ∀ j, j ≠ k → P'.surfs[j]? = P.surfs[j]?) ∧
    (∃ P', step P (.setDecY v k) = .ok P' ∧ P'.surfs[k]? = P.surfs[k]?.map (fun s => { s with dy := v }) ∧
      ∀ j, j ≠ k → P'.surfs[j]? = P.surfs[j]?) := by
  have hok : ∀ r : Presc ℝ, guardIdx P k r = .ok r := fun r => if_pos (decide_eq_true hk)
  have hm : ∀ f : SRec ℝ → SRec ℝ, (modifyAt P.surfs k f)[k]? = P.surfs[k]?.map f ∧
      ∀ j, j ≠ k → (modifyAt P.surfs k f)[j]? = P.surfs[j]? := fun f =>
    ⟨by rw [modifyAt_getElem?, if_pos rfl], fun j hj => by rw [modifyAt_getElem?, if_neg hj]⟩
  exact ⟨⟨_, hok _, hm _⟩, ⟨_, hok _, hm _⟩, ⟨_, hok _, hm _⟩, ⟨_, hok _, hm _⟩⟩

/-- `set_asphere_coeff` on an even asphere: coefficient `i` reads back `v`, the other coefficients and all
other surfaces are untouched -/
theorem step_setCoeff (P : Presc ℝ) (v : ℝ) (k i : Nat) (s : SRec ℝ) (hs : P.surfs[k]? = some s)
    (hg : s.gk = .evenAsphere) (hi : i < s.coeffs.length) :
    ∃ P', step P (.setCoeff v k i) = .ok P' ∧
      P'.surfs[k]? = some { s with coeffs := modifyAt s.coeffs i fun _ => v } ∧
      (modifyAt s.coeffs i fun _ => v)[i]? = some v ∧
      (∀ m, m ≠ i → (modifyAt s.coeffs i fun _ => v)[m]? = s.coeffs[m]?) ∧
      ∀ j, j ≠ k → P'.surfs[j]? = P.surfs[j]? := by
  refine ⟨setCoeff P v k i, ?_, ?_, ?_, fun m hm => ?_, fun j hj => ?_⟩
  · simp only [step, hs, hg, hi, and_self, if_true]
  · show (modifyAt P.surfs k _)[k]? = _
    rw [modifyAt_getElem?, if_pos rfl, hs]; rfl
  · rw [modifyAt_getElem?, if_pos rfl, List.getElem?_eq_getElem hi]; rfl
  · rw [modifyAt_getElem?, if_neg hm]
  · show (modifyAt P.surfs k _)[j]? = _
    rw [modifyAt_getElem?, if_neg hj]

/-- **solve (step algebra)** — one `pstepStd`, not yet the lens; the clause on the lens is
`solve_places_marginal_ray` below.  Moving a surface axially by `d` changes the paraxial height with which
a ray of slope `u` arrives by `d·u`; choosing `d = (h − y)/u` (what the solve computes from the
arriving slope) puts the ray at height `h`. -/
theorem solve_places_ray_step (r : PRay ℝ) (s : PSurf ℝ) (h : ℝ) (hdy : s.dy = 0) (hu : r.u ≠ 0) :
    let y := (pstepStd r s).y
    let d := (h - y) / r.u
    (pstepStd r { s with z := s.z + d }).y = h := by
  intro y d
  -- moving the surface by `d` moves the height of arrival by `d·u`
  have hshift : (pstepStd r { s with z := s.z + d }).y = y + d * r.u := by
    show r.y - s.dy + -(r.z - (s.z + d)) * r.u + s.dy = r.y - s.dy + -(r.z - s.z) * r.u + s.dy + d * r.u
    ring
  rw [hshift]
  show y + (h - y) / r.u * r.u = h
  rw [div_mul_cancel₀ _ hu, add_sub_cancel]

theorem ptrace_getElem?_succ : ∀ (ss : List (PSurf ℝ)) (r : PRay ℝ) (k : Nat),
    (ptrace r ss)[k + 1]? = (match (ptrace r ss)[k]?, ss[k + 1]? with
      | some q, some t => some (pstep q t)
      | _, _ => none)
  | [], _, _ => rfl
  | [_], _, 0 => rfl
  | [_], _, _ + 1 => rfl
  | _ :: _ :: _, _, 0 => rfl
  | s :: s2 :: ss, r, k + 1 => ptrace_getElem?_succ (s2 :: ss) (pstep r s) k

theorem ptrace_prefix : ∀ (ss ss' : List (PSurf ℝ)) (r : PRay ℝ) (k : Nat),
    (∀ i, i ≤ k → ss[i]? = ss'[i]?) → (ptrace r ss)[k]? = (ptrace r ss')[k]?
  | ss, ss', r, k, h => by
    induction k with
    | zero =>
      have e : ∀ l : List (PSurf ℝ), (ptrace r l)[0]? = l[0]?.map (pstep r) := fun l => by cases l <;> rfl
      rw [e, e, h 0 le_rfl]
    | succ k ih =>
      rw [ptrace_getElem?_succ, ptrace_getElem?_succ, ih fun i hi => h i (Nat.le_succ_of_le hi), h (k + 1) le_rfl]
theorem ptrace_length : ∀ (ss : List (PSurf ℝ)) (r : PRay ℝ), (ptrace r ss).length = ss.length
  | ss, r => Cardinal.ptrace_length r ss

theorem nth_map_getElem? {β : Type} (l : List β) (f : β → ℝ) (k : Nat) (x : β) (h : l[k]? = some x) :
    nth (l.map f) k = f x := by
  simp [nth, List.getD_eq_getElem?_getD, h]

theorem toPSys_applySolve_getElem? (P : Presc ℝ) (s : Solve ℝ) (i : Nat) :
    (toPSys (applySolve P s)).surfs[i]? = ((toPSys P).surfs[i]?).map fun t =>
      if s.idx ≤ i then { t with z := t.z + ((s.height - nth (ys (marginalRay (toPSys P))) s.idx) /
          nth (us (marginalRay (toPSys P))) (s.idx - 1)) } else t := by
  show ((P.surfs.mapIdx _).map _)[i]? = ((P.surfs.map _)[i]?).map _
  rw [List.getElem?_map, List.getElem?_mapIdx, List.getElem?_map]
  cases P.surfs[i]? with
  | none => rfl
  | some x => show some _ = some _; split <;> rfl

theorem marginalRay_inf_EPD (S : PSys ℝ) (hinf : S.objInf = true) (hap : S.apType = .EPD) :
    marginalRay S = ptrace ⟨S.apValue / 2, 0, posOf S.surfs 1 - 10⟩ S.surfs := by
  simp only [marginalRay, hinf, if_true, EPD, hap, traceGeneric, Bool.false_eq_true, if_false, List.drop_zero]
  num_real
  norm_num

/-- **solve_places_marginal_ray** (on the lens, not only the one-step algebra): infinite object, aperture
given as EPD, solve on an ordinary undecentred surface `idx ≥ 2` of the lens, arriving marginal slope ≠ 0.
After `MarginalRayHeightSolve.apply` the paraxial marginal ray *of the modified lens* meets surface `idx`
at exactly the requested height. -/
theorem solve_places_marginal_ray (P : Presc ℝ) (s : Solve ℝ) (hinf : P.objInf = true) (hap : P.apType = .EPD)
    (hidx : 2 ≤ s.idx) (t : SRec ℝ) (ht : P.surfs[s.idx]? = some t) (hstd : t.kind = .standard) (hdy : t.dy = 0)
    (hu : nth (us (marginalRay (toPSys P))) (s.idx - 1) ≠ 0) :
    nth (ys (marginalRay (toPSys (applySolve P s)))) s.idx = s.height := by
  obtain ⟨j, hj⟩ : ∃ j, s.idx = j + 1 := ⟨s.idx - 1, by omega⟩
  have hsurf := toPSys_applySolve_getElem? P s
  -- the surfaces before `idx` stay where they are: same launch point, same records up to `idx - 1`
  have hlt : ∀ i, i < s.idx → (toPSys (applySolve P s)).surfs[i]? = (toPSys P).surfs[i]? := fun i hi => by
    rw [hsurf i]
    cases (toPSys P).surfs[i]? with
    | none => rfl
    | some x => exact congrArg some (if_neg (by omega))
  have hposOf : ∀ ss : List (PSurf ℝ), posOf ss 1 = (ss[1]?.map (·.z)).getD 0 := fun ss => by
    rw [posOf, List.getD_eq_getElem?_getD, List.getElem?_map]
  have hmS := marginalRay_inf_EPD (toPSys P) hinf hap
  have hmS' := marginalRay_inf_EPD (toPSys (applySolve P s)) hinf hap
  rw [hposOf, hlt 1 (by omega), ← hposOf] at hmS'
  change _ = ptrace ⟨(toPSys P).apValue / 2, 0, _⟩ _ at hmS'
  generalize (⟨(toPSys P).apValue / 2, 0, posOf (toPSys P).surfs 1 - 10⟩ : PRay ℝ) = r0 at hmS hmS'
  obtain ⟨pt, hpt, hk, hd⟩ : ∃ pt : PSurf ℝ, (toPSys P).surfs[s.idx]? = some pt ∧ pt.kind = .standard ∧ pt.dy = 0 :=
    ⟨_, by rw [toPSys, List.getElem?_map, ht]; rfl, hstd, hdy⟩
  obtain ⟨q, hq⟩ : ∃ q, (ptrace r0 (toPSys P).surfs)[j]? = some q :=
    ⟨_, List.getElem?_eq_getElem (by rw [ptrace_length]; have := (List.getElem?_eq_some_iff.mp hpt).1; omega)⟩
  have hold : (ptrace r0 (toPSys P).surfs)[j + 1]? = some (pstepStd q pt) := by
    rw [ptrace_getElem?_succ, hq, ← hj, hpt]; simp only [pstep, hk]
  have hua : nth (us (marginalRay (toPSys P))) (s.idx - 1) = q.u := by
    rw [hmS, hj, Nat.add_sub_cancel]; exact nth_map_getElem? _ _ _ _ hq
  have hya : nth (ys (marginalRay (toPSys P))) s.idx = (pstepStd q pt).y := by
    rw [hmS, hj]; exact nth_map_getElem? _ _ _ _ hold
  rw [hya, hua] at hsurf
  have hnew : (ptrace r0 (toPSys (applySolve P s)).surfs)[j + 1]? =
      some (pstepStd q { pt with z := pt.z + (s.height - (pstepStd q pt).y) / q.u }) := by
    rw [ptrace_getElem?_succ, ptrace_prefix _ _ r0 j fun i hi => hlt i (by omega), hq, ← hj, hsurf s.idx, hpt]
    simp only [Option.map_some, le_refl, if_true, pstep, hk]
  rw [hmS', hj]
  exact (nth_map_getElem? _ _ _ _ hnew).trans (solve_places_ray_step q pt s.height hd (hua ▸ hu))

/-- a singlet in air with the image surface as surface 3 (object at infinity, EPD 10) -/
noncomputable def demoP : Presc ℝ :=
  { surfs := [⟨.object, .plane, 0, 0, 0, 0, 0, 0, 0, [], 0, 0, false, false⟩,
              ⟨.standard, .standard, 0, 0, 0, 0, 0, 50, 0, [], 0, 1, true, false⟩,
              ⟨.standard, .plane, 5, 0, 0, 0, 0, 0, 0, [], 1, 2, false, false⟩,
              ⟨.standard, .plane, 100, 0, 0, 0, 0, 0, 0, [], 2, 3, false, false⟩],
    lastThickness := 0, mats := [1, 3/2, 1, 1], apValue := 10, maxYField := 1 }

/-- non-vacuity of `solve_places_marginal_ray`: on `demoP` the marginal ray arrives at surface 3 with slope
`−1/20 ≠ 0`; every hypothesis of the theorem holds for a solve on that surface -/
example : demoP.objInf = true ∧ demoP.apType = .EPD ∧
    (∃ t, demoP.surfs[3]? = some t ∧ t.kind = .standard ∧ t.dy = 0) ∧
    nth (us (marginalRay (toPSys demoP))) (3 - 1) ≠ 0 := by
  refine ⟨rfl, rfl, ⟨_, rfl, rfl, rfl⟩, ?_⟩
  rw [marginalRay_inf_EPD _ rfl rfl]
  simp only [toPSys, demoP, matN, ptrace, pstep, pstepStd, posOf, us, nth, List.map, List.getD_cons_succ,
    List.getD_cons_zero, Bool.false_eq_true, if_false]
  num_real
  norm_num

end C01

