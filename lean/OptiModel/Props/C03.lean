import OptiModel.Proofs.LaunchEx
/-!
# C03  Rays start at the requested field point and aim at the requested pupil point
Theorems over ℝ about `Model/RayGen.lean`.
-/
namespace C03
open Model

/-! ### the launch: origin + mag · direction = aim point, unit direction -/

/-- the algebraic core of `generate_rays`: whatever origin `(x0,y0,z0)` and aim
point `(x1,y1,z1)` were computed, the direction is a unit vector and the ray passes through the
aim point at parameter `mag`, provided the two points differ. -/
theorem launch_hits_aim (x0 y0 z0 x1 y1 z1 : ℝ)
    (hne : (x1 - x0)*(x1 - x0) + (y1 - y0)*(y1 - y0) + (z1 - z0)*(z1 - z0) ≠ 0) :
    let mag := Real.sqrt ((x1 - x0)*(x1 - x0) + (y1 - y0)*(y1 - y0) + (z1 - z0)*(z1 - z0))
    let L := (x1 - x0)/mag
    let M := (y1 - y0)/mag
    let N := (z1 - z0)/mag
    L^2 + M^2 + N^2 = 1 ∧ x0 + mag*L = x1 ∧ y0 + mag*M = y1 ∧ z0 + mag*N = z1 := by
  intro mag L M N
  have e : (x1 - x0)^(2:ℕ) + (y1 - y0)^(2:ℕ) + (z1 - z0)^(2:ℕ)
      = (x1 - x0)*(x1 - x0) + (y1 - y0)*(y1 - y0) + (z1 - z0)*(z1 - z0) := by simp only [sq]
  obtain ⟨-, hu, h1, h2, h3⟩ := Launch.launch_core (congrArg Real.sqrt e)
    (lt_of_le_of_ne (by positivity) (e.trans_ne hne).symm)
  exact ⟨hu, add_eq_of_eq_sub' h1, add_eq_of_eq_sub' h2, add_eq_of_eq_sub' h3⟩

/-- every ray that `generateRay` returns has intensity 1 and optical path 0 -/
theorem generateRay_start_values (S : RGSys ℝ) (Hx Hy Px Py : ℝ) (r : Ray ℝ)
    (h : generateRay S Hx Hy Px Py = .ok r) : r.i = 1 ∧ r.opd = 0 := by
  unfold generateRay at h
  split at h
  · exact absurd h (by simp)
  · simp only at h
    split at h
    · exact absurd h (by simp)
    · split at h
      · exact absurd h (by simp)
      · injection h with h
        rw [← h]
        exact ⟨rfl, rfl⟩

/-! ### rejected combinations -/

/-- an infinite object with object-height fields is refused (the other unrepresentable
combinations: `rejected_infinite_telecentric`, `rejected_generate`), for every lens and every ray -/
theorem rejected_infinite_height (S : RGSys ℝ) (Hx Hy Px Py vx vy : ℝ)
    (hinf : S.psys.objInf = true) (hf : S.psys.fieldType = .objectHeight) :
    rayOrigin S Hx Hy Px Py vx vy = .error .valueError := by
  unfold rayOrigin; simp [hinf, hf]

theorem rejected_infinite_telecentric (S : RGSys ℝ) (Hx Hy Px Py vx vy : ℝ)
    (hinf : S.psys.objInf = true) (ht : S.telecentric = true) :
    ∃ e, rayOrigin S Hx Hy Px Py vx vy = .error e := by
  unfold rayOrigin
  cases hf : S.psys.fieldType <;> simp [hinf, ht]

theorem rejected_generate (S : RGSys ℝ) (Hx Hy Px Py : ℝ)
    (h : (S.psys.objInf = true ∧ S.psys.fieldType = .objectHeight) ∨
         (S.psys.objInf = true ∧ S.telecentric = true) ∨
         (S.telecentric = true ∧ S.psys.fieldType = .angle) ∨
         (S.telecentric = true ∧ (S.psys.apType = .EPD ∨ S.psys.apType = .imageFNO))) :
    ∃ e, generateRay S Hx Hy Px Py = .error e := by
  unfold generateRay
  split
  · exact ⟨_, rfl⟩
  · simp only
    cases ho : rayOrigin S Hx Hy Px Py (1 - (vigFactor S.fields Hx Hy).1) (1 - (vigFactor S.fields Hx Hy).2) with
    | error e => exact ⟨e, rfl⟩
    | ok p =>
      obtain ⟨x0, y0, z0⟩ := p
      simp only
      rcases h with h | h | h | h
      · rw [rejected_infinite_height S _ _ _ _ _ _ h.1 h.2] at ho; exact absurd ho (by simp)
      · obtain ⟨e, he⟩ := rejected_infinite_telecentric S Hx Hy Px Py
          (1 - (vigFactor S.fields Hx Hy).1) (1 - (vigFactor S.fields Hx Hy).2) h.1 h.2
        rw [he] at ho; exact absurd ho (by simp)
      · simp only [h.1, if_true, h.2]
        exact ⟨_, rfl⟩
      · simp only [h.1, if_true]
        rcases h.2 with ha | ha <;> (cases hf : S.psys.fieldType <;> simp only [ha] <;> exact ⟨_, rfl⟩)

/-! ### pupil samplings: counts and the unit disk -/

theorem linspace_length (a b : ℝ) (n : Nat) : (linspace a b n).length = n := by
  unfold linspace
  match n with
  | 0 => rfl
  | 1 => rfl
  | n+2 => simp

theorem count_line_x (n : Nat) (p : Bool) : (distLineX (α := ℝ) n p).length = n := by
  simp [distLineX, linspace_length]
theorem count_line_y (n : Nat) (p : Bool) : (distLineY (α := ℝ) n p).length = n := by
  simp [distLineY, linspace_length]
theorem count_cross (n : Nat) : (distCross (α := ℝ) n).length = 2 * n := by
  simp [distCross, linspace_length]; omega
theorem count_ring (n : Nat) : (distRing (α := ℝ) n).length = n := by
  simp [distRing, linspace_length]

theorem sum_range_succ_mul (r : Nat) :
    ((List.range r).map fun i => 6 * (i + 1)).sum = 3 * r * (r + 1) := by
  induction r with
  | zero => rfl
  | succ r ih => rw [List.range_succ, List.map_append, List.sum_append, ih]; simp; ring

/-- **count_hexapolar**: `1 + 3 n (n+1)` points for `n` rings -/
theorem count_hexapolar (rings : Nat) : (distHexapolar (α := ℝ) rings).length = countHexapolar rings := by
  unfold distHexapolar countHexapolar
  simp only [List.length_cons, List.length_flatMap, List.length_map, List.length_dropLast, linspace_length]
  have : (List.map (fun i => 6 * (i + 1) + 1 - 1) (List.range rings)) =
      (List.range rings).map fun i => 6 * (i + 1) := by
    apply List.map_congr_left; intro i _; omega
  rw [this, sum_range_succ_mul]; omega

/-- every point of the ring sampling is on the unit circle -/
theorem ring_on_unit_circle (n : Nat) : ∀ p ∈ distRing (α := ℝ) n, p.1^2 + p.2^2 = 1 := by
  intro p hp
  simp only [distRing, List.mem_map] at hp
  obtain ⟨t, _, rfl⟩ := hp
  num_real
  exact Real.cos_sq_add_sin_sq t

/-- a point `r (cos t, sin t)` with `0 ≤ r ≤ 1` is inside the unit disk (hexapolar, random, GQ) -/
theorem polar_in_unit_disk (r t : ℝ) (h0 : 0 ≤ r) (h1 : r ≤ 1) :
    (r * Real.cos t)^2 + (r * Real.sin t)^2 ≤ 1 := by
  have : (r * Real.cos t)^2 + (r * Real.sin t)^2 = r^2 := by
    linear_combination r^2 * Real.cos_sq_add_sin_sq t
  rw [this]; exact pow_le_one₀ h0 h1

/-- the uniform sampling keeps only points of the unit disk -/
theorem uniform_in_unit_disk (n : Nat) : ∀ p ∈ distUniform (α := ℝ) n, p.1*p.1 + p.2*p.2 ≤ 1 := by
  intro p hp
  simp only [distUniform, List.mem_filter] at hp
  have := hp.2
  num_real
  exact this

/-- the `i`-th radius `i/n` of the hexapolar rings is at most 1, in the literal shape
`i * ((1 - 0)/n) + 0` that `linspace 0 1 (n + 1)` produces -/
theorem hexapolar_radius_le_one (i n : Nat) (hi : i ≤ n) (hn : 0 < n) :
    (0:ℝ) ≤ (i:ℝ) * ((1 - 0) / (n:ℝ)) + 0 ∧ (i:ℝ) * ((1 - 0) / (n:ℝ)) + 0 ≤ 1 := by
  have hn' : (0:ℝ) < n := by exact_mod_cast hn
  have hi' : (i:ℝ) ≤ n := by exact_mod_cast hi
  constructor
  · positivity
  · rw [add_zero, sub_zero, mul_one_div, div_le_one hn']; exact hi'

/-! ### vignetting -/

/-- **vig_only_shrinks** -/
theorem vig_only_shrinks (P v : ℝ) (h0 : 0 ≤ v) (h1 : v ≤ 1) : |P * (1 - v)| ≤ |P| := by
  rw [abs_mul]
  exact mul_le_of_le_one_right (abs_nonneg _) (abs_le.2 ⟨by linarith, by linarith⟩)

/-- all ordinates lie in [lo, hi] -/
def Within (lo hi : ℝ) (l : List (ℝ × ℝ)) : Prop := ∀ p ∈ l, lo ≤ p.2 ∧ p.2 ≤ hi
/-- knots strictly increasing -/
def Incr : List (ℝ × ℝ) → Prop
  | [] => True
  | [_] => True
  | p :: q :: rest => p.1 < q.1 ∧ Incr (q :: rest)

/-- **interp_in_hull**: the interpolated vignetting factor never leaves the hull of the field
factors -/
theorem interp_in_hull (x lo hi : ℝ) : ∀ (l : List (ℝ × ℝ)), l ≠ [] → Incr l → Within lo hi l →
    lo ≤ interp x l ∧ interp x l ≤ hi
  | l, h, _, hw => Launch.interp_hull x lo hi l h hw

/-- left of the first knot the first table value is returned (clamping) -/
theorem interp_clamp_left (x : ℝ) (p : ℝ × ℝ) (rest : List (ℝ × ℝ)) (h : x < p.1) :
    interp x (p :: rest) = p.2 := by
  cases rest with
  | nil => rfl
  | cons q r => rw [Launch.interp_cons_cons, if_pos h]

-- the guard of `launch_hits_aim` can be met
example : (1 - 0)*(1 - 0) + (0.5 - 0)*(0.5 - 0) + (10 - (0:ℝ))*(10 - 0) ≠ 0 := by norm_num

/-! ## What is launched in each accepted configuration

From `OptiModel/Proofs/Launch.lean`.  Throughout, `hx` says that all fields have `x = 0`
(otherwise `get_vig_factor` raises `NotImplementedError`, see `rejected_nonsymmetric_fields`), `v` is
the interpolated vignetting pair of the field, and `EPD`, `EPL`, `posOf`, `startOffset`, `maxField`
are the model's functions (`Paraxial.EPD/EPL`, `surface_group.positions`, `_get_starting_z_offset`,
`fields.max_field`). -/
open Launch

/-- fields with a non-zero `x` are refused by every entry point -/
theorem rejected_nonsymmetric_fields (S : RGSys ℝ) (Hx Hy Px Py : ℝ)
    (hx : S.fields.any (fun f => !(Num.isZero f.x)) = true) :
    generateRay S Hx Hy Px Py = .error .notImplemented ∧
    genericLaunch S Hx Hy Px Py = .error .notImplemented :=
  ⟨generateRay_fields_error S Hx Hy Px Py hx, by unfold genericLaunch; rw [if_pos hx]⟩

/-! ### object at infinity: one direction per field -/

/-- **infinite_object_direction.**  Infinite object, angle fields, not telecentric.  With
`tx = tan(radians(max_field·Hx))`, `ty = tan(radians(max_field·Hy))`, `D = offset + EPL` (what the
code multiplies the tangents with) and `Dz = EPL − (positions[1] − offset)` (aim plane − start plane),
*every* ray `(Px, Py)` of the field gets the direction `(−tx·D, ty·D, Dz)/‖·‖`: the right-hand sides do
not contain `Px, Py` nor the vignetting factors.  It is a unit vector with `N > 0`.
Guard `0 < Dz`: the start plane lies in front of the entrance pupil (for `Dz = 0` the code divides by
`mag = |D|·√(tx²+ty²)`, which is 0 on axis: NaN direction).
Sign convention of the code: `M/N = +ty·D/Dz` but `L/N = −tx·D/Dz`. -/
theorem infinite_object_direction (S : RGSys ℝ) (Hx Hy Px Py : ℝ)
    (hx : S.fields.any (fun f => !(Num.isZero f.x)) = false)
    (hinf : S.psys.objInf = true) (hf : S.psys.fieldType = .angle) (ht : S.telecentric = false)
    (hD : 0 < startOffset S + EPL S.psys - posOf S.psys.surfs 1) :
    let tx := Real.tan (maxField S.fields * Hx * (Real.pi / 180))
    let ty := Real.tan (maxField S.fields * Hy * (Real.pi / 180))
    let D := startOffset S + EPL S.psys
    let Dz := D - posOf S.psys.surfs 1
    let mag := Real.sqrt ((-(tx * D))^2 + (ty * D)^2 + Dz^2)
    ∃ r, generateRay S Hx Hy Px Py = .ok r ∧
      r.L = -(tx * D) / mag ∧ r.M = ty * D / mag ∧ r.N = Dz / mag ∧
      r.L^2 + r.M^2 + r.N^2 = 1 ∧ 0 < r.N := by
  intro tx ty D Dz mag
  obtain ⟨hm, hu, -, -, -⟩ := launch_core (m := mag) rfl (sq_sum_pos _ _ hD.ne')
  exact ⟨_, generateRay_infinite S Hx Hy Px Py tx ty D mag hx hinf hf ht rfl rfl rfl rfl,
    rfl, rfl, rfl, hu, div_pos hD hm⟩

/-- all rays of one field are parallel (corollary, stated directly) -/
theorem infinite_object_direction_same (S : RGSys ℝ) (Hx Hy Px Py Px' Py' : ℝ)
    (hx : S.fields.any (fun f => !(Num.isZero f.x)) = false)
    (hinf : S.psys.objInf = true) (hf : S.psys.fieldType = .angle) (ht : S.telecentric = false)
    (hD : 0 < startOffset S + EPL S.psys - posOf S.psys.surfs 1) :
    ∃ r r', generateRay S Hx Hy Px Py = .ok r ∧ generateRay S Hx Hy Px' Py' = .ok r' ∧
      r.L = r'.L ∧ r.M = r'.M ∧ r.N = r'.N ∧ r.z = r'.z ∧ 0 < r.N := by
  obtain ⟨hm, -⟩ := launch_core rfl (sq_sum_pos _ _ hD.ne')
  exact ⟨_, _, generateRay_infinite S Hx Hy Px Py _ _ _ _ hx hinf hf ht rfl rfl rfl rfl,
    generateRay_infinite S Hx Hy Px' Py' _ _ _ _ hx hinf hf ht rfl rfl rfl rfl,
    rfl, rfl, rfl, rfl, div_pos hD hm⟩

/-- `infinite_object_direction` for the usual layout `positions[1] = 0` (first surface at the
origin, which is where `EPL` is measured from): the direction is `(−tx, ty, 1)/√(tx² + ty² + 1)`,
i.e. `M/N = tan(θy)`, `L/N = −tan(θx)` with `θ = max_field·H` in degrees. -/
theorem infinite_object_direction_tan (S : RGSys ℝ) (Hx Hy Px Py : ℝ)
    (hx : S.fields.any (fun f => !(Num.isZero f.x)) = false)
    (hinf : S.psys.objInf = true) (hf : S.psys.fieldType = .angle) (ht : S.telecentric = false)
    (hp1 : posOf S.psys.surfs 1 = 0) (hD : 0 < startOffset S + EPL S.psys) :
    let tx := Real.tan (maxField S.fields * Hx * (Real.pi / 180))
    let ty := Real.tan (maxField S.fields * Hy * (Real.pi / 180))
    let q := Real.sqrt (tx^2 + ty^2 + 1)
    ∃ r, generateRay S Hx Hy Px Py = .ok r ∧
      r.L = -tx / q ∧ r.M = ty / q ∧ r.N = 1 / q ∧ 0 < r.N ∧ r.M / r.N = ty ∧ r.L / r.N = -tx := by
  intro tx ty q
  obtain ⟨r, hr, hL, hM, hN, -, hpos⟩ :=
    infinite_object_direction S Hx Hy Px Py hx hinf hf ht (by rw [hp1, sub_zero]; exact hD)
  obtain ⟨D, hDdef⟩ : ∃ D, D = startOffset S + EPL S.psys := ⟨_, rfl⟩
  simp only [hp1, sub_zero, ← hDdef] at hL hM hN
  rw [← hDdef] at hD
  have hq : 0 < q := Real.sqrt_pos.mpr (by positivity)
  -- `mag = q · D`
  have hs : Real.sqrt ((-(tx * D))^2 + (ty * D)^2 + D^2) = q * D := by
    rw [show (-(tx * D))^2 + (ty * D)^2 + D^2 = (tx^2 + ty^2 + 1) * D^2 by ring,
      Real.sqrt_mul (by positivity), Real.sqrt_sq hD.le]
  rw [hs] at hL hM hN
  rw [← neg_mul, mul_div_mul_right _ _ hD.ne'] at hL
  rw [mul_div_mul_right _ _ hD.ne'] at hM
  rw [div_mul_cancel_right₀ hD.ne', ← one_div] at hN
  refine ⟨r, hr, hL, hM, hN, hpos, ?_, ?_⟩
  · rw [hM, hN, div_div_div_cancel_right₀ hq.ne', div_one]
  · rw [hL, hN, div_div_div_cancel_right₀ hq.ne', div_one]

/-- the direction cosines of a meridional field (`Hx = 0`, `|θ| < 90°`, `θ = max_field·Hy` degrees),
layout as above: `(L, M, N) = (0, sin θ, cos θ)` for every `(Px, Py)`. -/
theorem infinite_object_direction_cosines (S : RGSys ℝ) (Hy Px Py : ℝ)
    (hx : S.fields.any (fun f => !(Num.isZero f.x)) = false)
    (hinf : S.psys.objInf = true) (hf : S.psys.fieldType = .angle) (ht : S.telecentric = false)
    (hp1 : posOf S.psys.surfs 1 = 0) (hD : 0 < startOffset S + EPL S.psys)
    (hθ : 0 < Real.cos (maxField S.fields * Hy * (Real.pi / 180))) :
    ∃ r, generateRay S 0 Hy Px Py = .ok r ∧ r.L = 0 ∧
      r.M = Real.sin (maxField S.fields * Hy * (Real.pi / 180)) ∧
      r.N = Real.cos (maxField S.fields * Hy * (Real.pi / 180)) := by
  obtain ⟨r, hr, hL, hM, hN, -, -, -⟩ :=
    infinite_object_direction_tan S 0 Hy Px Py hx hinf hf ht hp1 hD
  obtain ⟨θ, hθdef⟩ : ∃ θ, θ = maxField S.fields * Hy * (Real.pi / 180) := ⟨_, rfl⟩
  simp only [mul_zero, zero_mul, Real.tan_zero, ← hθdef] at hL hM hN
  rw [← hθdef] at hθ ⊢
  -- `√(tan² θ + 1) = 1 / cos θ`
  have hq : Real.sqrt (0^2 + (Real.tan θ)^2 + 1) = (Real.cos θ)⁻¹ := by
    rw [Real.sqrt_eq_iff_mul_self_eq (by positivity) (inv_nonneg.2 hθ.le), ← sq, inv_pow,
      ← Real.inv_one_add_tan_sq hθ.ne', inv_inv]; ring
  rw [hq] at hL hM hN
  refine ⟨r, hr, ?_, ?_, ?_⟩
  · rw [hL, neg_zero, zero_div]
  · rw [hM, div_inv_eq_mul, Real.tan_mul_cos hθ.ne']
  · rw [hN, one_div, inv_inv]

/-! ### object at infinity: the bundle fills the vignetted entrance pupil -/

/-- **infinite_object_fills_pupil.**  Same configuration.  The ray starts in the plane
`z = positions[1] − offset` at `(Px·EPD/2·(1−vx) + tx·D, Py·EPD/2·(1−vy) − ty·D)` and after the path
length `mag` it is at the pupil point `(Px·EPD/2·(1−vx), Py·EPD/2·(1−vy), EPL)`:
the start points are the (vignetted) pupil shifted back along the field direction, so the bundle
fills exactly the ellipse with half-axes `EPD/2·(1−vx)`, `EPD/2·(1−vy)` in the plane `z = EPL`. -/
theorem infinite_object_fills_pupil (S : RGSys ℝ) (Hx Hy Px Py : ℝ)
    (hx : S.fields.any (fun f => !(Num.isZero f.x)) = false)
    (hinf : S.psys.objInf = true) (hf : S.psys.fieldType = .angle) (ht : S.telecentric = false)
    (hD : startOffset S + EPL S.psys - posOf S.psys.surfs 1 ≠ 0) :
    let v := vigFactor S.fields Hx Hy
    let tx := Real.tan (maxField S.fields * Hx * (Real.pi / 180))
    let ty := Real.tan (maxField S.fields * Hy * (Real.pi / 180))
    let D := startOffset S + EPL S.psys
    let Dz := D - posOf S.psys.surfs 1
    let mag := Real.sqrt ((-(tx * D))^2 + (ty * D)^2 + Dz^2)
    ∃ r, generateRay S Hx Hy Px Py = .ok r ∧ 0 < mag ∧
      r.x = Px * EPD S.psys / 2 * (1 - v.1) + tx * D ∧
      r.y = Py * EPD S.psys / 2 * (1 - v.2) - ty * D ∧
      r.z = posOf S.psys.surfs 1 - startOffset S ∧
      r.x + mag * r.L = Px * EPD S.psys / 2 * (1 - v.1) ∧
      r.y + mag * r.M = Py * EPD S.psys / 2 * (1 - v.2) ∧
      r.z + mag * r.N = EPL S.psys := by
  intro v tx ty D Dz mag
  obtain ⟨hm, -, h1, h2, h3⟩ := launch_core (m := mag) rfl (sq_sum_pos _ _ hD)
  refine ⟨_, generateRay_infinite S Hx Hy Px Py tx ty D mag hx hinf hf ht rfl rfl rfl rfl, hm,
    rfl, ?_, rfl, ?_, ?_, ?_⟩
  · rw [neg_mul, ← sub_eq_add_neg]
  · show _ + mag * (-(tx * D) / mag) = _
    rw [h1, add_neg_cancel_right]
  · show _ + mag * ((ty * D) / mag) = _
    rw [h2, neg_mul, neg_add_cancel_right]
  · show _ + mag * (Dz / mag) = _
    rw [h3]; ring

/-! ### finite object -/

/-- **generateRay_hits_pupil** (all non-telecentric configurations at once): whenever `generateRay`
succeeds and the start plane is not the pupil plane, the direction is a unit vector and the ray
passes through `(Px·EPD/2·(1−vx), Py·EPD/2·(1−vy), EPL)`; `(1−v)` enters exactly once. -/
theorem generateRay_hits_pupil (S : RGSys ℝ) (Hx Hy Px Py : ℝ) (r : Ray ℝ)
    (ht : S.telecentric = false) (h : generateRay S Hx Hy Px Py = .ok r) (hz : r.z ≠ EPL S.psys) :
    ∃ mag, 0 < mag ∧ r.L^2 + r.M^2 + r.N^2 = 1 ∧
      r.x + mag * r.L = Px * EPD S.psys / 2 * (1 - (vigFactor S.fields Hx Hy).1) ∧
      r.y + mag * r.M = Py * EPD S.psys / 2 * (1 - (vigFactor S.fields Hx Hy).2) ∧
      r.z + mag * r.N = EPL S.psys := by
  cases hx : S.fields.any (fun f => !(Num.isZero f.x)) with
  | true => rw [generateRay_fields_error S Hx Hy Px Py hx] at h; exact absurd h (by simp)
  | false =>
    cases ho : rayOrigin S Hx Hy Px Py (1 - (vigFactor S.fields Hx Hy).1)
        (1 - (vigFactor S.fields Hx Hy).2) with
    | error e => rw [generateRay_origin_error S Hx Hy Px Py e hx ho] at h; exact absurd h (by simp)
    | ok o =>
      obtain ⟨x0, y0, z0⟩ := o
      rw [generateRay_nontele_dir S Hx Hy Px Py x0 y0 z0 _ _ _ _ hx ht ho rfl rfl rfl rfl] at h
      injection h with h
      subst h
      obtain ⟨hm, hu, h1, h2, h3⟩ := launch_core rfl
        (sq_sum_pos _ _ (sub_ne_zero.2 (Ne.symm hz)))
      refine ⟨_, hm, hu, ?_, ?_, ?_⟩
      · rw [h1]; ring
      · rw [h2]; ring
      · rw [h3]; ring

/-- finite object, object-height fields: the ray starts at
`(max_field·Hx, max_field·Hy)` (both with a plus sign) on the object surface — `z = sag + cs.z`, the
sag being 0 for a plane and the conic sag otherwise —, its direction is the normalised difference to
the pupil point, a unit vector, and it reaches the pupil point after `mag`.
Guard: the object point is not in the plane `z = EPL` (there `mag` may vanish). -/
theorem finite_object_start_and_aim_height (S : RGSys ℝ) (Hx Hy Px Py : ℝ)
    (hx : S.fields.any (fun f => !(Num.isZero f.x)) = false)
    (hinf : S.psys.objInf = false) (hf : S.psys.fieldType = .objectHeight) (ht : S.telecentric = false)
    (hz : (if S.objPlane then 0 else conicSag S.objR S.objK (maxField S.fields * Hx) (maxField S.fields * Hy))
            + posOf S.psys.surfs 0 ≠ EPL S.psys) :
    let v := vigFactor S.fields Hx Hy
    let x0 := maxField S.fields * Hx
    let y0 := maxField S.fields * Hy
    let z0 := (if S.objPlane then 0 else conicSag S.objR S.objK (maxField S.fields * Hx) (maxField S.fields * Hy))
                + posOf S.psys.surfs 0
    let x1 := Px * EPD S.psys / 2 * (1 - v.1)
    let y1 := Py * EPD S.psys / 2 * (1 - v.2)
    let z1 := EPL S.psys
    let mag := Real.sqrt ((x1 - x0)^2 + (y1 - y0)^2 + (z1 - z0)^2)
    ∃ r, generateRay S Hx Hy Px Py = .ok r ∧ r.x = x0 ∧ r.y = y0 ∧ r.z = z0 ∧ 0 < mag ∧
      r.L = (x1 - x0) / mag ∧ r.M = (y1 - y0) / mag ∧ r.N = (z1 - z0) / mag ∧
      r.L^2 + r.M^2 + r.N^2 = 1 ∧
      r.x + mag * r.L = x1 ∧ r.y + mag * r.M = y1 ∧ r.z + mag * r.N = z1 := by
  intro v x0 y0 z0 x1 y1 z1 mag
  have hg := generateRay_nontele_dir S Hx Hy Px Py _ _ _ (x1 - x0) (y1 - y0) (z1 - z0) mag hx ht
    (rayOrigin_finite_height S Hx Hy Px Py _ _ hinf hf)
    (by simp only [x1, x0, v]; ring) (by simp only [y1, y0, v]; ring) rfl rfl
  obtain ⟨hm, hu, h1, h2, h3⟩ := launch_core (m := mag) rfl
    (sq_sum_pos _ _ (sub_ne_zero.2 (Ne.symm hz)))
  exact ⟨_, hg, rfl, rfl, rfl, hm, rfl, rfl, rfl, hu, add_eq_of_eq_sub' h1, add_eq_of_eq_sub' h2,
    add_eq_of_eq_sub' h3⟩

/-- finite object, angle fields: the object point is at the object vertex plane
`z = positions[0]`, at height `(+tan θx · d, −tan θy · d)` with `d = EPL − z` the distance to the
entrance pupil (so that the chief ray `Px = Py = 0` has `M/N = +tan θy`, `L/N = −tan θx`: same sign
convention as for the infinite object).  Direction, unit length and aim as before. -/
theorem finite_object_start_and_aim_angle (S : RGSys ℝ) (Hx Hy Px Py : ℝ)
    (hx : S.fields.any (fun f => !(Num.isZero f.x)) = false)
    (hinf : S.psys.objInf = false) (hf : S.psys.fieldType = .angle) (ht : S.telecentric = false)
    (hz : posOf S.psys.surfs 0 ≠ EPL S.psys) :
    let v := vigFactor S.fields Hx Hy
    let d := EPL S.psys - posOf S.psys.surfs 0
    let x0 := Real.tan (maxField S.fields * Hx * (Real.pi / 180)) * d
    let y0 := -Real.tan (maxField S.fields * Hy * (Real.pi / 180)) * d
    let z0 := posOf S.psys.surfs 0
    let x1 := Px * EPD S.psys / 2 * (1 - v.1)
    let y1 := Py * EPD S.psys / 2 * (1 - v.2)
    let z1 := EPL S.psys
    let mag := Real.sqrt ((x1 - x0)^2 + (y1 - y0)^2 + (z1 - z0)^2)
    ∃ r, generateRay S Hx Hy Px Py = .ok r ∧ r.x = x0 ∧ r.y = y0 ∧ r.z = z0 ∧ 0 < mag ∧
      r.L = (x1 - x0) / mag ∧ r.M = (y1 - y0) / mag ∧ r.N = (z1 - z0) / mag ∧
      r.L^2 + r.M^2 + r.N^2 = 1 ∧
      r.x + mag * r.L = x1 ∧ r.y + mag * r.M = y1 ∧ r.z + mag * r.N = z1 := by
  intro v d x0 y0 z0 x1 y1 z1 mag
  have hg := generateRay_nontele_dir S Hx Hy Px Py _ _ _ (x1 - x0) (y1 - y0) (z1 - z0) mag hx ht
    (rayOrigin_finite_angle S Hx Hy Px Py _ _ hinf hf)
    (by simp only [x1, x0, d, v]; ring) (by simp only [y1, y0, d, v]; ring) rfl rfl
  obtain ⟨hm, hu, h1, h2, h3⟩ := launch_core (m := mag) rfl
    (sq_sum_pos _ _ (sub_ne_zero.2 (Ne.symm hz)))
  exact ⟨_, hg, rfl, rfl, rfl, hm, rfl, rfl, rfl, hu, add_eq_of_eq_sub' h1, add_eq_of_eq_sub' h2,
    add_eq_of_eq_sub' h3⟩

/-- chief ray of a finite object with angle fields: `M/N = tan θy`, `L/N = −tan θx` -/
theorem finite_object_angle_chief (S : RGSys ℝ) (Hx Hy : ℝ)
    (hx : S.fields.any (fun f => !(Num.isZero f.x)) = false)
    (hinf : S.psys.objInf = false) (hf : S.psys.fieldType = .angle) (ht : S.telecentric = false)
    (hz : posOf S.psys.surfs 0 ≠ EPL S.psys) :
    ∃ r, generateRay S Hx Hy 0 0 = .ok r ∧
      r.M / r.N = Real.tan (maxField S.fields * Hy * (Real.pi / 180)) ∧
      r.L / r.N = -Real.tan (maxField S.fields * Hx * (Real.pi / 180)) := by
  obtain ⟨r, hr, -, -, -, hm, hL, hM, hN, -, -, -, -⟩ :=
    finite_object_start_and_aim_angle S Hx Hy 0 0 hx hinf hf ht hz
  have hd : EPL S.psys - posOf S.psys.surfs 0 ≠ 0 := sub_ne_zero.2 (Ne.symm hz)
  refine ⟨r, hr, ?_, ?_⟩
  · rw [hM, hN, div_div_div_cancel_right₀ hm.ne', div_eq_iff hd]; ring
  · rw [hL, hN, div_div_div_cancel_right₀ hm.ne', div_eq_iff hd]; ring

/-! ### telecentric object space -/

/-- **telecentric_object_space.**  Finite object, object-height fields, aperture given as object
NA `s = aperture.value`, telecentric flag set.  What the code does: the object point is as for
object-height fields; the aim point is `(Px·(1−vx), Py·(1−vy), √(1−s²)/s)` *relative to the object
point* — pupil coordinates are used as lengths, no `EPD`, no `EPL`.  Hence the direction
`(Px(1−vx), Py(1−vy), √(1−s²)/s)/‖·‖` does not depend on the field point at all (only through the
vignetting factors): every field sends the same cone, centred on the axis direction.
Guards `0 < s < 1` (`s = 0`: division by zero; `s ≥ 1`: `√` of a non-positive number). -/
theorem telecentric_object_space (S : RGSys ℝ) (Hx Hy Px Py : ℝ)
    (hx : S.fields.any (fun f => !(Num.isZero f.x)) = false)
    (hinf : S.psys.objInf = false) (hf : S.psys.fieldType = .objectHeight) (ht : S.telecentric = true)
    (hap : S.psys.apType = .objectNA) (hs0 : 0 < S.psys.apValue) (hs1 : S.psys.apValue < 1) :
    let v := vigFactor S.fields Hx Hy
    let a := Px * (1 - v.1)
    let b := Py * (1 - v.2)
    let c := Real.sqrt (1 - S.psys.apValue * S.psys.apValue) / S.psys.apValue
    let mag := Real.sqrt (a^2 + b^2 + c^2)
    ∃ r, generateRay S Hx Hy Px Py = .ok r ∧
      r.x = maxField S.fields * Hx ∧ r.y = maxField S.fields * Hy ∧
      r.z = (if S.objPlane then 0 else conicSag S.objR S.objK (maxField S.fields * Hx) (maxField S.fields * Hy))
              + posOf S.psys.surfs 0 ∧
      0 < c ∧ 0 < mag ∧ r.L = a / mag ∧ r.M = b / mag ∧ r.N = c / mag ∧
      r.L^2 + r.M^2 + r.N^2 = 1 ∧ 0 < r.N := by
  intro v a b c mag
  have hg := generateRay_tele_dir S Hx Hy Px Py _ _ _ a b c mag hx ht hf hap
    (rayOrigin_finite_height S Hx Hy Px Py _ _ hinf hf)
    (add_sub_cancel_right _ _) (add_sub_cancel_right _ _) (add_sub_cancel_right _ _) rfl
  have hc : 0 < c :=
    div_pos (Real.sqrt_pos.mpr (sub_pos.2 (mul_lt_one_of_nonneg_of_lt_one_left hs0.le hs1 hs1.le))) hs0
  obtain ⟨hm, hu, -, -, -⟩ := launch_core (m := mag) rfl (sq_sum_pos a b hc.ne')
  exact ⟨_, hg, rfl, rfl, rfl, hc, hm, rfl, rfl, rfl, hu, div_pos hc hm⟩

/-- the telecentric chief ray (`Px = Py = 0`) of every field is parallel to the axis -/
theorem telecentric_chief_parallel (S : RGSys ℝ) (Hx Hy : ℝ)
    (hx : S.fields.any (fun f => !(Num.isZero f.x)) = false)
    (hinf : S.psys.objInf = false) (hf : S.psys.fieldType = .objectHeight) (ht : S.telecentric = true)
    (hap : S.psys.apType = .objectNA) (hs0 : 0 < S.psys.apValue) (hs1 : S.psys.apValue < 1) :
    ∃ r, generateRay S Hx Hy 0 0 = .ok r ∧ r.L = 0 ∧ r.M = 0 ∧ r.N = 1 := by
  obtain ⟨r, hr, -, -, -, hc, -, hL, hM, hN, -, -⟩ :=
    telecentric_object_space S Hx Hy 0 0 hx hinf hf ht hap hs0 hs1
  refine ⟨r, hr, ?_, ?_, ?_⟩
  · rw [hL, zero_mul, zero_div]
  · rw [hM, zero_mul, zero_div]
  · rw [hN, zero_mul, zero_mul, zero_pow two_ne_zero, zero_add, zero_add, Real.sqrt_sq hc.le, div_self hc.ne']

/-- the marginal cone has the stated numerical aperture: for a pupil point on the unit circle and a
field without vignetting, `sin θ = √(L² + M²) = s`, i.e. `L² + M² = s²` -/
theorem telecentric_na (S : RGSys ℝ) (Hx Hy Px Py : ℝ)
    (hx : S.fields.any (fun f => !(Num.isZero f.x)) = false)
    (hinf : S.psys.objInf = false) (hf : S.psys.fieldType = .objectHeight) (ht : S.telecentric = true)
    (hap : S.psys.apType = .objectNA) (hs0 : 0 < S.psys.apValue) (hs1 : S.psys.apValue < 1)
    (hP : Px^2 + Py^2 = 1) (hv : vigFactor S.fields Hx Hy = (0, 0)) :
    ∃ r, generateRay S Hx Hy Px Py = .ok r ∧ r.L^2 + r.M^2 = S.psys.apValue^2 ∧
      r.N^2 = 1 - S.psys.apValue^2 := by
  obtain ⟨r, hr, -, -, -, -, -, -, -, hN, hu, -⟩ :=
    telecentric_object_space S Hx Hy Px Py hx hinf hf ht hap hs0 hs1
  have hN2 : r.N^2 = 1 - S.psys.apValue^2 := by
    rw [hN]
    refine objectNA_cone hs0 hs1 ?_ rfl rfl
    simp only [hv, sub_zero, mul_one]
    exact hP
  exact ⟨r, hr, by linear_combination hu - hN2, hN2⟩

/-! ### vignetting factors: sorting, end points, linear interpolation, hull, order independence -/

/-- **sortBy_perm**: the insertion sort only rearranges -/
theorem sortBy_perm {β : Type} (l : List (ℝ × β)) : (sortBy l).Perm l := sortBy_perm' l

/-- **sortBy_sorted**: its result is sorted by the key; strictly if the keys are distinct -/
theorem sortBy_sorted {β : Type} (l : List (ℝ × β)) :
    (sortBy l).Pairwise (fun a b => a.1 ≤ b.1) ∧
    ((l.map (·.1)).Nodup → (sortBy l).Pairwise (fun a b => a.1 < b.1)) :=
  ⟨sortBy_sorted' l, sortBy_strict l⟩

/-- **sortBy_order_independent**: with distinct keys the result does not depend on the order in
which the entries were given (`np.argsort` on distinct keys).  With equal keys NumPy's default
(unstable) sort gives no such guarantee; the model's insertion sort would not either. -/
theorem sortBy_order_independent {β : Type} (l₁ l₂ : List (ℝ × β)) (hp : l₁.Perm l₂)
    (hd : (l₁.map (·.1)).Nodup) : sortBy l₁ = sortBy l₂ := sortBy_eq_of_perm l₁ l₂ hp hd

/-- **vigFactor_order_independent**: the vignetting factors of a field point do not depend on the
order in which the fields were added, provided their `y` are distinct -/
theorem vigFactor_order_independent (fs₁ fs₂ : List (FieldRec ℝ)) (Hx Hy : ℝ) (hp : fs₁.Perm fs₂)
    (hd : (fs₁.map (·.y)).Nodup) : vigFactor fs₁ Hx Hy = vigFactor fs₂ Hx Hy := by
  rw [vigFactor_eq, vigFactor_eq, vigKnots_perm fs₁ fs₂ _ hp hd, vigKnots_perm fs₁ fs₂ _ hp hd]

/-- **vigFactor_endpoints**: at a defined field — normalised radius `√(Hx²+Hy²) = y_f / max_y` —
the factors are exactly that field's `(vx, vy)`.  Guards: distinct `y`, positive largest `y`.
(The radius is non-negative, so a field with `y_f < 0` is never hit by any `(Hx, Hy)`.) -/
theorem vigFactor_endpoints (fs : List (FieldRec ℝ)) (f : FieldRec ℝ) (Hx Hy : ℝ) (hf : f ∈ fs)
    (hd : (fs.map (·.y)).Nodup) (hm : 0 < npMaxL (fs.map (·.y)))
    (hh : Real.sqrt (Hx * Hx + Hy * Hy) = f.y / npMaxL (fs.map (·.y))) :
    vigFactor fs Hx Hy = (f.vx, f.vy) := by
  refine vigFactor_of_sel fs Hx Hy (f.vx, f.vy) fun sel => ?_
  rw [hh]
  exact interp_at_knot _ (vigKnots_strict fs sel hd hm) _ (vigKnots_mem fs sel f hf hm.ne')

/-- the same at the field's own normalised coordinates `(0, y_f / max_y)`, `y_f ≥ 0` -/
theorem vigFactor_at_field (fs : List (FieldRec ℝ)) (f : FieldRec ℝ) (hf : f ∈ fs)
    (hd : (fs.map (·.y)).Nodup) (hm : 0 < npMaxL (fs.map (·.y))) (hy : 0 ≤ f.y) :
    vigFactor fs 0 (f.y / npMaxL (fs.map (·.y))) = (f.vx, f.vy) := by
  apply vigFactor_endpoints fs f _ _ hf hd hm
  rw [mul_zero, zero_add, Real.sqrt_mul_self (div_nonneg hy hm.le)]

/-- **vigFactor_linear**: between two neighbouring defined fields `f`, `g` (no defined field has its
`y` strictly between theirs) both factors are the linear interpolation in the normalised radius `h`:
`v = v_f + t·(v_g − v_f)`, `t = (h − h_f)/(h_g − h_f)`. -/
theorem vigFactor_linear (fs : List (FieldRec ℝ)) (f g : FieldRec ℝ) (Hx Hy : ℝ)
    (hf : f ∈ fs) (hg : g ∈ fs) (hd : (fs.map (·.y)).Nodup) (hm : 0 < npMaxL (fs.map (·.y)))
    (hfg : f.y < g.y) (hno : ∀ e ∈ fs, ¬ (f.y < e.y ∧ e.y < g.y))
    (h1 : f.y / npMaxL (fs.map (·.y)) ≤ Real.sqrt (Hx * Hx + Hy * Hy))
    (h2 : Real.sqrt (Hx * Hx + Hy * Hy) ≤ g.y / npMaxL (fs.map (·.y))) :
    let m := npMaxL (fs.map (·.y))
    let t := (Real.sqrt (Hx * Hx + Hy * Hy) - f.y / m) / (g.y / m - f.y / m)
    vigFactor fs Hx Hy = (f.vx + t * (g.vx - f.vx), f.vy + t * (g.vy - f.vy)) ∧ 0 ≤ t ∧ t ≤ 1 := by
  intro m t
  have hkeys : f.y / m < g.y / m := div_lt_div_of_pos_right hfg hm
  have e := fun sel : ℝ × ℝ → ℝ => interp_between_closed (Real.sqrt (Hx * Hx + Hy * Hy))
    (f.y / m, sel (f.vx, f.vy)) (g.y / m, sel (g.vx, g.vy)) _ (vigKnots_strict fs sel hd hm)
    (vigKnots_mem fs sel f hf hm.ne') (vigKnots_mem fs sel g hg hm.ne') hkeys
    (fun r hr ⟨ha, hb⟩ => by
      obtain ⟨e, he, hk⟩ := vigKnots_key fs sel hm.ne' r hr
      rw [hk] at ha hb
      exact hno e he ⟨(div_lt_div_iff_of_pos_right hm).mp ha, (div_lt_div_iff_of_pos_right hm).mp hb⟩)
    h1 h2
  have hpos : 0 < g.y / m - f.y / m := sub_pos.2 hkeys
  exact ⟨by rw [vigFactor_eq, e, e], div_nonneg (sub_nonneg.2 h1) hpos.le,
    (div_le_one hpos).mpr (sub_le_sub_right h2 _)⟩

/-- **vigFactor_in_hull**: both interpolated factors lie between the smallest and the largest
factor of the defined fields — for *every* non-empty field list and every `(Hx, Hy)` (no ordering or
distinctness needed: the hull property survives clamping, `max_y = 0`, even unsorted knots). -/
theorem vigFactor_in_hull (fs : List (FieldRec ℝ)) (Hx Hy lo hi : ℝ) (hne : fs ≠ [])
    (hvx : ∀ f ∈ fs, lo ≤ f.vx ∧ f.vx ≤ hi) (hvy : ∀ f ∈ fs, lo ≤ f.vy ∧ f.vy ≤ hi) :
    (lo ≤ (vigFactor fs Hx Hy).1 ∧ (vigFactor fs Hx Hy).1 ≤ hi) ∧
    (lo ≤ (vigFactor fs Hx Hy).2 ∧ (vigFactor fs Hx Hy).2 ≤ hi) := by
  have h := fun (sel : ℝ × ℝ → ℝ) (hv : ∀ f ∈ fs, lo ≤ sel (f.vx, f.vy) ∧ sel (f.vx, f.vy) ≤ hi) =>
    interp_hull (Real.sqrt (Hx * Hx + Hy * Hy)) lo hi _ (vigKnots_ne_nil fs sel hne) fun p hp => by
      obtain ⟨f, hf, hp2, -⟩ := vigKnots_value fs sel p hp
      rw [hp2]; exact hv f hf
  rw [vigFactor_eq]
  exact ⟨h Prod.fst hvx, h Prod.snd hvy⟩

/-- factors in `[0,1]` for all defined fields ⇒ in `[0,1]` everywhere, so the pupil only shrinks -/
theorem vigFactor_unit_interval (fs : List (FieldRec ℝ)) (Hx Hy : ℝ) (hne : fs ≠ [])
    (hv : ∀ f ∈ fs, (0 ≤ f.vx ∧ f.vx ≤ 1) ∧ (0 ≤ f.vy ∧ f.vy ≤ 1)) (P : ℝ) :
    |P * (1 - (vigFactor fs Hx Hy).1)| ≤ |P| ∧ |P * (1 - (vigFactor fs Hx Hy).2)| ≤ |P| := by
  obtain ⟨h1, h2⟩ := vigFactor_in_hull fs Hx Hy 0 1 hne (fun f hf => (hv f hf).1) (fun f hf => (hv f hf).2)
  exact ⟨vig_only_shrinks P _ h1.1 h1.2, vig_only_shrinks P _ h2.1 h2.2⟩


/-- **vigFactor_beyond_edge** (clamping): at and beyond the largest defined field (`h ≥ 1`) the
factors are those of the field with the largest `y` -/
theorem vigFactor_beyond_edge (fs : List (FieldRec ℝ)) (g : FieldRec ℝ) (Hx Hy : ℝ) (hg : g ∈ fs)
    (hd : (fs.map (·.y)).Nodup) (hm : 0 < npMaxL (fs.map (·.y))) (hgy : g.y = npMaxL (fs.map (·.y)))
    (hh : 1 ≤ Real.sqrt (Hx * Hx + Hy * Hy)) : vigFactor fs Hx Hy = (g.vx, g.vy) := by
  refine vigFactor_of_sel fs Hx Hy (g.vx, g.vy) fun sel => ?_
  refine interp_clamp_right _ (g.y / npMaxL (fs.map (·.y)), sel (g.vx, g.vy)) _
    (vigKnots_strict fs sel hd hm) (vigKnots_mem fs sel g hg hm.ne') (fun r hr => ?_)
    (by rw [hgy, div_self hm.ne']; exact hh)
  obtain ⟨e, he, hk⟩ := vigKnots_key fs sel hm.ne' r hr
  rw [hk]
  exact div_le_div_of_nonneg_right (hgy ▸ npMaxL_ge _ _ (List.mem_map.mpr ⟨e, he, rfl⟩)) hm.le

/-- **vigFactor_below_first** (clamping): when no field is defined on axis, every field point inside
the smallest defined field gets that field's factors -/
theorem vigFactor_below_first (fs : List (FieldRec ℝ)) (f : FieldRec ℝ) (Hx Hy : ℝ) (hf : f ∈ fs)
    (hd : (fs.map (·.y)).Nodup) (hm : 0 < npMaxL (fs.map (·.y))) (hmin : ∀ e ∈ fs, f.y ≤ e.y)
    (hh : Real.sqrt (Hx * Hx + Hy * Hy) ≤ f.y / npMaxL (fs.map (·.y))) :
    vigFactor fs Hx Hy = (f.vx, f.vy) := by
  refine vigFactor_of_sel fs Hx Hy (f.vx, f.vy) fun sel => ?_
  refine interp_clamp_left' _ (f.y / npMaxL (fs.map (·.y)), sel (f.vx, f.vy)) _
    (vigKnots_strict fs sel hd hm) (vigKnots_mem fs sel f hf hm.ne') (fun r hr => ?_) hh
  obtain ⟨e, he, hk⟩ := vigKnots_key fs sel hm.ne' r hr
  rw [hk]
  exact div_le_div_of_nonneg_right (hmin e he) hm.le

/-- a single field (e.g. only the on-axis field, `max_y = 0`): its factors everywhere -/
theorem vigFactor_single_field (f : FieldRec ℝ) (Hx Hy : ℝ) : vigFactor [f] Hx Hy = (f.vx, f.vy) := by
  rw [vigFactor_eq]
  simp [vigKnots, sortBy, insertBy, interp]

/-! ### how often `(1 − v)` is applied by each entry point -/

/-- `trace_generic` is `generate_rays` on pupil coordinates already multiplied by `(1 − v)` (also in
the error cases) -/
theorem genericLaunch_eq (S : RGSys ℝ) (Hx Hy Px Py : ℝ) :
    genericLaunch S Hx Hy Px Py =
      generateRay S Hx Hy (Px * (1 - (vigFactor S.fields Hx Hy).1)) (Py * (1 - (vigFactor S.fields Hx Hy).2)) := by
  unfold genericLaunch
  cases hx : S.fields.any (fun f => !(Num.isZero f.x)) with
  | true => rw [if_pos rfl, generateRay_fields_error S Hx Hy _ _ hx]
  | false => simp only [Bool.false_eq_true, if_false]

theorem vig_shrinks_twice (P v : ℝ) (h0 : 0 ≤ v) (h1 : v ≤ 1) : |P * (1 - v)^2| ≤ |P| := by
  rw [sq, ← mul_assoc]
  exact le_trans (vig_only_shrinks _ v h0 h1) (vig_only_shrinks P v h0 h1)

theorem vig_shrinks_thrice (P v : ℝ) (h0 : 0 ≤ v) (h1 : v ≤ 1) : |P * (1 - v)^3| ≤ |P| := by
  rw [show P * (1 - v)^3 = P * (1 - v)^2 * (1 - v) by ring]
  exact le_trans (vig_only_shrinks _ v h0 h1) (vig_shrinks_twice P v h0 h1)

/-- **genericLaunch_scaling.**  Pupil point hit in the plane `z = EPL`, in units of `EPD/2`, for a
requested normalised pupil coordinate `(Px, Py)` (non-telecentric, start plane ≠ pupil plane):
* `generate_rays`      : `(Px·(1−vx),  Py·(1−vy))`   — `generateRay_hits_pupil`;
* `Optic.trace_generic`: `(Px·(1−vx)², Py·(1−vy)²)`  — this theorem;
* `Optic.trace` with a named distribution: `(px·(1−vx)³, py·(1−vy)³)` for the raw distribution point
  `(px, py)` — `traceLaunch_scaling`.
In each case, for factors in `[0,1]`, `|launched| ≤ |requested|`. -/
theorem genericLaunch_scaling (S : RGSys ℝ) (Hx Hy Px Py : ℝ) (r : Ray ℝ)
    (ht : S.telecentric = false) (h : genericLaunch S Hx Hy Px Py = .ok r) (hz : r.z ≠ EPL S.psys) :
    let v := vigFactor S.fields Hx Hy
    (∃ mag, 0 < mag ∧ r.L^2 + r.M^2 + r.N^2 = 1 ∧
      r.x + mag * r.L = (Px * (1 - v.1)^2) * (EPD S.psys / 2) ∧
      r.y + mag * r.M = (Py * (1 - v.2)^2) * (EPD S.psys / 2) ∧
      r.z + mag * r.N = EPL S.psys) ∧
    (0 ≤ v.1 → v.1 ≤ 1 → |Px * (1 - v.1)^2| ≤ |Px|) ∧
    (0 ≤ v.2 → v.2 ≤ 1 → |Py * (1 - v.2)^2| ≤ |Py|) := by
  intro v
  rw [genericLaunch_eq] at h
  obtain ⟨mag, hm, hu, h1, h2, h3⟩ := generateRay_hits_pupil S Hx Hy _ _ r ht h hz
  refine ⟨⟨mag, hm, hu, ?_, ?_, h3⟩, vig_shrinks_twice Px v.1, vig_shrinks_twice Py v.2⟩
  · rw [h1]; ring
  · rw [h2]; ring

/-- the same for `Optic.trace` with a named distribution (`Launch.traceLaunch`, raw distribution
point `(px, py)` as produced by the model's `dist*`): third power -/
theorem traceLaunch_scaling (S : RGSys ℝ) (Hx Hy px py : ℝ) (r : Ray ℝ)
    (ht : S.telecentric = false) (h : traceLaunch S Hx Hy px py = .ok r) (hz : r.z ≠ EPL S.psys) :
    let v := vigFactor S.fields Hx Hy
    (∃ mag, 0 < mag ∧ r.L^2 + r.M^2 + r.N^2 = 1 ∧
      r.x + mag * r.L = (px * (1 - v.1)^3) * (EPD S.psys / 2) ∧
      r.y + mag * r.M = (py * (1 - v.2)^3) * (EPD S.psys / 2) ∧
      r.z + mag * r.N = EPL S.psys) ∧
    (0 ≤ v.1 → v.1 ≤ 1 → |px * (1 - v.1)^3| ≤ |px|) ∧
    (0 ≤ v.2 → v.2 ≤ 1 → |py * (1 - v.2)^3| ≤ |py|) := by
  intro v
  unfold traceLaunch at h
  obtain ⟨mag, hm, hu, h1, h2, h3⟩ := generateRay_hits_pupil S Hx Hy _ _ r ht h hz
  refine ⟨⟨mag, hm, hu, ?_, ?_, h3⟩, vig_shrinks_thrice px v.1, vig_shrinks_thrice py v.2⟩
  · rw [h1]; ring
  · rw [h2]; ring

/-- `trace` on the raw point = `trace_generic` on the point scaled once = `generate_rays` on the
point scaled twice -/
theorem traceLaunch_eq (S : RGSys ℝ) (Hx Hy px py : ℝ) :
    traceLaunch S Hx Hy px py =
      genericLaunch S Hx Hy (px * (1 - (vigFactor S.fields Hx Hy).1)) (py * (1 - (vigFactor S.fields Hx Hy).2)) := by
  rw [genericLaunch_eq]; rfl

/-! ### the hypotheses can be met (concrete systems: `Proofs/LaunchEx.lean`) -/

-- `infinite_object_direction*`: a 5°/10° field of the infinite-object system, pupil point (0.3, −0.4)
example := infinite_object_direction exInf 0.5 1 0.3 (-0.4) exhx rfl rfl rfl exInfDz
example := infinite_object_direction_same exInf 0.5 1 0.3 (-0.4) (-1) 0 exhx rfl rfl rfl exInfDz
example := infinite_object_direction_tan exInf 0.5 1 0.3 (-0.4) exhx rfl rfl rfl exInfPos1 exInfDpos
-- `infinite_object_direction_cosines`: the 10° field has direction `(0, sin 10°, cos 10°)`
example : ∃ r, generateRay exInf 0 1 0.3 (-0.4) = .ok r ∧ r.L = 0 ∧
    r.M = Real.sin (10 * 1 * (Real.pi / 180)) ∧ r.N = Real.cos (10 * 1 * (Real.pi / 180)) := by
  have h := infinite_object_direction_cosines exInf 1 0.3 (-0.4) exhx rfl rfl rfl exInfPos1 exInfDpos
  rw [show maxField exInf.fields = 10 from exMaxField] at h
  exact h (Real.cos_pos_of_mem_Ioo ⟨by linarith [Real.pi_pos], by linarith [Real.pi_pos]⟩)
example := infinite_object_fills_pupil exInf 0.5 1 0.3 (-0.4) exhx rfl rfl rfl exInfDz.ne'
example := finite_object_start_and_aim_height exFinH 0.5 1 0.3 (-0.4) exhx rfl rfl rfl (exFinHz _)
example := finite_object_start_and_aim_angle exFinA 0.5 1 0.3 (-0.4) exhx rfl rfl rfl exFinAz
example := finite_object_angle_chief exFinA 0.5 1 exhx rfl rfl rfl exFinAz
example := telecentric_object_space exTele 0.5 1 0.3 (-0.4) exhx rfl rfl rfl rfl exTeleNA.1 exTeleNA.2
example := telecentric_chief_parallel exTele 0.5 1 exhx rfl rfl rfl rfl exTeleNA.1 exTeleNA.2
-- `vigFactor_at_field`, `vigFactor_endpoints`: at the edge field `(0, 1)` and at `(0.6, 0.8)`
example : vigFactor exFields 0 1 = (0.1, 0.2) := by
  have := vigFactor_at_field exFields ⟨0, 10, 0.1, 0.2⟩ exField1 exNodup exMaxPos (by norm_num)
  rw [exMaxY] at this
  simpa using this
example : vigFactor exFields 0.6 0.8 = (0.1, 0.2) :=
  vigFactor_endpoints exFields ⟨0, 10, 0.1, 0.2⟩ 0.6 0.8 exField1 exNodup exMaxPos (by
    rw [exMaxY, show (0.6 * 0.6 + 0.8 * 0.8 : ℝ) = 1 by norm_num, Real.sqrt_one]; norm_num)
-- `vigFactor_linear`: half-way between the two fields, half the edge factors
example : vigFactor exFields 0.3 0.4 = (0.05, 0.1) := by
  have := (vigFactor_linear exFields ⟨0, 0, 0, 0⟩ ⟨0, 10, 0.1, 0.2⟩ 0.3 0.4 exField0 exField1 exNodup exMaxPos
    (by norm_num) (by simp [exFields])
    (by rw [exMaxY, exSqrt]; norm_num) (by rw [exMaxY, exSqrt]; norm_num)).1
  rw [this, exMaxY, exSqrt]; norm_num
-- `vigFactor_order_independent`, `vigFactor_in_hull`, `vigFactor_unit_interval`, `sortBy_*`
example (Hx Hy : ℝ) : vigFactor exFields Hx Hy = vigFactor [⟨0, 10, 0.1, 0.2⟩, ⟨0, 0, 0, 0⟩] Hx Hy :=
  vigFactor_order_independent _ _ Hx Hy (List.Perm.swap _ _ _) exNodup
example (Hx Hy : ℝ) := vigFactor_in_hull exFields Hx Hy 0 0.2 (by simp [exFields])
  (by simp [exFields]; norm_num) (by simp [exFields]; norm_num)
example (Hx Hy P : ℝ) := vigFactor_unit_interval exFields Hx Hy (by simp [exFields])
  (by simp [exFields]; norm_num) P
example : (sortBy [((3:ℝ), 'a'), (1, 'b'), (2, 'c')]).Perm [(3, 'a'), (1, 'b'), (2, 'c')] := sortBy_perm _
example : (sortBy [((3:ℝ), 'a'), (1, 'b'), (2, 'c')]).Pairwise (fun a b => a.1 < b.1) :=
  (sortBy_sorted _).2 (by simp)
example : sortBy [((3:ℝ), 'a'), (1, 'b'), (2, 'c')] = sortBy [(1, 'b'), (2, 'c'), (3, 'a')] :=
  sortBy_order_independent _ _ ((List.Perm.swap _ _ _).trans ((List.Perm.swap _ _ _).cons _))
    (by simp)
-- `telecentric_na`: on-axis field, marginal pupil point (0.6, 0.8)
example := telecentric_na exTele 0 0 0.6 0.8 exhx rfl rfl rfl rfl exTeleNA.1 exTeleNA.2 (by norm_num)
  (by show vigFactor exFields 0 0 = (0, 0)
      simpa using vigFactor_at_field exFields ⟨0, 0, 0, 0⟩ exField0 exNodup exMaxPos (by norm_num))
/-- `generateRay_hits_pupil`, `genericLaunch_scaling`, `traceLaunch_scaling`: a successful launch
with start plane ≠ pupil plane, for each entry point -/
theorem exFinH_launch (Px Py : ℝ) :
    ∃ r, generateRay exFinH 0.5 1 Px Py = .ok r ∧ r.z ≠ EPL exFinH.psys := by
  obtain ⟨r, hr, -, -, hz, -⟩ :=
    finite_object_start_and_aim_height exFinH 0.5 1 Px Py exhx rfl rfl rfl (exFinHz _)
  exact ⟨r, hr, hz ▸ exFinHz _⟩
example : ∃ r, generateRay exFinH 0.5 1 0.3 (-0.4) = .ok r ∧ r.z ≠ EPL exFinH.psys :=
  exFinH_launch _ _
example : ∃ r, genericLaunch exFinH 0.5 1 0.3 (-0.4) = .ok r ∧ r.z ≠ EPL exFinH.psys :=
  genericLaunch_eq exFinH 0.5 1 0.3 (-0.4) ▸ exFinH_launch _ _
example : ∃ r, traceLaunch exFinH 0.5 1 0.3 (-0.4) = .ok r ∧ r.z ≠ EPL exFinH.psys :=
  exFinH_launch _ _
example : |(0.3:ℝ) * (1 - 0.1)^2| ≤ |0.3| ∧ |(0.3:ℝ) * (1 - 0.1)^3| ≤ |0.3| :=
  ⟨vig_shrinks_twice 0.3 0.1 (by norm_num) (by norm_num), vig_shrinks_thrice 0.3 0.1 (by norm_num) (by norm_num)⟩
-- `rejected_nonsymmetric_fields`
example := rejected_nonsymmetric_fields ⟨exInf.psys, [⟨1, 0, 0, 0⟩], false, true, 0, 0⟩ 0 0 0 0
  (by simp [Num.isZero, NumReal.le_decide, NumReal.fzero_eq])

-- `vigFactor_beyond_edge`: `(Hx, Hy) = (0.9, 0.8)`
example : vigFactor exFields 0.9 0.8 = (0.1, 0.2) :=
  vigFactor_beyond_edge exFields ⟨0, 10, 0.1, 0.2⟩ 0.9 0.8 exField1 exNodup exMaxPos exMaxY.symm (by
    rw [show (1:ℝ) = Real.sqrt 1 from Real.sqrt_one.symm]
    exact Real.sqrt_le_sqrt (by norm_num))
-- `vigFactor_below_first`: fields `y = 5, 10` only, inside the first field
example : vigFactor ([⟨0, 5, 0.05, 0.1⟩, ⟨0, 10, 0.1, 0.2⟩] : List (FieldRec ℝ)) 0 0 = (0.05, 0.1) := by
  have hmax : npMaxL (([⟨0, 5, 0.05, 0.1⟩, ⟨0, 10, 0.1, 0.2⟩] : List (FieldRec ℝ)).map (·.y)) = 10 := by
    simp [npMaxL, NumReal.lt_decide]; norm_num
  exact vigFactor_below_first [⟨0, 5, 0.05, 0.1⟩, ⟨0, 10, 0.1, 0.2⟩] ⟨0, 5, 0.05, 0.1⟩ 0 0
    (by simp) (by simp) (by rw [hmax]; norm_num) (by simp; norm_num) (by rw [hmax]; simp; norm_num)
example (Hx Hy : ℝ) : vigFactor [(⟨0, 0, 0.3, 0.4⟩ : FieldRec ℝ)] Hx Hy = (0.3, 0.4) :=
  vigFactor_single_field _ Hx Hy

end C03
