import OptiModel.Proofs.EffectsBatch
import Mathlib.Tactic.Ring
import Mathlib.Tactic.NormNum
/-!
# C13  Tracing and analysis are repeatable and free of side effects

Theorems about `Model/Effects.lean` (state machine `St = (lens, records, heap)`) and about the
batch structure of the real tracer `Model/Real.lean`.  Everything that does not involve
arithmetic is proved for an arbitrary carrier `α` with `[Num α]` – in particular for `Float`,
the carrier the driver runs, so that "bit-identical" is literally what is proved there.
-/
namespace C13
open Model hiding Op step
open Model.Fx

variable {α : Type} [Num α]

/-! ## A. paraxial queries -/

/-- **paraxial_query_is_pure**: every `Paraxial` query, executed against arbitrary records (forward
traces overwrite the lens' own records after `reset`, reverse traces run on the deep copy made by
`inverted`), returns the pure function of the prescription of `Model/Parax.lean` (C04). -/
theorem paraxial_query_is_pure (S : PSys α) (q : Query) (recs : Recs α) :
    (queryM S q recs).1 = queryPure S q := queryM_val S q recs

/-- a query made of reverse traces only (here `f1`) leaves the records of the lens untouched -/
theorem reverse_query_keeps_records (S : PSys α) (recs : Recs α) : (f1M S recs).2 = recs := by
  simp only [f1M, tgM_recs_rev]

/-! ## B. batch independence of the real tracer -/

/-- every surface of the list has a closed-form intersection (plane / conic) -/
def AllClosed (ss : List (RSurf α)) : Prop := ∀ s ∈ ss, closedForm s.geom = true

omit [Num α] in
theorem AllClosed.cons {s : RSurf α} {ss : List (RSurf α)} (h : AllClosed (s :: ss)) :
    closedForm s.geom = true ∧ AllClosed ss :=
  ⟨h s List.mem_cons_self, fun t ht => h t (List.mem_cons_of_mem _ ht)⟩

/-- with closed-form geometries the whole surface loop commutes with every regrouping `F` of the batch that
commutes with `map` (a sub-batch, a reordering, a duplication): each ray goes through on its own -/
theorem traceLens_natural (F : List (Ray α) → List (Ray α))
    (hF : ∀ (f : Ray α → Ray α) (l : List (Ray α)), F (l.map f) = (F l).map f)
    (w : α) (ss : List (RSurf α)) (rays : List (Ray α)) (h : AllClosed ss) :
    traceLens w ss (F rays) = (traceLens w ss rays).map F := by
  induction ss generalizing rays with
  | nil => rfl
  | cons s ss ih =>
    obtain ⟨hs, hss⟩ := h.cons
    simp only [traceLens, List.map_cons, traceSurf_eq_map s w _ hs]
    rw [← hF, ih _ hss]

/-- **batch_independence** (first block).  With closed-form geometries the per-surface records of
the rays `a`, traced together with any other rays `b`, are the records of `a` traced alone –
for every carrier, hence bit for bit over `Float`. -/
theorem batch_independence (w : α) (ss : List (RSurf α)) (a b : List (Ray α)) (h : AllClosed ss) :
    (traceLens w ss (a ++ b)).map (List.take a.length) = traceLens w ss a := by
  rw [← traceLens_natural _ (fun _ _ => List.map_take.symm) w ss _ h, List.take_left]

/-- **batch_independence_drop**: the second block, the rays traced *after* others in the same call -/
theorem batch_independence_drop (w : α) (ss : List (RSurf α)) (a b : List (Ray α)) (h : AllClosed ss) :
    (traceLens w ss (a ++ b)).map (List.drop a.length) = traceLens w ss b := by
  rw [← traceLens_natural _ (fun _ _ => List.map_drop.symm) w ss _ h, List.drop_left]

/-- **batch_independence_single**: one ray anywhere in a batch; its record at every surface is the
record of that ray traced alone -/
theorem batch_independence_single (w : α) (ss : List (RSurf α)) (pre post : List (Ray α)) (r : Ray α)
    (h : AllClosed ss) :
    (traceLens w ss (pre ++ r :: post)).map (fun rs => (rs.drop pre.length).take 1) = traceLens w ss [r] := by
  have h1 := batch_independence_drop w ss pre (r :: post) h
  have h2 := batch_independence w ss [r] post h
  rw [← h2, List.singleton_append, ← h1, List.map_map]
  rfl

/-- the hypothesis is satisfiable: a plane and a conic surface -/
example (z o : α) : AllClosed [(⟨.standard, ⟨z, z, z, z, z, z⟩, .plane, o, o, z, false, none, none⟩ : RSurf α),
    ⟨.standard, ⟨z, z, z, z, z, z⟩, .standard o z, o, o, z, false, none, none⟩] := by
  intro s hs
  simp only [List.mem_cons, List.not_mem_nil, or_false] at hs
  rcases hs with rfl | rfl <;> rfl

/-! ### Newton–Raphson geometries: what the other rays of a batch decide

`NewtonRaphsonGeometry.distance` stops when `max |dz| < tol` over the *whole batch*.  Each sweep
acts on every ray separately (`nrSweep_pts`), so the batch only decides *how many* sweeps all
rays receive (`nrLoop_eq_iter`): a ray traced with others receives at least as many steps as when
traced alone.  Each further step moves the point along its own ray (`nrStep_on_ray`) by exactly
`|dz| / |N|` (`nrStep_displacement`), which is below `tol / |N|` once the ray has met the
stopping test (`nrStep_displacement_lt`).

Over ℝ (no NaN) the count can only grow with the batch: `nr_alone_stops_no_later` (`k_alone ≤ k_batch`).

Full statement (not proved; numerical only): for every ray, the points found in a batch and alone
differ by at most `tol / |N|`.  Missing: convergence of the Newton iteration (contraction of
`|dz|` under the further steps, so that the added displacements stay below the first one), and
the NaN case of the float `np.max` (a NaN ray keeps the whole batch iterating to `max_iter`). -/

/-- the loop is `k` sweeps for some `k ≤ max_iter`: the same `k` for every ray of the batch -/
theorem nrLoop_eq_iter (g : Geom α) (rays : List (Ray α)) (tol : α) (n : Nat) (pts : List (α × α × α)) :
    ∃ k, k ≤ n ∧ nrLoop g rays tol n pts = nrIter g rays k pts :=
  ⟨_, nrCount_le g rays tol n pts, nrLoop_eq_count g rays tol n pts⟩

/-- **batch_independence_nr_partial**: in a batch `a ++ b` the rays `a` end at the points of
`k` Newton steps, alone at the points of `k'` Newton steps of the *same* per-ray iteration from
the same start; only the counts `k, k' ≤ max_iter` differ (`k` is decided by all of `a ++ b`).  For every
carrier; over ℝ `nr_alone_stops_no_later` adds `k' ≤ k`. -/
theorem batch_independence_nr_partial (g : Geom α) (a b : List (Ray α)) (tol : α) (n : Nat)
    (pa pb : List (α × α × α)) (hl : pa.length = a.length) :
    ∃ k k', k ≤ n ∧ k' ≤ n ∧
      (nrLoop g (a ++ b) tol n (pa ++ pb)).take a.length = nrIter g a k pa ∧
      nrLoop g a tol n pa = nrIter g a k' pa :=
  ⟨_, _, nrCount_le _ _ _ _ _, nrCount_le _ _ _ _ _,
    by rw [nrLoop_eq_count, nrIter_take g a b _ pa pb hl], nrLoop_eq_count g a tol n pa⟩

/-! ## C. frame condition and independence of history -/

/-- **query_preserves_prescription**: a call that is not an editing operation leaves the lens
(prescription, fields, wavelengths-dependent media, aperture) exactly as it was.
*By construction of the model*: `step` returns `s.lens` unchanged for `.call` and `.analysis` (the
proof is `rfl`), so this theorem adds nothing to the definition of `Model.Fx.step`; that the Python
calls have this frame property is established only by the conformance run (`optic.to_dict()` before
and after every call, `harness/c13.py`), not by a proof. -/
theorem query_preserves_prescription (env : Env α) (code : Bool) (s : St α) (op : Op α)
    (h : op.isEdit = false) : (step env code s op).1.lens = s.lens := by
  cases op with
  | call c => rfl
  | analysis a => rfl
  | edit f => simp [Op.isEdit] at h

/-- what every call of a history keeps, the history keeps -/
theorem run_keeps {γ : Type} (obs : St α → γ) (env : Env α) (code : Bool) (ops : List (Op α))
    (h : ∀ op ∈ ops, ∀ s, obs (step env code s op).1 = obs s) (s : St α) : obs (run env code s ops) = obs s := by
  induction ops generalizing s with
  | nil => rfl
  | cons op ops ih =>
    exact (ih (fun o ho => h o (List.mem_cons_of_mem _ ho)) _).trans (h op List.mem_cons_self s)

/-- … and so does every interleaving of such calls -/
theorem query_preserves_prescription_run (env : Env α) (code : Bool) (ops : List (Op α)) (s : St α)
    (h : ∀ op ∈ ops, op.isEdit = false) : (run env code s ops).lens = s.lens :=
  run_keeps (·.lens) env code ops (fun op ho s => query_preserves_prescription env code s op (h op ho)) s

/-- **result_independent_of_history**: on the same lens and with the same caller arrays the value
returned by a call, and the caller arrays afterwards, are the same whatever was traced before
(the records component is arbitrary on both sides).  Reason, visible in the proof: every forward
trace starts with `reset`, reverse traces work on a copy, results are read after the overwrite. -/
theorem result_independent_of_history (env : Env α) (code : Bool) (s₁ s₂ : St α) (op : Op α)
    (hl : s₁.lens = s₂.lens) (hh : s₁.heap = s₂.heap) :
    (step env code s₁ op).2 = (step env code s₂ op).2 ∧
    (step env code s₁ op).1.heap = (step env code s₂ op).1.heap := by
  cases op with
  | call c =>
    obtain ⟨hv, hp, _⟩ := stepCall_indep env code s₂.lens c s₁.records s₂.records s₂.heap
    simp only [step, hl, hh]
    exact ⟨hv, hp⟩
  | analysis a =>
    obtain ⟨hv, hp⟩ := runCalls_indep env code s₂.lens (a.calls s₂.lens) s₁.records s₂.records s₂.heap
    simp only [step, hl, hh]
    exact ⟨by rw [hv], hp⟩
  | edit f => simp only [step, hh, and_self]

/-- the records left by a tracing call are a function of lens, arguments and caller arrays -/
theorem records_independent_of_history (env : Env α) (code : Bool) (s₁ s₂ : St α) (c : Call α)
    (hl : s₁.lens = s₂.lens) (hh : s₁.heap = s₂.heap) (hc : c.exposes = true)
    (he : (step env code s₁ (.call c)).2.err = false) :
    (step env code s₁ (.call c)).1.records = (step env code s₂ (.call c)).1.records := by
  obtain ⟨_, _, hr⟩ := stepCall_indep env code s₂.lens c s₁.records s₂.records s₂.heap
  simp only [step, hl, hh] at he ⊢
  exact hr hc he

/-- the hypotheses are satisfiable: `Optic.trace` exposes its records and does not raise -/
example (env : Env α) (code : Bool) (s : St α) (Hx Hy w : α) (pts : List (α × α)) :
    (Call.trace Hx Hy w pts).exposes = true ∧ (step env code s (.call (.trace Hx Hy w pts))).2.err = false :=
  ⟨rfl, rfl⟩

/-! ## D. caller-owned arrays -/

/-- **caller_arrays_unchanged_spec** (specification variant, `code = false`): no call writes a
caller-owned array.  The variant `code = false` of `scaleArg` returns the heap it was given, so this
restates the definition of the specification variant; the statements about the tree are
`caller_arrays_unchanged_code_noarr`, `caller_arrays_unchanged_partial` and the negation witness
`caller_arrays_changed_code` below. -/
theorem caller_arrays_unchanged_spec (env : Env α) (s : St α) (op : Op α) :
    (step env false s op).1.heap = s.heap := by
  cases op with
  | call c => exact stepCall_spec_heap env s.lens c _
  | analysis a => exact runCalls_spec_heap env s.lens _ _
  | edit f => rfl

theorem caller_arrays_unchanged_spec_run (env : Env α) (ops : List (Op α)) (s : St α) :
    (run env false s ops).heap = s.heap :=
  run_keeps (·.heap) env false ops (fun op _ s => caller_arrays_unchanged_spec env s op) s

/-- repeated identical calls return equal results (specification variant): consequence of the
three theorems above -/
theorem repeated_call_equal_spec (env : Env α) (s : St α) (op : Op α) (h : op.isEdit = false) :
    (step env false (step env false s op).1 op).2 = (step env false s op).2 :=
  (result_independent_of_history env false _ s op (query_preserves_prescription env false s op h)
    (caller_arrays_unchanged_spec env s op)).1

/-- the same with any non-editing calls in between -/
theorem repeated_call_equal_spec_run (env : Env α) (s : St α) (op : Op α) (between : List (Op α))
    (h : ∀ o ∈ between, o.isEdit = false) :
    (step env false (run env false s between) op).2 = (step env false s op).2 :=
  (result_independent_of_history env false _ s op (query_preserves_prescription_run env false between s h)
    (caller_arrays_unchanged_spec_run env between s)).1

/-! ### the code as it stands (`code = true`), over ℝ -/

/-- **caller_arrays_unchanged_partial** (the code as it stands).  Full statement, false for the
tree (see `caller_arrays_changed_code`): `∀ env s op, (step env true s op).1.heap = s.heap`.
Proved part: it holds when the vignetting factors at the requested field are zero – the in-place
product then multiplies by `1 - 0`.  Missing: the case of a non-zero factor, where the tree
writes the caller's array (finding F3). -/
theorem caller_arrays_unchanged_partial (env : Env ℝ) (hz : ZeroVig env) (s : St ℝ) (op : Op ℝ) :
    (step env true s op).1.heap = s.heap := by
  cases op with
  | call c => exact stepCall_code_zero_heap env hz s.lens c _
  | analysis a => exact runCalls_code_zero_heap env hz s.lens _ _
  | edit f => rfl

/-- the hypothesis is satisfiable -/
example : ZeroVig (⟨fun _ _ _ => ([0], [0]), fun _ _ => []⟩ : Env ℝ) := fun _ _ _ => rfl

/-- the lens used by the witness below (contents irrelevant) -/
noncomputable def witnessLens : Lens ℝ := ⟨⟨[], .EPD, 1, .angle, 0, true⟩, [], fun _ => []⟩

/-- **caller_arrays_changed_code** (negation witness, F3): with vignetting factor 1/2 the call
`trace_generic(0, 0, Px, 0, w)` with `Px = array([1.])` leaves the caller's array at `[0.5]`. -/
theorem caller_arrays_changed_code :
    ∃ (env : Env ℝ) (s : St ℝ) (op : Op ℝ), op.isEdit = false ∧ (step env true s op).1.heap ≠ s.heap := by
  refine ⟨⟨fun _ _ _ => ([1/2], [0]), fun _ _ => []⟩, ⟨witnessLens, [], [[1]]⟩,
    .call (.traceGeneric (.scalar 0) (.scalar 0) (.arr 0) (.scalar 0) 1), rfl, ?_⟩
  have e : (step (⟨fun _ _ _ => ([1/2], [0]), fun _ _ => []⟩ : Env ℝ) true ⟨witnessLens, [], [[1]]⟩
      (.call (.traceGeneric (.scalar 0) (.scalar 0) (.arr 0) (.scalar 0) 1))).1.heap = [[1 * (1 - 1/2)]] := by
    simp only [step, stepCall, traceGenericM, scaleArg, if_true, Arg.read, mulB, List.getD_cons_zero,
      List.set_cons_zero, List.map_cons, List.map_nil]
  rw [e]
  intro hc
  have := (List.cons.inj (List.cons.inj hc).1).1
  norm_num at this

/-- … and the second of two identical calls then launches different rays: the effective pupil
coordinate handed to the generator is `0.25`, not `0.5` (repeatability is lost as well). -/
theorem repeated_call_sees_changed_array :
    let env : Env ℝ := ⟨fun _ _ _ => ([1/2], [0]), fun _ g => g.px.map fun p => ⟨p, 0, 0, 0, 0, 1, 1, 0⟩⟩
    let s : St ℝ := ⟨witnessLens, [], [[1]]⟩
    let op : Op ℝ := .call (.traceGeneric (.scalar 0) (.scalar 0) (.arr 0) (.scalar 0) 1)
    (step env true (step env true s op).1 op).2.rays ≠ (step env true s op).2.rays := by
  intro env s op
  -- one call on a caller array `[x]`: the array is left at `x·(1 − ½)`, which is also what the generator sees
  have key : ∀ x : ℝ, step env true ⟨witnessLens, [], [[x]]⟩ op =
      (⟨witnessLens, [], [[x * (1 - 1/2)]]⟩, { rays := [⟨x * (1 - 1/2), 0, 0, 0, 0, 1, 1, 0⟩] }) := by
    intro x
    simp only [env, op, step, stepCall, traceGenericM, scaleArg, if_true, Arg.read, mulB, List.getD_cons_zero,
      List.set_cons_zero, List.map_cons, List.map_nil, genM, groupTraceR, witnessLens, traceLens,
      List.getLastD, bcast]
    rfl
  rw [show s = ⟨witnessLens, [], [[1]]⟩ from rfl, key 1, key]
  intro hc
  have := (Ray.mk.inj (List.cons.inj hc).1).1
  norm_num at this

/-! ### one Newton–Raphson step over ℝ -/

/-- the new point lies on the ray through the old point -/
theorem nrStep_on_ray (g : Geom ℝ) (r : Ray ℝ) (p : ℝ × ℝ × ℝ) :
    ∃ t : ℝ, (nrStep g r p).1 = (p.1 + t * r.L, p.2.1 + t * r.M, p.2.2 + t * r.N) :=
  ⟨_, congrArg Prod.fst (nrStep_eq g r p)⟩

/-- it moves the point by exactly `|dz| / |N|` for a unit direction.  (`hN` is not used by the proof:
over ℝ the equation also holds at `N = 0` because `dz / 0 = 0` on both sides, whereas the code
divides by zero there (`inf`/`nan`); the guard keeps the statement to what it means for the code.) -/
theorem nrStep_displacement (g : Geom ℝ) (r : Ray ℝ) (p : ℝ × ℝ × ℝ) (hu : r.L^2 + r.M^2 + r.N^2 = 1)
    (_hN : r.N ≠ 0) :
    ((nrStep g r p).1.1 - p.1)^2 + ((nrStep g r p).1.2.1 - p.2.1)^2 + ((nrStep g r p).1.2.2 - p.2.2)^2
      = ((p.2.2 - g.nrSag p.1 p.2.1) / r.N)^2 := by
  rw [nrStep_eq]
  generalize (p.2.2 - g.nrSag p.1 p.2.1) / r.N = d
  show (p.1 + -d * r.L - p.1)^2 + (p.2.1 + -d * r.M - p.2.1)^2 + (p.2.2 + -d * r.N - p.2.2)^2 = d^2
  rw [add_sub_cancel_left, add_sub_cancel_left, add_sub_cancel_left, ← mul_one (d ^ 2), ← hu]
  ring

/-- … hence by less than `tol / |N|` once the ray itself meets the stopping test `|dz| < tol` -/
theorem nrStep_displacement_lt (g : Geom ℝ) (r : Ray ℝ) (p : ℝ × ℝ × ℝ) (tol : ℝ)
    (hu : r.L^2 + r.M^2 + r.N^2 = 1) (hN : r.N ≠ 0) (hz : (nrStep g r p).2 < tol) :
    ((nrStep g r p).1.1 - p.1)^2 + ((nrStep g r p).1.2.1 - p.2.1)^2 + ((nrStep g r p).1.2.2 - p.2.2)^2
      < (tol / r.N)^2 := by
  have hz' : |p.2.2 - g.nrSag p.1 p.2.1| < tol := by rw [nrStep_eq] at hz; exact hz
  rw [nrStep_displacement g r p hu hN, div_pow, div_pow]
  exact div_lt_div_of_pos_right (sq_lt_sq' (neg_lt_of_abs_lt hz') (lt_of_abs_lt hz')) (sq_pos_of_ne_zero hN)

example : ∃ (g : Geom ℝ) (r : Ray ℝ) (p : ℝ × ℝ × ℝ) (tol : ℝ),
    r.L^2 + r.M^2 + r.N^2 = 1 ∧ r.N ≠ 0 ∧ (nrStep g r p).2 < tol :=
  ⟨.plane, ⟨0, 0, 0, 0, 0, 1, 1, 0⟩, (0, 0, 0), 1, by norm_num, by norm_num, by
    simp only [nrStep, Geom.nrSag]; num_real; norm_num⟩

/-! ## E. the code as it stands (`code = true`), every carrier: which calls are safe

Sections C/D prove repeatability only for the specification variant
(`code = false`).  For the tree (`code = true`) the only place where a caller-owned array is
written is `trace_generic` with an ndarray `Px` or `Py`; every other call (and every analysis that
issues only such calls) leaves the heap alone and is therefore repeatable bit for bit – for every
carrier, in particular `Float`. -/


/-- the call hands no caller-owned array as `Px` / `Py` (scalars, or arrays the callee allocated) -/
def noArrPupil : Call α → Bool
  | .traceGeneric _ _ (.arr _) _ _ => false
  | .traceGeneric _ _ _ (.arr _) _ => false
  | _ => true

theorem stepCall_code_noarr_heap (env : Env α) (L : Lens α) (c : Call α) (st : Recs α × Heap α)
    (h : noArrPupil c = true) : (stepCall env true L c st).2.2 = st.2 := by
  cases c with
  | trace Hx Hy w pts => rfl
  | query q => rfl
  | paraxTrace Hy Py => rfl
  | traceGeneric Hx Hy Px Py w =>
    cases Px <;> cases Py <;> first | rfl | (simp [noArrPupil] at h)

theorem runCalls_code_noarr_heap (env : Env α) (L : Lens α) (cs : List (Call α)) (st : Recs α × Heap α)
    (h : ∀ c ∈ cs, noArrPupil c = true) : (runCalls env true L cs st).2.2 = st.2 := by
  induction cs generalizing st with
  | nil => rfl
  | cons c cs ih =>
    simp only [runCalls]
    rw [ih _ (fun d hd => h d (by simp [hd])), stepCall_code_noarr_heap env L c st (h c (by simp))]

/-- an op all of whose calls satisfy `noArrPupil` on the current lens -/
def OpNoArr (L : Lens α) : Op α → Prop
  | .call c => noArrPupil c = true
  | .analysis a => ∀ c ∈ a.calls L, noArrPupil c = true
  | .edit _ => True

/-- **caller_arrays_unchanged_code_noarr** (the code as it stands, every carrier): a call that does
not pass a caller-owned ndarray as `Px` / `Py` writes no caller-owned array (`Hx`, `Hy` may be
caller arrays: they are only read). -/
theorem caller_arrays_unchanged_code_noarr (env : Env α) (s : St α) (op : Op α) (h : OpNoArr s.lens op) :
    (step env true s op).1.heap = s.heap := by
  cases op with
  | call c => exact stepCall_code_noarr_heap env s.lens c _ h
  | analysis a => exact runCalls_code_noarr_heap env s.lens _ _ h
  | edit f => rfl

/-- **repeated_call_equal_of_heap** (either variant): whenever the first call left the caller arrays as they
were, the second of two identical non-editing calls returns the same result. -/
theorem repeated_call_equal_of_heap (env : Env α) (code : Bool) (s : St α) (op : Op α)
    (h : op.isEdit = false) (hh : (step env code s op).1.heap = s.heap) :
    (step env code (step env code s op).1 op).2 = (step env code s op).2 :=
  (result_independent_of_history env code _ s op (query_preserves_prescription env code s op h) hh).1

/-- the code as it stands is repeatable (bit for bit over `Float`) on every call without ndarray
`Px` / `Py` -/
theorem repeated_call_equal_code_noarr (env : Env α) (s : St α) (op : Op α) (h : op.isEdit = false)
    (hn : OpNoArr s.lens op) : (step env true (step env true s op).1 op).2 = (step env true s op).2 :=
  repeated_call_equal_of_heap env true s op h (caller_arrays_unchanged_code_noarr env s op hn)

/-- … and, over ℝ, on every call when the lens has no vignetting factors -/
theorem repeated_call_equal_code_zero_vig (env : Env ℝ) (hz : ZeroVig env) (s : St ℝ) (op : Op ℝ)
    (h : op.isEdit = false) : (step env true (step env true s op).1 op).2 = (step env true s op).2 :=
  repeated_call_equal_of_heap env true s op h (caller_arrays_unchanged_partial env hz s op)

/-- the hypothesis is satisfiable by the calls that matter: `Optic.trace`, every paraxial query,
`trace_generic` with scalar pupil coordinates and *array* field coordinates -/
example (Hx Hy w : α) (pts : List (α × α)) (q : Query) (p : α) :
    noArrPupil (Call.trace Hx Hy w pts) = true ∧ noArrPupil (Call.query q : Call α) = true ∧
    noArrPupil (Call.traceGeneric (.arr 0) (.arr 1) (.scalar p) (.fresh [p, p]) w) = true :=
  ⟨rfl, rfl, rfl⟩

/-! ## F. per-ray root selection, regrouping of a batch, interleavings with edits -/

open scoped Num

/-! ### F.a  `StandardGeometry.distance`: the degenerate branch is taken ray by ray -/

/-- **std_distance_selects_per_ray**: for every batch, `StandardGeometry.distance` gives each ray
the linear root `-c/b` exactly when *its own* `a` is zero, and the selected quadratic root
otherwise – whatever the other rays of the batch are (every carrier, hence bit for bit over
`Float`; a variant "if any ray has `a == 0` take the linear root for all" does not satisfy this). -/
theorem std_distance_selects_per_ray (R k : α) (rays : List (Ray α)) :
    (Geom.standard R k).distance rays = rays.map fun r =>
      if Num.isZero (conicABC R k r).1 then -(conicABC R k r).2.2 / (conicABC R k r).2.1
      else selectRootQuad (conicABC R k r).1 (conicABC R k r).2.1 (conicABC R k r).2.2 r.z r.N := by
  simp only [Geom.distance]
  apply List.map_congr_left
  intro r _
  rw [stdDistance_eq, selectRoot_eq]

/-- **std_distance_per_ray_in_batch**: the value of the ray at any position of a batch is the value
of that ray alone -/
theorem std_distance_per_ray_in_batch (R k : α) (pre post : List (Ray α)) (r : Ray α) :
    ((Geom.standard R k).distance (pre ++ r :: post))[pre.length]? = ((Geom.standard R k).distance [r]).head? := by
  simp only [Geom.distance, List.map_append, List.map_cons, List.map_nil, List.head?_cons]
  rw [List.getElem?_append_right (by simp)]
  simp

/-- **std_distance_mixed_batch**: a batch that mixes a ray with `a = 0` and a ray with `a ≠ 0`
(in either order): the first gets the linear root, the second the quadratic one. -/
theorem std_distance_mixed_batch (R k : α) (r0 r1 : Ray α)
    (h0 : Num.isZero (conicABC R k r0).1 = true) (h1 : Num.isZero (conicABC R k r1).1 = false) :
    (Geom.standard R k).distance [r0, r1] =
      [-(conicABC R k r0).2.2 / (conicABC R k r0).2.1,
       selectRootQuad (conicABC R k r1).1 (conicABC R k r1).2.1 (conicABC R k r1).2.2 r1.z r1.N] ∧
    (Geom.standard R k).distance [r1, r0] =
      [selectRootQuad (conicABC R k r1).1 (conicABC R k r1).2.1 (conicABC R k r1).2.2 r1.z r1.N,
       -(conicABC R k r0).2.2 / (conicABC R k r0).2.1] := by
  simp only [std_distance_selects_per_ray, List.map_cons, List.map_nil, h0, h1, if_true,
    Bool.false_eq_true, if_false, and_self]

/-- the hypotheses are satisfiable over ℝ: a paraboloid (`k = -1`), an axial ray (`a = 0`) and an
oblique unit ray (`a = 9/25`) -/
example : Num.isZero (conicABC (1:ℝ) (-1) ⟨0, 0, -1, 0, 0, 1, 1, 0⟩).1 = true ∧
    Num.isZero (conicABC (1:ℝ) (-1) ⟨0, 0, -1, 3/5, 0, 4/5, 1, 0⟩).1 = false := by
  constructor
  · rw [NumReal.isZero_eq]; simp only [conicABC]; num_real; norm_num
  · rw [← Bool.not_eq_true, NumReal.isZero_eq]; simp only [conicABC]; num_real; norm_num

/-! ### F.b  the whole surface loop: order and grouping of the batch -/

/-- **traceLens_per_ray**: with closed-form geometries the record of surface `j` is, ray by ray,
the ray traced alone through the surfaces `0..j` – localisation, intersection, propagation,
optical path, aperture clipping (`i := 0`), refraction/reflection and coating included, since all
of these are inside `traceRay`. -/
theorem traceLens_per_ray (w : α) (ss : List (RSurf α)) (rays : List (Ray α)) (h : AllClosed ss)
    (j : Nat) (hj : j < ss.length) :
    (traceLens w ss rays)[j]? = some (rays.map (rayThrough w (ss.take (j + 1)))) := by
  induction ss generalizing rays j with
  | nil => simp at hj
  | cons s ss ih =>
    obtain ⟨hs, hss⟩ := h.cons
    cases j with
    | zero =>
      simp only [traceLens, traceSurf_eq_map s w _ hs, List.getElem?_cons_zero]
      rfl
    | succ j =>
      have hj' : j < ss.length := by simpa using hj
      simp only [traceLens, traceSurf_eq_map s w _ hs, List.getElem?_cons_succ, List.take_succ_cons]
      rw [ih _ hss j hj', List.map_map]
      rfl

/-- **batch_gather**: any regrouping of the batch (reordering, sub-batch, duplication; `gather idx`)
commutes with the whole surface loop: every per-surface record of the regrouped batch is the
regrouped record of the original batch. -/
theorem batch_gather (w : α) (ss : List (RSurf α)) (idx : List Nat) (rays : List (Ray α)) (h : AllClosed ss) :
    traceLens w ss (gather idx rays) = (traceLens w ss rays).map (gather idx) :=
  traceLens_natural _ (fun f l => (gather_map f idx l).symm) w ss rays h

/-- **batch_concat**: rays of several field points traced in one call: the records are the
concatenation, surface by surface, of the records of the separate calls. -/
theorem batch_concat (w : α) (ss : List (RSurf α)) (a b : List (Ray α)) (h : AllClosed ss) :
    traceLens w ss (a ++ b) = List.zipWith (· ++ ·) (traceLens w ss a) (traceLens w ss b) := by
  induction ss generalizing a b with
  | nil => rfl
  | cons s ss ih =>
    obtain ⟨hs, hss⟩ := h.cons
    simp only [traceLens, traceSurf_append s w a b hs, List.zipWith_cons_cons]
    rw [ih _ _ hss]

/-- **batch_perm**: a permutation of the batch permutes every per-surface record -/
theorem batch_perm (w : α) (ss : List (RSurf α)) (a b : List (Ray α)) (h : AllClosed ss) (hp : a.Perm b) :
    List.Forall₂ List.Perm (traceLens w ss a) (traceLens w ss b) := by
  induction ss generalizing a b with
  | nil => exact List.Forall₂.nil
  | cons s ss ih =>
    obtain ⟨hs, hss⟩ := h.cons
    simp only [traceLens, traceSurf_eq_map s w _ hs]
    exact List.Forall₂.cons (hp.map _) (ih _ _ hss (hp.map _))

/-- **group_trace_gather**: the same at the level of `SurfaceGroup.trace`: the rays returned for a
regrouped batch are the regrouped returned rays, and the per-surface records left on the lens are
the regrouped records. -/
theorem group_trace_gather (L : Lens α) (w : α) (idx : List Nat) (rays : List (Ray α)) (recs : Recs α)
    (h : AllClosed (L.real w)) :
    (groupTraceR L w (gather idx rays) recs).1 = gather idx (groupTraceR L w rays recs).1 ∧
    (groupTraceR L w (gather idx rays) recs).2 =
      (traceLens w (L.real w) rays).map fun r => Rec.real (gather idx r) := by
  simp only [groupTraceR, batch_gather w _ idx rays h, getLastD_map, groupWrite_zero, List.map_map,
    true_and]
  rfl

/-- the regrouping is not vacuous: `gather [1, 0]` swaps two rays, `gather [1]` selects the second -/
example (x y : α) : gather [1, 0] [x, y] = [y, x] ∧ gather [1] [x, y] = [y] := ⟨rfl, rfl⟩

/-! ### F.c  arbitrary interleavings of queries and edits -/

/-- **run_lens_eq_edits**: after an arbitrary history (tracing calls, queries, analyses and
edits interleaved in any way, either variant) the lens is what the edits alone, in their order,
make of it: the non-editing calls are invisible in the evolution of the prescription. -/
theorem run_lens_eq_edits (env : Env α) (code : Bool) (ops : List (Op α)) (s : St α) :
    (run env code s ops).lens = (edits ops).foldl (fun L f => f L) s.lens := by
  induction ops generalizing s with
  | nil => rfl
  | cons op ops ih =>
    have h2 := ih (step env code s op).1
    simp only [run, List.foldl_cons] at h2 ⊢
    rw [h2]
    cases op <;> rfl

/-- **result_independent_of_interleaving_spec**: two arbitrary histories with the same edits in the
same order (queries, traces and analyses interleaved differently, in different numbers), started
from states with the same lens and caller arrays: any call afterwards returns the same result
(specification variant). -/
theorem result_independent_of_interleaving_spec (env : Env α) (s₁ s₂ : St α) (h₁ h₂ : List (Op α)) (op : Op α)
    (hl : s₁.lens = s₂.lens) (hh : s₁.heap = s₂.heap) (he : edits h₁ = edits h₂) :
    (step env false (run env false s₁ h₁) op).2 = (step env false (run env false s₂ h₂) op).2 :=
  (result_independent_of_history env false _ _ op
    (by rw [run_lens_eq_edits, run_lens_eq_edits, he, hl])
    (by rw [caller_arrays_unchanged_spec_run, caller_arrays_unchanged_spec_run, hh])).1

/-- the hypothesis is satisfiable by histories that differ: a query before the edit, two after -/
example (f : Lens α → Lens α) (q : Query) :
    edits [Op.call (.query q), .edit f] = edits [Op.edit f, .call (.query q), .call (.query q)] ∧
    [Op.call (.query q), .edit f] ≠ [Op.edit f, .call (.query q), .call (.query q)] := ⟨rfl, by simp⟩

/-- an op that hands no caller-owned ndarray as `Px` / `Py` whatever the lens is at that moment -/
def OpNoArrAll (op : Op α) : Prop := ∀ L, OpNoArr L op

/-- **caller_arrays_unchanged_code_noarr_run** (the code as it stands, every carrier): along an
arbitrary interleaving of edits with calls that pass no caller-owned ndarray as `Px` / `Py`, no
caller-owned array is written. -/
theorem caller_arrays_unchanged_code_noarr_run (env : Env α) (ops : List (Op α)) (s : St α)
    (h : ∀ op ∈ ops, OpNoArrAll op) : (run env true s ops).heap = s.heap :=
  run_keeps (·.heap) env true ops (fun op ho s => caller_arrays_unchanged_code_noarr env s op (h op ho s.lens)) s

/-- **result_independent_of_interleaving_code_noarr** (the code as it stands, every carrier, bit
for bit over `Float`): the same as `result_independent_of_interleaving_spec` for the tree, for
histories of edits and calls without ndarray `Px` / `Py`. -/
theorem result_independent_of_interleaving_code_noarr (env : Env α) (s₁ s₂ : St α) (h₁ h₂ : List (Op α))
    (op : Op α) (hl : s₁.lens = s₂.lens) (hh : s₁.heap = s₂.heap) (he : edits h₁ = edits h₂)
    (n₁ : ∀ o ∈ h₁, OpNoArrAll o) (n₂ : ∀ o ∈ h₂, OpNoArrAll o) :
    (step env true (run env true s₁ h₁) op).2 = (step env true (run env true s₂ h₂) op).2 :=
  (result_independent_of_history env true _ _ op
    (by rw [run_lens_eq_edits, run_lens_eq_edits, he, hl])
    (by rw [caller_arrays_unchanged_code_noarr_run env h₁ s₁ n₁,
      caller_arrays_unchanged_code_noarr_run env h₂ s₂ n₂, hh])).1

/-- the hypothesis is satisfiable: `Optic.trace`, a query, an edit -/
example (Hx Hy w : α) (pts : List (α × α)) (q : Query) (f : Lens α → Lens α) :
    ∀ o ∈ [Op.call (.trace Hx Hy w pts), .call (.query q), .edit f], OpNoArrAll o := by
  intro o ho L
  simp only [List.mem_cons, List.not_mem_nil, or_false] at ho
  rcases ho with rfl | rfl | rfl
  · show noArrPupil _ = true; rfl
  · show noArrPupil _ = true; rfl
  · trivial

/-! ### F.d  Newton–Raphson surfaces: what exactly is true of the shared loop

`nrCount` is the number of sweeps the shared loop executes.  Proved here (over ℝ, no NaN):
the count of a batch is at least the count of each of its blocks and of each of its rays
(`nrCount_mono_left/right`, `nr_ray_in_batch_steps`); if, at the sweep where a block `a` meets the
test, the rest of the batch meets it as well, the batch does to `a` exactly what `a` gets alone
(`nr_dominated_batch_agrees`), so two batches that share their slowest rays agree on them
(`nr_batches_sharing_slowest_agree`); full independence is false (`nr_not_batch_independent`);
every added sweep in which the ray still meets its own test moves it along its ray by less than
`tol/|N|` (`nr_extra_sweeps_displacement_partial`). -/

/-- the loop is `nrCount` sweeps of the per-ray iteration, the same number for every ray -/
theorem nrLoop_count (g : Geom α) (rays : List (Ray α)) (tol : α) (n : Nat) (pts : List (α × α × α)) :
    nrLoop g rays tol n pts = nrIter g rays (nrCount g rays tol n pts) pts ∧ nrCount g rays tol n pts ≤ n :=
  ⟨nrLoop_eq_count g rays tol n pts, nrCount_le g rays tol n pts⟩

/-- **nrCount_mono_left**: the first block of a batch gets at least as many sweeps as alone -/
theorem nrCount_mono_left (g : Geom ℝ) (a b : List (Ray ℝ)) (tol : ℝ) (n : Nat)
    (pa pb : List (ℝ × ℝ × ℝ)) (hl : pa.length = a.length) (hne : a ≠ []) :
    nrCount g a tol n pa ≤ nrCount g (a ++ b) tol n (pa ++ pb) := by
  induction n generalizing pa pb with
  | zero => exact Nat.le_refl 0
  | succ n ih =>
    simp only [nrCount]
    by_cases hB : Num.lt (nrSweep g (a ++ b) (pa ++ pb)).2 tol = true
    · have hA := sweep_test_mono g a b pa pb tol hl hne hB
      simp only [hA, hB, if_true]
      exact Nat.le_refl 1
    · simp only [hB, nrSweep_pts_append g a b pa pb hl]
      by_cases hA : Num.lt (nrSweep g a pa).2 tol = true
      · simp only [hA, if_true]; exact Nat.succ_le_succ (Nat.zero_le _)
      · simp only [hA]
        exact Nat.succ_le_succ (ih _ _ (nrSweep_pts_length g a pa hl))

/-- **nr_alone_stops_no_later** (over ℝ, where `np.max` has no NaN to propagate): a non-empty set
of rays `a` traced within a batch `a ++ b` receives `k` Newton sweeps, traced alone `k'` sweeps of
the same per-ray iteration from the same start, and `k' ≤ k ≤ max_iter`: the other rays of the
batch can only *add* iterations.  Together with `nrStep_displacement_lt` every added sweep moves
the point along its ray by less than `tol / |N|` as long as the ray still meets the test. -/
theorem nr_alone_stops_no_later (g : Geom ℝ) (a b : List (Ray ℝ)) (tol : ℝ) (n : Nat)
    (pa pb : List (ℝ × ℝ × ℝ)) (hl : pa.length = a.length) (hne : a ≠ []) :
    ∃ k k', k' ≤ k ∧ k ≤ n ∧
      (nrLoop g (a ++ b) tol n (pa ++ pb)).take a.length = nrIter g a k pa ∧
      nrLoop g a tol n pa = nrIter g a k' pa :=
  ⟨_, _, nrCount_mono_left g a b tol n pa pb hl hne, nrCount_le _ _ _ _ _,
    by rw [nrLoop_eq_count, nrIter_take g a b _ pa pb hl], nrLoop_eq_count g a tol n pa⟩

/-- the hypotheses are satisfiable: one ray with its start point -/
example : ([(0, 0, 0)] : List (ℝ × ℝ × ℝ)).length = ([⟨0, 0, 0, 0, 0, 1, 1, 0⟩] : List (Ray ℝ)).length ∧
    ([⟨0, 0, 0, 0, 0, 1, 1, 0⟩] : List (Ray ℝ)) ≠ [] := ⟨rfl, by simp⟩

theorem sweep_test_swap (g : Geom ℝ) (a b : List (Ray ℝ)) (pa pb : List (ℝ × ℝ × ℝ)) (tol : ℝ)
    (hl : pa.length = a.length) (hlb : pb.length = b.length) :
    (Num.lt (nrSweep g (a ++ b) (pa ++ pb)).2 tol = true) ↔ (Num.lt (nrSweep g (b ++ a) (pb ++ pa)).2 tol = true) := by
  by_cases ha : a = []
  · subst ha
    have : pa = [] := List.length_eq_zero_iff.mp hl
    subst this
    simp only [List.nil_append, List.append_nil]
  by_cases hb : b = []
  · subst hb
    have : pb = [] := List.length_eq_zero_iff.mp hlb
    subst this
    simp only [List.nil_append, List.append_nil]
  rw [sweep_test_append g a b pa pb tol hl ha, sweep_test_append g b a pb pa tol hlb hb,
    sweep_test_iff _ _ _ _ (dzs_ne_nil g a pa hl ha), sweep_test_iff _ _ _ _ (dzs_ne_nil g b pb hlb hb)]
  exact And.comm

/-- **nr_block_position_irrelevant**: on a Newton–Raphson surface the shared loop runs equally
long whichever block of the batch comes first, and a block of rays gets the same points whether
it is traced before or after the others (order of field points / of the rays in one call). -/
theorem nr_block_position_irrelevant (g : Geom ℝ) (a b : List (Ray ℝ)) (tol : ℝ) (n : Nat)
    (pa pb : List (ℝ × ℝ × ℝ)) (hl : pa.length = a.length) (hlb : pb.length = b.length) :
    nrCount g (a ++ b) tol n (pa ++ pb) = nrCount g (b ++ a) tol n (pb ++ pa) ∧
    (nrLoop g (a ++ b) tol n (pa ++ pb)).take a.length = (nrLoop g (b ++ a) tol n (pb ++ pa)).drop b.length := by
  have hc := nrCount_congr g (a ++ b) (b ++ a) tol n (pa ++ pb) (pb ++ pa) fun i _ => by
    rw [nrIter_append g a b i pa pb hl, nrIter_append g b a i pb pa hlb, Bool.eq_iff_iff]
    exact sweep_test_swap g a b _ _ tol (nrIter_length g a i pa hl) (nrIter_length g b i pb hlb)
  refine ⟨hc, ?_⟩
  rw [nrLoop_eq_count, nrLoop_eq_count, hc, nrIter_take g a b _ pa pb hl, nrIter_drop g b a _ pb pa hlb]

/-- **nrCount_mono_right**: … and so does the second block -/
theorem nrCount_mono_right (g : Geom ℝ) (a b : List (Ray ℝ)) (tol : ℝ) (n : Nat)
    (pa pb : List (ℝ × ℝ × ℝ)) (hl : pa.length = a.length) (hlb : pb.length = b.length) (hne : b ≠ []) :
    nrCount g b tol n pb ≤ nrCount g (a ++ b) tol n (pa ++ pb) := by
  rw [(nr_block_position_irrelevant g a b tol n pa pb hl hlb).1]
  exact nrCount_mono_left g b a tol n pb pa hlb hne

/-- **nr_ray_in_batch_steps**: a ray at any position of a batch ends at the point of `k` steps of
its own Newton iteration (`nrPt`), alone at the point of `k'` steps from the same start, and
`k' ≤ k ≤ max_iter`: every ray gets at least as many steps in a batch as alone. -/
theorem nr_ray_in_batch_steps (g : Geom ℝ) (pre post : List (Ray ℝ)) (r : Ray ℝ) (tol : ℝ) (n : Nat)
    (ppre ppost : List (ℝ × ℝ × ℝ)) (p : ℝ × ℝ × ℝ) (hl : ppre.length = pre.length)
    (hlp : ppost.length = post.length) :
    ∃ k k', k' ≤ k ∧ k ≤ n ∧
      (nrLoop g (pre ++ r :: post) tol n (ppre ++ p :: ppost))[pre.length]? = some (nrPt g r k p) ∧
      nrLoop g [r] tol n [p] = [nrPt g r k' p] := by
  refine ⟨nrCount g (pre ++ r :: post) tol n (ppre ++ p :: ppost), nrCount g [r] tol n [p], ?_,
    nrCount_le _ _ _ _ _, ?_, ?_⟩
  · have h1 := nrCount_mono_left g [r] post tol n [p] ppost rfl (by simp)
    have h2 := nrCount_mono_right g pre (r :: post) tol n ppre (p :: ppost) hl (by simp [hlp]) (by simp)
    exact Nat.le_trans h1 h2
  · rw [nrLoop_eq_count, nrIter_append g pre (r :: post) _ ppre (p :: ppost) hl,
      ← nrIter_length g pre _ ppre hl, List.getElem?_append_right (Nat.le_refl _), Nat.sub_self]
    have := nrIter_append g [r] post (nrCount g (pre ++ r :: post) tol n (ppre ++ p :: ppost)) [p] ppost rfl
    simp only [List.singleton_append] at this
    rw [this, nrIter_single]
    rfl
  · rw [nrLoop_eq_count, nrIter_single]

/-- the hypotheses are satisfiable -/
example : ([(0, 0, 0)] : List (ℝ × ℝ × ℝ)).length = ([⟨0, 0, 0, 0, 0, 1, 1, 0⟩] : List (Ray ℝ)).length := rfl

/-- **nr_dominated_batch_agrees**: if at every sweep at which the block `a` (on its own
trajectory) meets the stopping test every ray of the rest `b` has `|dz| < tol` as well – `a`
contains the slowest rays –, then the shared loop runs exactly as long as for `a` alone and the
rays of `a` end exactly where they end alone. -/
theorem nr_dominated_batch_agrees (g : Geom ℝ) (a b : List (Ray ℝ)) (tol : ℝ) (n : Nat)
    (pa pb : List (ℝ × ℝ × ℝ)) (hl : pa.length = a.length) (hne : a ≠ [])
    (hd : ∀ i < n, Num.lt (nrSweep g a (nrIter g a i pa)).2 tol = true →
      ∀ x ∈ dzs g b (nrIter g b i pb), x < tol) :
    nrCount g (a ++ b) tol n (pa ++ pb) = nrCount g a tol n pa ∧
    (nrLoop g (a ++ b) tol n (pa ++ pb)).take a.length = nrLoop g a tol n pa := by
  have hc := nrCount_congr g (a ++ b) a tol n (pa ++ pb) pa fun i hi => by
    rw [nrIter_append g a b i pa pb hl, Bool.eq_iff_iff,
      sweep_test_append g a b _ _ tol (nrIter_length g a i pa hl) hne]
    exact ⟨And.left, fun hA => ⟨hA, hd i hi hA⟩⟩
  refine ⟨hc, ?_⟩
  rw [nrLoop_eq_count, nrLoop_eq_count, hc, nrIter_take g a b _ pa pb hl]

/-- **nr_batches_sharing_slowest_agree**: two batches `a ++ b` and `a ++ c` that share their slowest
rays `a` give the rays of `a` the same points. -/
theorem nr_batches_sharing_slowest_agree (g : Geom ℝ) (a b c : List (Ray ℝ)) (tol : ℝ) (n : Nat)
    (pa pb pc : List (ℝ × ℝ × ℝ)) (hl : pa.length = a.length) (hne : a ≠ [])
    (hb : ∀ i < n, Num.lt (nrSweep g a (nrIter g a i pa)).2 tol = true →
      ∀ x ∈ dzs g b (nrIter g b i pb), x < tol)
    (hc : ∀ i < n, Num.lt (nrSweep g a (nrIter g a i pa)).2 tol = true →
      ∀ x ∈ dzs g c (nrIter g c i pc), x < tol) :
    (nrLoop g (a ++ b) tol n (pa ++ pb)).take a.length = (nrLoop g (a ++ c) tol n (pa ++ pc)).take a.length := by
  rw [(nr_dominated_batch_agrees g a b tol n pa pb hl hne hb).2,
    (nr_dominated_batch_agrees g a c tol n pa pc hl hne hc).2]

/-- the domination hypothesis is satisfiable: an empty rest (and, less trivially, the witness of
`nr_not_batch_independent` read the other way round) -/
example (g : Geom ℝ) (a : List (Ray ℝ)) (tol : ℝ) (n : Nat) (pa : List (ℝ × ℝ × ℝ)) :
    ∀ i < n, Num.lt (nrSweep g a (nrIter g a i pa)).2 tol = true →
      ∀ x ∈ dzs g ([] : List (Ray ℝ)) (nrIter g [] i []), x < tol := by
  intro i _ _ x hx
  simp [dzs] at hx

/-- the sag of the even asphere `R = 1, k = -1`, no polynomial terms: the paraboloid `r²/2` -/
theorem parab_sag (t : ℝ) (m : Nat) (x y : ℝ) :
    (Geom.evenAsphere (1:ℝ) (-1) t m []).nrSag x y = (x * x + y * y) / 2 := by
  simp only [Geom.nrSag, asphSag, conicSag, List.zipIdx_nil, List.foldl_nil]
  num_real
  have e : (1:ℝ) + -1 = 0 := by norm_num
  rw [e, zero_mul, zero_div, sub_zero, Real.sqrt_one]
  norm_num

noncomputable def witG : Geom ℝ := .evenAsphere 1 (-1) 1 2 []
/-- oblique unit ray, `|dz| = 1/2 < tol = 1` at the first sweep -/
noncomputable def witA : Ray ℝ := ⟨0, 0, 0, 3/5, 0, 4/5, 1, 0⟩
/-- axial ray starting 5 above the vertex: `|dz| = 5 ≥ tol` at the first sweep, `0` at the second -/
noncomputable def witB : Ray ℝ := ⟨0, 0, 0, 0, 0, 1, 1, 0⟩

/-- **nr_not_batch_independent** (negation witness; finding: the clause "the result for one ray
does not depend on which other rays are traced in the same call" holds for Newton–Raphson surfaces
only up to the tolerance).  Paraboloid `z = r²/2`, `tol = 1`, `max_iter = 2`: the oblique ray alone
stops after one sweep at `x = 11/8`; in a batch with an axial ray that needs two sweeps it is
moved on to `x = 875/512`. -/
theorem nr_not_batch_independent :
    ¬ ∀ (g : Geom ℝ) (a b : List (Ray ℝ)) (tol : ℝ) (n : Nat) (pa pb : List (ℝ × ℝ × ℝ)),
      pa.length = a.length → pb.length = b.length →
      (nrLoop g (a ++ b) tol n (pa ++ pb)).take a.length = nrLoop g a tol n pa := by
  intro h
  have sA1 : nrStep witG witA (1, 0, 0) = ((11/8, 0, 1/2), 1/2) := by
    rw [nrStep_eq]; simp only [witG, witA, parab_sag]; norm_num
  have sA2 : nrStep witG witA (11/8, 0, 1/2) = ((875/512, 0, 121/128), 57/128) := by
    rw [nrStep_eq]; simp only [witG, witA, parab_sag]; norm_num
  have sB1 : nrStep witG witB (0, 0, 5) = ((0, 0, 0), 5) := by
    rw [nrStep_eq]; simp only [witG, witB, parab_sag]; norm_num
  have sB2 : nrStep witG witB (0, 0, 0) = ((0, 0, 0), 0) := by
    rw [nrStep_eq]; simp only [witG, witB, parab_sag]; norm_num
  -- alone the oblique ray meets the test at the first sweep; the batch only at the second
  have hA1 : Num.lt (nrSweep witG [witA] [(1, 0, 0)]).2 1 = true := by
    rw [sweep_test_iff _ _ _ _ (by exact List.cons_ne_nil _ _)]
    intro x hx
    simp only [dzs, List.zip_cons_cons, List.zip_nil_right, List.map_cons, List.map_nil, sA1,
      List.mem_cons, List.not_mem_nil, or_false] at hx
    rw [hx]; norm_num
  have hB1 : ¬ Num.lt (nrSweep witG [witA, witB] [(1, 0, 0), (0, 0, 5)]).2 1 = true := by
    rw [sweep_test_iff _ _ _ _ (by exact List.cons_ne_nil _ _)]
    intro hx
    have := hx 5 (by simp [dzs, sB1])
    norm_num at this
  have E1 : (nrSweep witG [witA, witB] [(1, 0, 0), (0, 0, 5)]).1 = [(11/8, 0, 1/2), (0, 0, 0)] := by
    simp only [nrSweep_pts, List.zip_cons_cons, List.zip_nil_right, List.map_cons, List.map_nil, sA1, sB1]
  have hB2 : Num.lt (nrSweep witG [witA, witB] [(11/8, 0, 1/2), (0, 0, 0)]).2 1 = true := by
    rw [sweep_test_iff _ _ _ _ (by exact List.cons_ne_nil _ _)]
    intro x hx
    simp only [dzs, List.zip_cons_cons, List.zip_nil_right, List.map_cons, List.map_nil, sA2, sB2,
      List.mem_cons, List.not_mem_nil, or_false] at hx
    rcases hx with rfl | rfl <;> norm_num
  have kA : nrCount witG [witA] 1 2 [(1, 0, 0)] = 1 := by
    show nrCount witG [witA] 1 (1 + 1) _ = 1
    simp only [nrCount, hA1, if_true]
  have kB : nrCount witG ([witA] ++ [witB]) 1 2 ([(1, 0, 0)] ++ [(0, 0, 5)]) = 2 := by
    show nrCount witG [witA, witB] 1 (1 + 1) [(1, 0, 0), (0, 0, 5)] = 2
    simp only [nrCount, hB1, Bool.false_eq_true, if_false, E1, hB2, if_true]
  have := h witG [witA] [witB] 1 2 [(1, 0, 0)] [(0, 0, 5)] rfl rfl
  rw [nrLoop_eq_count, nrLoop_eq_count, nrIter_take _ _ _ _ _ _ rfl, kA, kB, nrIter_single, nrIter_single] at this
  simp only [nrPt, sA1, sA2] at this
  norm_num at this

/-- **nr_extra_sweeps_displacement_partial**.  Full statement (numerical only): the points a ray
gets in a batch and alone differ by at most `tol / |N|`.  Proved part: `m` further sweeps move the
point along its own ray, `p ↦ p + t·(L, M, N)`, with `|t| ≤ m · tol / |N|` (`|t|` is the Euclidean
displacement for a unit direction) *provided* the ray meets its own test `|dz| < tol` in each of
them.  Missing: that a ray which has met the test keeps meeting it and that the `|dz|` contract
(convergence of the Newton iteration), which would replace `m · tol` by a multiple of `tol`
independent of `m`. -/
theorem nr_extra_sweeps_displacement_partial (g : Geom ℝ) (r : Ray ℝ) (tol : ℝ) (hN : r.N ≠ 0) (m : Nat)
    (p : ℝ × ℝ × ℝ) (hz : ∀ j < m, (nrStep g r (nrPt g r j p)).2 < tol) :
    ∃ t : ℝ, nrPt g r m p = (p.1 + t * r.L, p.2.1 + t * r.M, p.2.2 + t * r.N) ∧
      |t| ≤ m * (tol / |r.N|) := by
  induction m generalizing p with
  | zero => exact ⟨0, by simp only [nrPt, zero_mul, add_zero], by simp⟩
  | succ m ih =>
    obtain ⟨t', e', b'⟩ := ih (nrStep g r p).1 (fun j hj => hz (j + 1) (Nat.succ_lt_succ hj))
    have h0 : (nrStep g r p).2 < tol := hz 0 (Nat.succ_pos m)
    show ∃ t, nrPt g r m (nrStep g r p).1 = _ ∧ _
    rw [nrStep_eq] at e' h0 ⊢
    -- the first step moves by `-dz/N` with `|dz| < tol`, the remaining `m` steps by `t'`
    generalize p.2.2 - g.nrSag p.1 p.2.1 = dz at e' h0 ⊢
    refine ⟨-(dz / r.N) + t', ?_, ?_⟩
    · rw [e']
      simp only [add_mul, add_assoc]
    · have ht0 : |-(dz / r.N)| ≤ tol / |r.N| := by
        rw [abs_neg, abs_div]
        exact div_le_div_of_nonneg_right h0.le (abs_nonneg _)
      calc |-(dz / r.N) + t'| ≤ |-(dz / r.N)| + |t'| := abs_add_le _ _
        _ ≤ tol / |r.N| + m * (tol / |r.N|) := add_le_add ht0 b'
        _ = ((m + 1 : ℕ) : ℝ) * (tol / |r.N|) := by push_cast; ring

/-- the hypotheses are satisfiable: the oblique ray of the witness above, one further sweep -/
example : witA.N ≠ 0 ∧ ∀ j < 1, (nrStep witG witA (nrPt witG witA j (11/8, 0, 1/2))).2 < 1 := by
  refine ⟨by simp only [witA]; norm_num, ?_⟩
  intro j hj
  have : j = 0 := by omega
  subst this
  simp only [nrPt, nrStep, witG, witA, parab_sag]
  num_real
  norm_num

/-- the hypotheses are satisfiable: the two rays of the witness above -/
example : ([(1, 0, 0)] : List (ℝ × ℝ × ℝ)).length = [witA].length ∧
    ([(0, 0, 5)] : List (ℝ × ℝ × ℝ)).length = [witB].length := ⟨rfl, rfl⟩

end C13
