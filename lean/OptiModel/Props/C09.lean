import OptiModel.Proofs.Wavefront
import Mathlib.Tactic.Linarith
import Mathlib.Tactic.Positivity
/-!
# C09  Reported OPD is the path difference to the chief-ray reference sphere
Theorems over ℝ about `Model/Wavefront.lean` (the model the correspondence run ties to
`wavefront.py`, `analysis/rms_vs_field.py`, `optimization/operand/ray.py`, `distribution.py`).

Which variant is `/repo`: the `…Spec` definitions (`opd − n_img·t`, `n_obj·tilt`) are what `wavefront.py`
computes now (`_get_path_length` l.176–182, `_correct_tilt` l.209–212); the `…Code` definitions (geometric
distance `t`, tilt term without index) are the in-air form the tree had while F-C09-1/F-C09-2 were open.  The
two coincide in air (`code_eq_spec`).  Every clause is stated for both (`opd_definition`/`opd_definition_spec`,
`chief_opd_zero`/`…_spec`, `opds_getElem`/`opdsSpec_getElem`, `fan_is_cross_sample`/`…_spec`,
`corrected_path_…`/`corrected_path_spec_…`); the clause as a whole is
`reported_opd_is_path_difference_to_sphere` (about `…Spec`).
-/
namespace C09
open Model Model.Wf WfProofs

/-! ### the reference sphere -/

/-- the sphere is centred on the chief ray's image-surface intersection -/
theorem sphere_centre (c : Cfg ℝ) (chief : Ray ℝ) :
    (sphereOf c chief).xc = chief.x ∧ (sphereOf c chief).yc = chief.y ∧ (sphereOf c chief).zc = chief.z :=
  ⟨rfl, rfl, rfl⟩

/-- **sphere_radius**: `R = ‖C − (0, 0, z_XP)‖`, `C` the chief-ray image point, `z_XP = z_img + XPL` the
axial point of the paraxial exit pupil. -/
theorem sphere_radius (c : Cfg ℝ) (chief : Ray ℝ) :
    (sphereOf c chief).R =
      Real.sqrt ((chief.x - 0) ^ 2 + (chief.y - 0) ^ 2 + (chief.z - (c.zimg + c.xpl)) ^ 2) := by
  show Real.sqrt (chief.x * chief.x + chief.y * chief.y +
    (chief.z - (c.xpl + c.zimg)) * (chief.z - (c.xpl + c.zimg))) = _
  congr 1
  ring

theorem sphere_radius_nonneg (c : Cfg ℝ) (chief : Ray ℝ) : 0 ≤ (sphereOf c chief).R := by
  rw [sphere_radius]; exact Real.sqrt_nonneg _

/-- the axial exit-pupil point lies on the reference sphere -/
theorem pupil_point_on_sphere (c : Cfg ℝ) (chief : Ray ℝ) :
    (0 - (sphereOf c chief).xc) ^ 2 + (0 - (sphereOf c chief).yc) ^ 2 +
      ((c.zimg + c.xpl) - (sphereOf c chief).zc) ^ 2 = (sphereOf c chief).R ^ 2 := by
  rw [sphere_radius, Real.sq_sqrt (by positivity)]
  obtain ⟨hx, hy, hz⟩ := sphere_centre c chief
  rw [hx, hy, hz]
  ring

/-! ### from the image surface back to the sphere -/

/-- the quadratic the code solves is `‖P − t·dir − C‖² − R²` -/
theorem quadratic_is_sphere_equation (s : Sphere ℝ) (r : Ray ℝ) (t : ℝ) :
    ((backPoint r t).1 - s.xc) ^ 2 + ((backPoint r t).2.1 - s.yc) ^ 2 + ((backPoint r t).2.2 - s.zc) ^ 2
      - s.R ^ 2 = qa r * t ^ 2 + qb s r * t + qc s r := by
  unfold backPoint qa qb qc Wf.sq
  num_real
  ring

/-- `c = ‖P − C‖² − R²`: negative exactly when the image point is inside the sphere -/
theorem qc_eq (s : Sphere ℝ) (r : Ray ℝ) :
    qc s r = (r.x - s.xc) ^ 2 + (r.y - s.yc) ^ 2 + (r.z - s.zc) ^ 2 - s.R ^ 2 := by
  show r.x * r.x + r.y * r.y + r.z * r.z - 2 * r.x * s.xc + s.xc * s.xc - 2 * r.y * s.yc + s.yc * s.yc -
    2 * r.z * s.zc + s.zc * s.zc - s.R * s.R = _
  ring

theorem qa_eq (r : Ray ℝ) : qa r = r.L ^ 2 + r.M ^ 2 + r.N ^ 2 := by
  show (-r.L) * (-r.L) + (-r.M) * (-r.M) + (-r.N) * (-r.N) = _
  ring

theorem root_solves (a b c sd t : ℝ) (ha : a ≠ 0) (hsd : sd * sd = b * b - 4 * a * c)
    (ht : t = (-b - sd) / (2 * a) ∨ t = (-b + sd) / (2 * a)) : a * t ^ 2 + b * t + c = 0 := by
  rw [pow_two]
  exact (quadratic_eq_zero_iff ha ((congrArg (· - 4 * a * c) (pow_two b)).trans hsd.symm) t).mpr ht.symm

theorem disc_eq (s : Sphere ℝ) (r : Ray ℝ) : disc s r = qb s r * qb s r - 4 * qa r * qc s r := by
  show qb s r * qb s r - ((4 : ℕ) : ℝ) / ((1 : ℕ) : ℝ) * qa r * qc s r = _
  rw [Nat.cast_one, div_one, Nat.cast_ofNat]

theorem rootMinus_eq (s : Sphere ℝ) (r : Ray ℝ) :
    rootMinus s r = (-(qb s r) - Real.sqrt (disc s r)) / (2 * qa r) := by
  rfl

theorem rootPlus_eq (s : Sphere ℝ) (r : Ray ℝ) :
    rootPlus s r = (-(qb s r) + Real.sqrt (disc s r)) / (2 * qa r) := by
  rfl

/-- the value returned is one of the two roots; which one is decided by the sign of the first -/
theorem imageToXp_eq (s : Sphere ℝ) (r : Ray ℝ) :
    imageToXp s r = if rootMinus s r < 0 then rootPlus s r else rootMinus s r := by
  unfold imageToXp
  simp only [NumReal.lt_decide, NumReal.zero_eq, decide_eq_true_eq]

theorem imageToXp_cases (s : Sphere ℝ) (r : Ray ℝ) :
    imageToXp s r = rootMinus s r ∨ imageToXp s r = rootPlus s r := by
  rw [imageToXp_eq]; split <;> simp

/-- **image_to_sphere**: for a ray with non-zero direction and non-negative discriminant the point reached by
going back from the image surface by the returned `t` lies on the reference sphere. -/
theorem image_to_sphere (s : Sphere ℝ) (r : Ray ℝ) (ha : qa r ≠ 0) (hd : 0 ≤ disc s r) :
    ((backPoint r (imageToXp s r)).1 - s.xc) ^ 2 + ((backPoint r (imageToXp s r)).2.1 - s.yc) ^ 2 +
      ((backPoint r (imageToXp s r)).2.2 - s.zc) ^ 2 = s.R ^ 2 := by
  have h0 : qa r * imageToXp s r ^ 2 + qb s r * imageToXp s r + qc s r = 0 :=
    root_solves _ _ _ _ _ ha ((Real.mul_self_sqrt hd).trans (disc_eq s r)) (imageToXp_cases s r)
  exact sub_eq_zero.mp ((quadratic_is_sphere_equation s r (imageToXp s r)).trans h0)

/-- the same in norm form: `‖P_img − t·dir − C‖ = R` (the radius of a reference sphere is `≥ 0`) -/
theorem image_to_sphere_norm (s : Sphere ℝ) (r : Ray ℝ) (ha : qa r ≠ 0) (hd : 0 ≤ disc s r) (hR : 0 ≤ s.R) :
    Real.sqrt (((backPoint r (imageToXp s r)).1 - s.xc) ^ 2 + ((backPoint r (imageToXp s r)).2.1 - s.yc) ^ 2 +
      ((backPoint r (imageToXp s r)).2.2 - s.zc) ^ 2) = s.R := by
  rw [image_to_sphere s r ha hd, Real.sqrt_sq hR]

theorem rootMinus_le_rootPlus (s : Sphere ℝ) (r : Ray ℝ) (ha : 0 < qa r) : rootMinus s r ≤ rootPlus s r := by
  rw [rootMinus_eq, rootPlus_eq]
  have := Real.sqrt_nonneg (disc s r)
  exact div_le_div_of_nonneg_right (by linarith) (by positivity)

/-- **image_to_sphere_root** (which root the code takes): the smaller root when it is non-negative (the
first crossing met when going back from the image surface); otherwise the larger one — in particular the
non-negative one when exactly one root is non-negative. -/
theorem image_to_sphere_root (s : Sphere ℝ) (r : Ray ℝ) :
    (0 ≤ rootMinus s r → imageToXp s r = rootMinus s r) ∧
    (rootMinus s r < 0 → imageToXp s r = rootPlus s r) ∧
    (rootMinus s r < 0 → 0 ≤ rootPlus s r → 0 ≤ imageToXp s r) := by
  rw [imageToXp_eq]
  refine ⟨fun h => by rw [if_neg (not_lt.mpr h)], fun h => by rw [if_pos h], fun h h2 => by rw [if_pos h]; exact h2⟩

/-- when the image point is inside the sphere (the normal situation: blur ≪ R) there is exactly one crossing
behind the image surface (`t > 0`), the other root is negative, and the code returns the positive one —
also when the exit pupil is virtual (to the right of the image surface). -/
theorem image_to_sphere_inside (s : Sphere ℝ) (r : Ray ℝ) (ha : 0 < qa r) (hc : qc s r < 0) :
    0 < disc s r ∧ rootMinus s r < 0 ∧ 0 < rootPlus s r ∧ imageToXp s r = rootPlus s r := by
  -- `4ac < 0`, so `disc > b²` and `√disc > |b|`: the roots `(−b ∓ √disc)/(2a)` have opposite signs
  have hd : qb s r * qb s r < disc s r := by
    rw [disc_eq]
    exact lt_sub_iff_add_lt.mpr (add_lt_of_neg_right _ (mul_neg_of_pos_of_neg (mul_pos four_pos ha) hc))
  have habs : |qb s r| < Real.sqrt (disc s r) :=
    (Real.lt_sqrt (abs_nonneg _)).mpr (by rw [sq_abs, pow_two]; exact hd)
  have h2a : 0 < 2 * qa r := mul_pos two_pos ha
  have h1 : rootMinus s r < 0 :=
    (rootMinus_eq s r).trans_lt (div_neg_of_neg_of_pos (by linarith [neg_abs_le (qb s r)]) h2a)
  have h2 : 0 < rootPlus s r :=
    (div_pos (by linarith [le_abs_self (qb s r)]) h2a).trans_eq (rootPlus_eq s r).symm
  exact ⟨(mul_self_nonneg _).trans_lt hd, h1, h2, (image_to_sphere_root s r).2.1 h1⟩

/-- the chief ray itself (unit direction) is at distance exactly `R` from the sphere -/
theorem chief_distance_is_radius (c : Cfg ℝ) (chief : Ray ℝ) (hu : qa chief = 1) :
    imageToXp (sphereOf c chief) chief = (sphereOf c chief).R := by
  have hR := sphere_radius_nonneg c chief
  -- at the centre of the sphere the quadratic is `t² − R²`: the roots are `∓R`
  obtain ⟨hx, hy, hz⟩ := sphere_centre c chief
  have hb : qb (sphereOf c chief) chief = 0 := by
    rw [qb_eq, hx, hy, hz]
    ring
  have hc : qc (sphereOf c chief) chief = -((sphereOf c chief).R ^ 2) := by
    rw [qc_eq, hx, hy, hz]
    ring
  have hs : Real.sqrt (disc (sphereOf c chief) chief) = 2 * (sphereOf c chief).R := by
    rw [disc_eq, hb, hc, hu, ← Real.sqrt_sq (mul_nonneg zero_le_two hR)]
    congr 1
    ring
  rw [imageToXp_eq, rootMinus_eq, rootPlus_eq, hs, hb, hu, neg_zero, zero_sub, zero_add, mul_one,
    neg_div, mul_div_cancel_left₀ _ two_ne_zero]
  split_ifs with h
  · rfl
  · -- `−R < 0` fails only for `R = 0`, where the two roots coincide
    rw [le_antisymm (neg_nonneg.mp (not_lt.mp h)) hR, neg_zero]

/-- image point inside a unit sphere, unit direction: all guards of `image_to_sphere` hold -/
example : ∃ (s : Sphere ℝ) (r : Ray ℝ), qa r ≠ 0 ∧ 0 ≤ disc s r ∧ 0 ≤ s.R ∧ qc s r < 0 ∧ imageToXp s r = 1 := by
  let s : Sphere ℝ := ⟨0, 0, 0, 1⟩
  let r : Ray ℝ := ⟨0, 0, 0, 0, 0, 1, 1, 0⟩
  have ha : qa r = 1 := by rw [qa_eq]; norm_num [r]
  have hb : qb s r = 0 := by rw [qb_eq]; norm_num [r, s]
  have hc : qc s r = -1 := by rw [qc_eq]; norm_num [r, s]
  have hd : disc s r = 2 ^ 2 := by rw [disc_eq, ha, hb, hc]; norm_num
  have hin := image_to_sphere_inside s r (ha ▸ one_pos) (hc ▸ neg_one_lt_zero)
  refine ⟨s, r, ha ▸ one_ne_zero, hin.1.le, zero_le_one, hc ▸ neg_one_lt_zero, ?_⟩
  rw [hin.2.2.2, rootPlus_eq, hd, Real.sqrt_sq zero_le_two, hb, ha]
  norm_num

/-! ### the reported OPD -/

theorem milli_eq : (milli : ℝ) = 1 / 1000 := by
  unfold milli; num_real; norm_num

/-- **opd_definition** (the in-air `…Code` variant; `/repo` computes `opd_definition_spec`): the reported
value is `(ref − ray)/(λ·10⁻³)` (λ in µm, paths in mm, result in waves) where each path is the recorded optical path at the image surface minus the distance back to the
reference sphere minus the tilt term, and `ref` is the same expression for the chief ray at pupil `(0,0)`. -/
theorem opd_definition (c : Cfg ℝ) (chief r : Ray ℝ) (px py : ℝ) :
    opdOfRayCode c chief r px py =
      ((chief.opd - imageToXp (sphereOf c chief) chief - tiltCorrectionCode c 0 0) -
       (r.opd - imageToXp (sphereOf c chief) r - tiltCorrectionCode c px py)) / (c.wavelength * (1 / 1000)) := by
  unfold opdOfRayCode opdRefCode correctTiltCode pathLengthCode
  rw [← milli_eq]

/-- the variant `/repo` computes and the property requires: optical (index-weighted) paths in the image
and object space -/
theorem opd_definition_spec (c : Cfg ℝ) (chief r : Ray ℝ) (px py : ℝ) :
    opdOfRaySpec c chief r px py =
      ((chief.opd - c.nImg * imageToXp (sphereOf c chief) chief - c.nObj * tiltCorrectionCode c 0 0) -
       (r.opd - c.nImg * imageToXp (sphereOf c chief) r - c.nObj * tiltCorrectionCode c px py)) /
        (c.wavelength * (1 / 1000)) := by
  unfold opdOfRaySpec opdRefSpec correctTiltSpec pathLengthSpec tiltCorrectionSpec
  rw [← milli_eq]

/-- in air (`n_img = n_obj = 1`) the two variants agree -/
theorem code_eq_spec (c : Cfg ℝ) (chief r : Ray ℝ) (px py : ℝ) (hi : c.nImg = 1) (ho : c.nObj = 1) :
    opdOfRayCode c chief r px py = opdOfRaySpec c chief r px py := by
  rw [opd_definition, opd_definition_spec, hi, ho]; ring

/-- otherwise they differ by the index defect of the two distances (findings F-C09-1 / F-C09-2, since fixed
in `/repo`) -/
theorem code_minus_spec (c : Cfg ℝ) (chief r : Ray ℝ) (px py : ℝ) :
    opdOfRayCode c chief r px py - opdOfRaySpec c chief r px py =
      ((c.nImg - 1) * (imageToXp (sphereOf c chief) chief - imageToXp (sphereOf c chief) r) +
       (c.nObj - 1) * (tiltCorrectionCode c 0 0 - tiltCorrectionCode c px py)) / (c.wavelength * (1 / 1000)) := by
  rw [opd_definition, opd_definition_spec]; ring

/-- **chief_opd_zero**: the chief ray's own OPD is exactly 0 (the same expression on both sides) -/
theorem chief_opd_zero (c : Cfg ℝ) (chief : Ray ℝ) : opdOfRayCode c chief chief 0 0 = 0 := by
  rw [opd_definition]; simp

theorem chief_opd_zero_spec (c : Cfg ℝ) (chief : Ray ℝ) : opdOfRaySpec c chief chief 0 0 = 0 := by
  rw [opd_definition_spec]; simp

/-- every entry of `data[i][j][0]` is that quantity for the ray record and pupil point of the same index -/
theorem opds_getElem (c : Cfg ℝ) (chief : Ray ℝ) (rays : List (Ray ℝ)) (pts : List (ℝ × ℝ)) (k : Nat)
    (h1 : k < rays.length) (h2 : k < pts.length) :
    (opdsCode c chief rays pts)[k]'(by simp [opdsCode, h1, h2]) =
      opdOfRayCode c chief rays[k] pts[k].1 pts[k].2 := by
  simp [opdsCode]

theorem opdsSpec_getElem (c : Cfg ℝ) (chief : Ray ℝ) (rays : List (Ray ℝ)) (pts : List (ℝ × ℝ)) (k : Nat)
    (h1 : k < rays.length) (h2 : k < pts.length) :
    (opdsSpec c chief rays pts)[k]'(by simp [opdsSpec, h1, h2]) =
      opdOfRaySpec c chief rays[k] pts[k].1 pts[k].2 := by
  simp [opdsSpec]

theorem opds_length (c : Cfg ℝ) (chief : Ray ℝ) (rays : List (Ray ℝ)) (pts : List (ℝ × ℝ))
    (h : rays.length = pts.length) : (opdsCode c chief rays pts).length = pts.length := by
  simp [opdsCode, h]

/-- the second component of `data[i][j]` is the image-surface intensity record, sample by sample -/
theorem intensities_getElem (rays : List (Ray ℝ)) (k : Nat) (h : k < rays.length) :
    (intensities rays)[k]'(by simp [intensities, h]) = rays[k].i := by
  simp [intensities]

/-- `imageToXp` is a *distance* for a unit direction: the point reached lies `|t|` from the image point -/
theorem backPoint_distance (r : Ray ℝ) (t : ℝ) (hu : qa r = 1) (ht : 0 ≤ t) :
    Real.sqrt (((backPoint r t).1 - r.x) ^ 2 + ((backPoint r t).2.1 - r.y) ^ 2 + ((backPoint r t).2.2 - r.z) ^ 2) = t := by
  have h : ((backPoint r t).1 - r.x) ^ 2 + ((backPoint r t).2.1 - r.y) ^ 2 + ((backPoint r t).2.2 - r.z) ^ 2
      = t ^ 2 * qa r := by
    rw [qa_eq]; unfold backPoint; num_real; ring
  rw [h, hu, mul_one, Real.sqrt_sq ht]

/-- **reported_opd_is_path_difference_to_sphere** (the first sentence of C09 in one statement).  For a ray
and a chief ray with unit directions whose image point lies inside the reference sphere (blur smaller than
the sphere radius): going back from the image point against the ray one meets the reference sphere at a
point `Q` at distance `t > 0`; the chief ray meets it at distance `R`; and the reported value is
`((chief path to the sphere) − (ray path to the sphere)) / λ`, each path being the recorded optical path at
the image surface minus `n_img ×` that distance minus the `n_obj ×` wavefront offset in object space. -/
theorem reported_opd_is_path_difference_to_sphere (c : Cfg ℝ) (chief r : Ray ℝ) (px py : ℝ)
    (hu : qa r = 1) (huc : qa chief = 1) (hin : qc (sphereOf c chief) r < 0) :
    let s := sphereOf c chief
    let Q := backPoint r (imageToXp s r)
    let d := Real.sqrt ((Q.1 - r.x) ^ 2 + (Q.2.1 - r.y) ^ 2 + (Q.2.2 - r.z) ^ 2)
    0 < d ∧
    (Q.1 - s.xc) ^ 2 + (Q.2.1 - s.yc) ^ 2 + (Q.2.2 - s.zc) ^ 2 = s.R ^ 2 ∧
    opdOfRaySpec c chief r px py =
      ((chief.opd - c.nImg * s.R - c.nObj * tiltCorrectionCode c 0 0) -
       (r.opd - c.nImg * d - c.nObj * tiltCorrectionCode c px py)) / (c.wavelength * (1 / 1000)) := by
  intro s Q d
  have ha : 0 < qa r := by rw [hu]; norm_num
  obtain ⟨hd, -, hpos, hroot⟩ := image_to_sphere_inside s r ha hin
  have htpos : 0 < imageToXp s r := by rw [hroot]; exact hpos
  have hdist : d = imageToXp s r := backPoint_distance r _ hu htpos.le
  refine ⟨by rw [hdist]; exact htpos, image_to_sphere s r ha.ne' hd.le, ?_⟩
  rw [opd_definition_spec, hdist, chief_distance_is_radius c chief huc]

/-- non-vacuity of `reported_opd_is_path_difference_to_sphere`: exit pupil 100 in front of the image plane,
chief ray along the axis, a ray arriving 0.01 off the chief image point with direction `(0, 3/5, 4/5)` -/
example : ∃ (c : Cfg ℝ) (chief r : Ray ℝ), qa r = 1 ∧ qa chief = 1 ∧ qc (sphereOf c chief) r < 0 ∧
    r.y ≠ chief.y ∧ r.M ≠ 0 := by
  refine ⟨⟨true, 0, 0, 0, 0, 10, -100, 100, 1, 1, 0.55⟩, ⟨0, 0, 100, 0, 0, 1, 1, 120⟩,
    ⟨0, 1/100, 100, 0, 3/5, 4/5, 1, 120⟩, ?_, ?_, ?_, by norm_num, by norm_num⟩
  · rw [qa_eq]; norm_num
  · rw [qa_eq]; norm_num
  · rw [qc_eq, sphere_radius, Real.sq_sqrt (by positivity)]
    rw [(sphere_centre _ _).1, (sphere_centre _ _).2.1, (sphere_centre _ _).2.2]
    norm_num

/-! ### the tilt term: paths referred to one plane wavefront -/

theorem radians_eq (x : ℝ) : radians x = x * (Real.pi / 180) := by
  unfold radians Num.ofNat; num_real; norm_num

/-- all rays of an infinite-object bundle for a field along y are parallel to `(0, sin θ, cos θ)` -/
theorem launch_dir (g : Launch ℝ) (px py : ℝ) (hx : g.fieldX = 0) (hvx : g.vx = 1) (hvy : g.vy = 1)
    (hp : g.pos1 = 0) (hs : 0 < g.offset + g.epl) (hc : 0 < Real.cos (radians g.fieldY)) :
    g.dir px py = (0, Real.sin (radians g.fieldY), Real.cos (radians g.fieldY)) := by
  have hr0 : Real.tan (radians (0 : ℝ)) = 0 := by rw [radians_eq, zero_mul, Real.tan_zero]
  unfold Launch.dir Launch.start Launch.aim Wf.sq
  rw [hx, hvx, hvy, hp]
  num_real
  rw [hr0]
  -- the aim point differs from the start point by `(0, s·tan θ, s)`, `s = offset + EPL`
  exact unit_of_tan _ _ _ (g.offset + g.epl) _ (by ring) (by ring) (by ring) hs hc

/-- **tilt_is_wavefront_offset**: infinite object, field along y (`x_tilt = 0`), zero vignetting, first
surface at `z = 0`, start plane in front of the entrance pupil, `|θ| < 90°`.  The term `_correct_tilt` subtracts
for the pupil point `(px, py)` is `dir · (P₀(0,1) − P₀(px,py))`: the distance, along the common direction
of the bundle, between the ray's start point and the plane wavefront through the start point of the ray
`(0,1)`.  Hence `opd − tilt` is the path counted from that one plane wavefront for every ray of the bundle
(including the chief ray, for which the code takes `(px,py) = (0,0)`). -/
theorem tilt_is_wavefront_offset (c : Cfg ℝ) (g : Launch ℝ) (px py : ℝ)
    (hang : c.isAngle = true) (hxt : c.maxX * c.Hx = 0) (hyt : c.maxY * c.Hy = g.fieldY) (he : c.epd = g.epd)
    (hx : g.fieldX = 0) (hvx : g.vx = 1) (hvy : g.vy = 1) (hp : g.pos1 = 0) (hs : 0 < g.offset + g.epl)
    (hc : 0 < Real.cos (radians g.fieldY)) :
    tiltCorrectionCode c px py =
      (g.dir px py).1 * ((g.start 0 1).1 - (g.start px py).1) +
      (g.dir px py).2.1 * ((g.start 0 1).2.1 - (g.start px py).2.1) +
      (g.dir px py).2.2 * ((g.start 0 1).2.2 - (g.start px py).2.2) := by
  rw [launch_dir g px py hx hvx hvy hp hs hc]
  have hr0 : radians (0 : ℝ) = 0 := by rw [radians_eq, zero_mul]
  unfold tiltCorrectionCode Launch.start
  rw [hang, if_pos rfl]
  num_real
  rw [hxt, hyt, he, hx, hvx, hvy, hr0, Real.sin_zero]
  ring

/-- consequence: the corrected path is the recorded path plus the projection of the start-point offset -/
theorem corrected_path_is_from_common_wavefront (c : Cfg ℝ) (g : Launch ℝ) (opd px py : ℝ)
    (hang : c.isAngle = true) (hxt : c.maxX * c.Hx = 0) (hyt : c.maxY * c.Hy = g.fieldY) (he : c.epd = g.epd)
    (hx : g.fieldX = 0) (hvx : g.vx = 1) (hvy : g.vy = 1) (hp : g.pos1 = 0) (hs : 0 < g.offset + g.epl)
    (hc : 0 < Real.cos (radians g.fieldY)) :
    correctTiltCode c opd px py = opd +
      ((g.dir px py).1 * ((g.start px py).1 - (g.start 0 1).1) +
       (g.dir px py).2.1 * ((g.start px py).2.1 - (g.start 0 1).2.1) +
       (g.dir px py).2.2 * ((g.start px py).2.2 - (g.start 0 1).2.2)) := by
  unfold correctTiltCode
  rw [tilt_is_wavefront_offset c g px py hang hxt hyt he hx hvx hvy hp hs hc]
  num_real
  ring

/-- the optical version of `corrected_path_is_from_common_wavefront`: the term subtracted is `n_obj` times
the geometric offset between the start point and the common plane wavefront -/
theorem corrected_path_spec_is_from_common_wavefront (c : Cfg ℝ) (g : Launch ℝ) (opd px py : ℝ)
    (hang : c.isAngle = true) (hxt : c.maxX * c.Hx = 0) (hyt : c.maxY * c.Hy = g.fieldY) (he : c.epd = g.epd)
    (hx : g.fieldX = 0) (hvx : g.vx = 1) (hvy : g.vy = 1) (hp : g.pos1 = 0) (hs : 0 < g.offset + g.epl)
    (hc : 0 < Real.cos (radians g.fieldY)) :
    correctTiltSpec c opd px py = opd + c.nObj *
      ((g.dir px py).1 * ((g.start px py).1 - (g.start 0 1).1) +
       (g.dir px py).2.1 * ((g.start px py).2.1 - (g.start 0 1).2.1) +
       (g.dir px py).2.2 * ((g.start px py).2.2 - (g.start 0 1).2.2)) := by
  unfold correctTiltSpec tiltCorrectionSpec
  rw [tilt_is_wavefront_offset c g px py hang hxt hyt he hx hvx hvy hp hs hc]
  num_real
  ring

/-- an oblique bundle (field 18° along y) satisfying the hypotheses of `tilt_is_wavefront_offset` -/
example : ∃ g : Launch ℝ, g.fieldX = 0 ∧ g.vx = 1 ∧ g.vy = 1 ∧ g.pos1 = 0 ∧ 0 < g.offset + g.epl ∧
    0 < Real.cos (radians g.fieldY) ∧ g.fieldY ≠ 0 := by
  refine ⟨⟨5, 10, 10, 0, 0, 18, 1, 1⟩, rfl, rfl, rfl, rfl, by norm_num, ?_, by norm_num⟩
  rw [radians_eq]
  exact cos_deg_pos 18 (by norm_num) (by norm_num)

/-- non-vacuity of `tilt_is_wavefront_offset` / `corrected_path_…`: a configuration *and* a bundle (field
18° along y, EPD 10) meeting every hypothesis together -/
example : ∃ (c : Cfg ℝ) (g : Launch ℝ), c.isAngle = true ∧ c.maxX * c.Hx = 0 ∧ c.maxY * c.Hy = g.fieldY ∧
    c.epd = g.epd ∧ g.fieldX = 0 ∧ g.vx = 1 ∧ g.vy = 1 ∧ g.pos1 = 0 ∧ 0 < g.offset + g.epl ∧
    0 < Real.cos (radians g.fieldY) ∧ g.fieldY ≠ 0 := by
  refine ⟨⟨true, 0, 18, 0, 1, 10, -50, 100, 1, 1, 0.55⟩, ⟨5, 10, 10, 0, 0, 18, 1, 1⟩,
    rfl, by norm_num, by norm_num, rfl, rfl, rfl, rfl, rfl, by norm_num, ?_, by norm_num⟩
  rw [radians_eq]
  exact cos_deg_pos 18 (by norm_num) (by norm_num)

/-- finite object with height fields: no term is subtracted (all rays leave one object point) -/
theorem no_tilt_for_height_fields (c : Cfg ℝ) (opd px py : ℝ) (h : c.isAngle = false) :
    correctTiltCode c opd px py = opd := by
  unfold correctTiltCode tiltCorrectionCode
  rw [h]; num_real; simp


/-! ### RMS wavefront error -/

theorem foldl_add (l : List ℝ) (a : ℝ) : l.foldl (fun a b => a + b) a = a + l.sum := by
  induction l generalizing a with
  | nil => simp
  | cons x xs ih => simp [List.foldl_cons, ih, add_assoc]

theorem sumL_eq (l : List ℝ) : sumL l = l.sum := by
  exact (foldl_add l 0).trans (zero_add _)

theorem mean_eq (l : List ℝ) : mean l = l.sum / (l.length : ℝ) := by
  unfold mean
  rw [sumL_eq, NumReal.ofNat_eq]

/-- **rms_def**: `OPD.rms()` and every entry of the RMS-versus-field table are
`sqrt((Σ opd_k²)/N)` over the samples of that wavefront (no piston or tilt removed, no weighting) -/
theorem rms_def (opds : List ℝ) :
    rms opds = Real.sqrt ((opds.map (fun x => x ^ 2)).sum / (opds.length : ℝ)) := by
  unfold rms
  rw [mean_eq, List.length_map, show List.map Wf.sq opds = opds.map (fun x => x ^ 2) from
    List.map_congr_left fun x _ => (pow_two x).symm]
  rfl

theorem rms_nonneg (opds : List ℝ) : 0 ≤ rms opds := by rw [rms_def]; exact Real.sqrt_nonneg _

theorem sum_sq_eq_zero (l : List ℝ) (h : (l.map (fun x => x ^ 2)).sum = 0) : ∀ x ∈ l, x = 0 := by
  intro x hx
  have hnn : ∀ y ∈ l.map (fun x => x ^ 2), (0 : ℝ) ≤ y := fun y hy => by
    obtain ⟨x, _, rfl⟩ := List.mem_map.mp hy
    exact sq_nonneg x
  exact pow_eq_zero_iff two_ne_zero |>.mp
    (List.all_zero_of_le_zero_le_of_sum_eq_zero hnn h (List.mem_map.mpr ⟨x, hx, rfl⟩))

/-- a wavefront whose samples are all zero has RMS zero, and conversely (non-empty sample) -/
theorem rms_zero_iff (opds : List ℝ) (hne : opds ≠ []) : rms opds = 0 ↔ ∀ x ∈ opds, x = 0 := by
  have hlen : (0 : ℝ) < opds.length := Nat.cast_pos.mpr (List.length_pos_of_ne_nil hne)
  have hs : 0 ≤ (opds.map (fun x => x ^ 2)).sum := List.sum_nonneg fun y hy => by
    obtain ⟨x, _, rfl⟩ := List.mem_map.mp hy
    exact sq_nonneg x
  rw [rms_def, Real.sqrt_eq_zero (div_nonneg hs hlen.le), div_eq_zero_iff, or_iff_left hlen.ne']
  refine ⟨sum_sq_eq_zero opds, fun h => List.sum_eq_zero fun y hy => ?_⟩
  obtain ⟨x, hx, rfl⟩ := List.mem_map.mp hy
  rw [h x hx, zero_pow two_ne_zero]

/-- `RmsWavefrontErrorVsField._rms_wavefront_error`: entry `[i][j]` is the RMS of `data[i][j][0]` -/
theorem rms_vs_field_def (data : List (List (List ℝ))) (i j : Nat) :
    ((rmsVsField data)[i]?.bind (·[j]?)) = ((data[i]?.bind (·[j]?)).map rms) := by
  unfold rmsVsField
  rw [List.getElem?_map]
  cases data[i]? with
  | none => rfl
  | some row => exact List.getElem?_map ..

/-! ### `np.linspace`, the cross distribution and the fans -/

theorem linspace_length (a b : ℝ) (n : Nat) : (linspace a b n).length = n := by
  unfold linspace; dsimp only; split <;> simp

/-- for `n ≥ 2` the samples are `a + i·(b−a)/(n−1)`; the last one, which the code overwrites with `b`,
is that value too -/
theorem linspace_getElem (a b : ℝ) (n i : Nat) (hn : 2 ≤ n) (hi : i < n) :
    (linspace a b n)[i]'(by rw [linspace_length]; exact hi) = a + (i : ℝ) * ((b - a) / ((n : ℝ) - 1)) := by
  unfold linspace
  have hdiv : n - 1 ≠ 0 := by omega
  simp only [hdiv, if_false, List.getElem_map, List.getElem_range]
  have hcast : ((n - 1 : ℕ) : ℝ) = (n : ℝ) - 1 := by rw [Nat.cast_sub (by omega), Nat.cast_one]
  have hne : (n : ℝ) - 1 ≠ 0 := by rw [← hcast]; exact Nat.cast_ne_zero.mpr hdiv
  rw [NumReal.ofNat_eq, NumReal.ofNat_eq, hcast]
  split_ifs with h
  · -- the overwritten last sample: `i = n − 1`
    have hi' : (i : ℝ) = (n : ℝ) - 1 := by rw [← h, Nat.cast_add, Nat.cast_one, add_sub_cancel_right]
    rw [hi', mul_div_cancel₀ _ hne, add_sub_cancel]
  · exact add_comm _ _

theorem zip_replicate_left {β : Type} (a : β) (l : List β) :
    List.zip (List.replicate l.length a) l = l.map (fun t => (a, t)) := by
  induction l with
  | nil => rfl
  | cons x xs ih => simp [List.replicate_succ, ih]

theorem zip_replicate_right {β : Type} (a : β) (l : List β) :
    List.zip l (List.replicate l.length a) = l.map (fun t => (t, a)) := by
  induction l with
  | nil => rfl
  | cons x xs ih => simp [List.replicate_succ, ih]

/-- `CrossDistribution`: first the `n` points `(0, t_k)`, then the `n` points `(t_k, 0)`, `t = linspace(-1,1,n)` -/
theorem crossPoints_eq (n : Nat) :
    (crossPoints n : List (ℝ × ℝ)) =
      (linspace (-1 : ℝ) 1 n).map (fun t => ((0 : ℝ), t)) ++ (linspace (-1 : ℝ) 1 n).map (fun t => (t, (0 : ℝ))) := by
  unfold crossPoints
  have hl := linspace_length (-1) 1 n
  num_real
  rw [List.zip_append (by simp [hl])]
  congr 1
  · have := zip_replicate_left (0 : ℝ) (linspace (-1 : ℝ) 1 n)
    rw [hl] at this; exact this
  · have := zip_replicate_right (0 : ℝ) (linspace (-1 : ℝ) 1 n)
    rw [hl] at this; exact this

/-- **fan_is_cross_sample**: the y-fan `data[:n]` of `OPDFan` is the reported OPD of the first `n` ray
records at the pupil points `(0, t_k)`, the x-fan `data[n:]` that of the remaining records at `(t_k, 0)`,
`t = linspace(-1, 1, n) = pupil_coord`: the fans are the cross sample of the same wavefront. -/
theorem fan_is_cross_sample (c : Cfg ℝ) (chief : Ray ℝ) (rays : List (Ray ℝ)) (n : Nat) :
    fanY n (opdsCode c chief rays (crossPoints n)) =
        opdsCode c chief (rays.take n) ((linspace (-1 : ℝ) 1 n).map (fun t => ((0 : ℝ), t))) ∧
    fanX n (opdsCode c chief rays (crossPoints n)) =
        opdsCode c chief (rays.drop n) ((linspace (-1 : ℝ) 1 n).map (fun t => (t, (0 : ℝ)))) := by
  unfold fanY fanX opdsCode
  rw [crossPoints_eq]
  exact take_drop_zipWith_append _ rays _ _ n (by rw [List.length_map, linspace_length])

theorem fan_is_cross_sample_spec (c : Cfg ℝ) (chief : Ray ℝ) (rays : List (Ray ℝ)) (n : Nat) :
    fanY n (opdsSpec c chief rays (crossPoints n)) =
        opdsSpec c chief (rays.take n) ((linspace (-1 : ℝ) 1 n).map (fun t => ((0 : ℝ), t))) ∧
    fanX n (opdsSpec c chief rays (crossPoints n)) =
        opdsSpec c chief (rays.drop n) ((linspace (-1 : ℝ) 1 n).map (fun t => (t, (0 : ℝ)))) := by
  unfold fanY fanX opdsSpec
  rw [crossPoints_eq]
  exact take_drop_zipWith_append _ rays _ _ n (by rw [List.length_map, linspace_length])

/-! ### Gaussian quadrature and the OPD-difference operand -/

/-- **opd_difference_def** (scalar weight of every distribution other than `gaussian_quad`):
the mean absolute deviation of the reported OPD from its mean -/
theorem opd_difference_def_unweighted (opds : List ℝ) :
    opdDifference opds none = mean (opds.map (fun o => |o - mean opds|)) := by
  unfold opdDifference
  num_real
  simp only [List.map_map]
  congr 1
  apply List.map_congr_left; intro o _
  simp [Function.comp, NumReal.abs_eq]

/-- **opd_difference_def**: `mean_k |(opd_k − mean opd) · w_k|`, sample `k` paired with weight `k` -/
theorem opd_difference_def (opds ws : List ℝ) :
    opdDifference opds (some ws) =
      mean (List.zipWith (fun o w => |o - mean opds| * |w|) opds ws) := by
  unfold opdDifference
  num_real
  simp only [List.map_zipWith]
  congr 2
  funext o w
  rw [NumReal.abs_eq, abs_mul]

theorem flatMap_zip3 {β γ δ : Type} (rs : List β) (ws : List γ) (f : β → δ × δ × δ) :
    List.zip (rs.flatMap (fun r => [(f r).1, (f r).2.1, (f r).2.2])) (ws.flatMap (fun w => [w, w, w])) =
      (List.zip rs ws).flatMap (fun p => [((f p.1).1, p.2), ((f p.1).2.1, p.2), ((f p.1).2.2, p.2)]) := by
  induction rs generalizing ws with
  | nil => simp
  | cons r rs ih =>
    cases ws with
    | nil => simp
    | cons w ws => simp [List.flatMap_cons, ih]

/-- the weights `OPD_difference` uses off axis (`np.repeat(w, 3)`) are aligned with the points
(`np.outer(radius, cos θ).flatten()`): sample `3k+m` lies on ring `k` and carries ring `k`'s weight -/
theorem gq_weights_aligned (n : Nat) :
    List.zip (outerFlat (gqRadius n : List ℝ) ((gqThetas false : List ℝ).map Num.cos)) (opdDiffWeights false n : List ℝ) =
      (List.zip (gqRadius n : List ℝ) (gqWeights false n : List ℝ)).flatMap (fun p =>
        (gqThetas false : List ℝ).map (fun t => (p.1 * Real.cos t, p.2))) := by
  unfold opdDiffWeights outerFlat repeat3 gqThetas
  simp only [Bool.false_eq_true, if_false, List.map_cons, List.map_nil]
  have := flatMap_zip3 (gqRadius n : List ℝ) (gqWeights false n : List ℝ)
    (fun r : ℝ => (r * Num.cos (Num.neg (lit 104719755 100000000 : ℝ)), r * Num.cos (0 : ℝ),
               r * Num.cos (lit 104719755 100000000 : ℝ)))
  num_real
  exact this

/-- ring count and weight count agree for every allowed number of rings, so no sample is dropped -/
theorem gq_lengths (n : Nat) : (gqRadius n : List ℝ).length = (gqWeightsRaw n : List ℝ).length := by
  unfold gqRadius gqWeightsRaw
  split <;> rfl

/-- `get_weights`: Forbes' radial weights times 6 on axis (one azimuth), times 2 off axis (three) -/
theorem gq_weights_scale (sym : Bool) (n : Nat) :
    (gqWeights sym n : List ℝ) = (gqWeightsRaw n).map (fun w => w * (if sym then 6 else 2)) := by
  unfold gqWeights
  refine List.map_congr_left fun w _ => ?_
  cases sym
  · rfl
  · rw [if_pos rfl, if_pos rfl, NumReal.ofNat_eq, Nat.cast_ofNat]

end C09
