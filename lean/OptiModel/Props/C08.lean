import OptiModel.Model.Aberr
import OptiModel.Model.Presc
import OptiModel.Props.C04
import OptiModel.Proofs.Aberr
import OptiModel.Proofs.AberrExt
import OptiModel.Proofs.NumReal
import Mathlib.Tactic.FieldSimp
import Mathlib.Tactic.Ring
import Mathlib.Tactic.LinearCombination
import Mathlib.Tactic.Linarith
import Mathlib.Tactic.NormNum
/-!
# C08  Seidel and first-order chromatic terms equal the classical surface formulas

Theorems about `Model/Aberr.lean` over ℝ.  `P : Pre ℝ` is what `_precalculations` stores
(any index, curvature and ray arrays); surface numbers `k` run over `1 … N-2`.

Sign convention of the library: `S_j(lib) = -Σ_k S_j,k(Welford)`; per surface
`-2 n'u'·TSC_k = -S_I,k`, `… CC_k ↔ S_II`, `TAC_k ↔ S_III`, `TPC_k ↔ S_IV`, `DC_k ↔ S_V`, and
`n'u'·TAchC_k = C_I,k`, `n'u'·TchC_k = C_II,k` (`n'`, `u'`: image space).

Mirrors are index sign reversal: the hypotheses below are stated on the arrays `P.n`, so they
hold for a reflecting surface exactly when `P.n` carries the signed indices (`precalcSpec`);
with `optic.n()` as it is (`precalcCode`) the refraction invariant fails at a mirror — this is
finding F-C08-2.  The colour theorems are about `tachcTerm_spec/tchcTerm_spec`; the tree's
`…_code` variants read the marginal height of the previous surface (finding F-C08-1,
`colour_code_vs_spec`).
-/
namespace C08
open Model Model.Classical

/-- system-level guards: Lagrange invariant, image-space index and final marginal slope non-zero -/
structure SysOK (P : Pre ℝ) : Prop where
  hH : P.inv ≠ 0
  hnL : P.nL ≠ 0
  huL : P.uL ≠ 0

/-- what the classical derivation uses at surface `k`: non-zero indices on both sides, the
refraction (or, with `n' = -n`, reflection) invariant `n'(u'+yc) = n(u+yc)` of the marginal and of
the chief ray, and the Lagrange invariant `H = n'(ȳu' − yū')` behind the surface -/
structure SurfOK (P : Pre ℝ) (k : ℕ) : Prop where
  hn : nth P.n (k - 1) ≠ 0
  hn' : nth P.n k ≠ 0
  refrM : nth P.n k * (nth P.ua k + nth P.ya k * nth P.C k)
            = nth P.n (k - 1) * (nth P.ua (k - 1) + nth P.ya k * nth P.C k)
  refrC : nth P.n k * (nth P.ub k + nth P.yb k * nth P.C k)
            = nth P.n (k - 1) * (nth P.ub (k - 1) + nth P.yb k * nth P.C k)
  lagr : P.inv = nth P.n k * (nth P.yb k * nth P.ua k - nth P.ya k * nth P.ub k)

/-- Welford's second form of the distortion contribution: pupil coma plus `H Δ(ū²)`;
unlike `SV = (Ā/A)(S_III + S_IV)` it needs no division by `A` -/
noncomputable def SVp (L : Loc ℝ) : ℝ :=
  -(A L * Ab L * L.yb * (L.ub' / L.n' - L.ub / L.n)) + L.H * (L.ub' * L.ub' - L.ub * L.ub)

/-- the two classical forms of the distortion contribution agree (specification-internal) -/
theorem sv_forms_agree (L : Loc ℝ) (hn : L.n ≠ 0) (hn' : L.n' ≠ 0) (hA : A L ≠ 0)
    (hR : L.n' * (L.u' + L.y * L.c) = L.n * (L.u + L.y * L.c))
    (hRc : L.n' * (L.ub' + L.yb * L.c) = L.n * (L.ub + L.yb * L.c))
    (hI : L.H = L.n' * (L.yb * L.u' - L.y * L.ub')) : SV L = SVp L := by
  obtain ⟨n, n', c, y, u, u', yb, ub, ub', dn, dn', H⟩ := L
  simp only [SV, SVp, SIII, SIV, A, Ab, dUN, dInvN] at *
  num_real
  -- eliminate `u'`, `ū'` through the two refraction invariants and `H` through the Lagrange invariant;
  -- what is left is a polynomial identity once multiplied by `A ≠ 0`
  have h1 := slope_after hn' hR
  have h2 := slope_after hn' hRc
  subst h1
  subst h2
  subst hI
  rw [div_mul_eq_mul_div, div_eq_iff hA]
  field_simp
  ring

/-- witness for the non-vacuity examples: one surface of curvature 1 between indices 1 and 2, marginal ray
at height 1 (slopes `0 → −1/2`), chief ray zero, `H = 1` -/
noncomputable def exPre : Pre ℝ :=
  ⟨1, [1, 2, 2], 3, [0, 1, 0], [1, 1, 1], [0, -1/2, -1/2], [0, 0, 0], [0, 0, 0], []⟩

/-! ### each per-surface term is the classical contribution; the colour terms as coded (F-C08-1) -/

section terms
variable (P : Pre ℝ) (k : ℕ)

/-- **seidel_contrib_free_of_image_space**: `h' = H/(n'u')` is the only place where the image-space
index and the final marginal slope enter a Seidel term, and the factor `−2 n'u'` of `_sum_seidels`
removes it: each surface's contribution to `S_I … S_V` is a function of the Lagrange invariant and
the local data alone (an immersed image space changes the transverse terms by `1/n'`, not the sums). -/
theorem seidel_contrib_free_of_image_space (P : Pre ℝ) (k : ℕ) (hnL : P.nL ≠ 0) (huL : P.uL ≠ 0) :
    -2 * P.nL * P.uL * P.tscTerm k = -2 * P.inv * (P.B k * (P.i k * P.i k)) ∧
    -2 * P.nL * P.uL * P.ccTerm k = -2 * P.inv * (P.B k * P.i k * P.ip k) ∧
    -2 * P.nL * P.uL * P.tacTerm k = -2 * P.inv * (P.B k * (P.ip k * P.ip k)) ∧
    -2 * P.nL * P.uL * P.tpcTerm k
      = -(P.inv * P.inv) * nth P.C k * (nth P.n k - nth P.n (k - 1)) / (nth P.n k * nth P.n (k - 1)) ∧
    -2 * P.nL * P.uL * P.dcTerm k
      = -2 * P.inv * (P.Bp k * P.i k * P.ip k
          + 1 / 2 * (nth P.ub k * nth P.ub k - nth P.ub (k - 1) * nth P.ub (k - 1))) := by
  have hp : P.nL * P.uL * P.hp = P.inv := by rw [hp_eq]; field_simp
  rw [tscTerm_eq, ccTerm_eq, tacTerm_eq, tpcTerm_eq, dcTerm_eq]
  refine ⟨?_, ?_, ?_, ?_, ?_⟩
  · linear_combination (-2 * (P.B k * (P.i k * P.i k))) * hp
  · linear_combination (-2 * (P.B k * P.i k * P.ip k)) * hp
  · linear_combination (-2 * (P.B k * (P.ip k * P.ip k))) * hp
  · linear_combination
      (-(nth P.n k - nth P.n (k - 1)) * nth P.C k * P.inv / (nth P.n k * nth P.n (k - 1))) * hp
  · linear_combination (-2 * (P.Bp k * P.i k * P.ip k
      + 1 / 2 * (nth P.ub k * nth P.ub k - nth P.ub (k - 1) * nth P.ub (k - 1)))) * hp

theorem B_classical (G : SysOK P) (h : SurfOK P k) :
    -2 * P.inv * P.B k = nth P.n (k - 1) * nth P.n (k - 1) * nth P.ya k
      * (nth P.ua k / nth P.n k - nth P.ua (k - 1) / nth P.n (k - 1)) := by
  rw [B_eq, i_eq]; exact B_refr h.hn h.hn' G.hH h.refrM

theorem tsc_eq_classical (G : SysOK P) (h : SurfOK P k) :
    -2 * P.nL * P.uL * P.tscTerm k = - SI (P.loc k) := by
  rw [(seidel_contrib_free_of_image_space P k G.hnL G.huL).1, SI_eq, dUN_eq, A_loc]
  simp only [Pre.loc]
  linear_combination (P.i k * P.i k) * B_classical P k G h

theorem cc_eq_classical (G : SysOK P) (h : SurfOK P k) :
    -2 * P.nL * P.uL * P.ccTerm k = - SII (P.loc k) := by
  rw [(seidel_contrib_free_of_image_space P k G.hnL G.huL).2.1, SII_eq, dUN_eq, A_loc, Ab_loc]
  simp only [Pre.loc]
  linear_combination (P.i k * P.ip k) * B_classical P k G h

theorem tac_eq_classical (G : SysOK P) (h : SurfOK P k) :
    -2 * P.nL * P.uL * P.tacTerm k = - SIII (P.loc k) := by
  rw [(seidel_contrib_free_of_image_space P k G.hnL G.huL).2.2.1, SIII_eq, dUN_eq, Ab_loc]
  simp only [Pre.loc]
  linear_combination (P.ip k * P.ip k) * B_classical P k G h

/-- Petzval: needs neither the ray data nor `H ≠ 0` -/
theorem tpc_eq_classical (hnL : P.nL ≠ 0) (huL : P.uL ≠ 0) (hn : nth P.n (k - 1) ≠ 0)
    (hn' : nth P.n k ≠ 0) :
    -2 * P.nL * P.uL * P.tpcTerm k = - SIV (P.loc k) := by
  rw [(seidel_contrib_free_of_image_space P k hnL huL).2.2.2.1, SIV_eq, dInvN_eq]
  simp only [Pre.loc]
  field_simp
  ring

/-- distortion, division-free classical form -/
theorem dc_eq_classical_pupil (G : SysOK P) (h : SurfOK P k) :
    -2 * P.nL * P.uL * P.dcTerm k = - SVp (P.loc k) := by
  have hB : -2 * P.inv * P.Bp k = nth P.n (k - 1) * nth P.n (k - 1) * nth P.yb k
      * (nth P.ub k / nth P.n k - nth P.ub (k - 1) / nth P.n (k - 1)) := by
    rw [Bp_eq, ip_eq]; exact B_refr h.hn h.hn' G.hH h.refrC
  rw [(seidel_contrib_free_of_image_space P k G.hnL G.huL).2.2.2.2, SVp, A_loc, Ab_loc]
  simp only [Pre.loc]
  linear_combination (P.i k * P.ip k) * hB

/-- distortion, `S_V = (Ā/A)(S_III + S_IV)` (needs `A ≠ 0`) -/
theorem dc_eq_classical (G : SysOK P) (h : SurfOK P k) (hA : A (P.loc k) ≠ 0) :
    -2 * P.nL * P.uL * P.dcTerm k = - SV (P.loc k) := by
  rw [dc_eq_classical_pupil P k G h, sv_forms_agree (P.loc k) h.hn h.hn' hA h.refrM h.refrC h.lagr]

/-- both colour terms: `−y x Δ'(δn)/(n'u')` is `n x y Δ(δn/n)` once the normalisation is removed -/
theorem colour_classical (hnL : P.nL ≠ 0) (huL : P.uL ≠ 0) (hn : nth P.n (k - 1) ≠ 0)
    (hn' : nth P.n k ≠ 0) (x : ℝ) :
    P.nL * P.uL * (-nth P.ya k * x / (P.nL * P.uL) * P.dnFac k)
      = nth P.n (k - 1) * x * nth P.ya k * dDisp (P.loc k) := by
  rw [dnFac_eq, dDisp_eq]
  simp only [Pre.loc]
  field_simp
  ring

/-- axial colour with the marginal height *at* the surface (what the property requires) -/
theorem tachc_eq_classical (hnL : P.nL ≠ 0) (huL : P.uL ≠ 0) (hn : nth P.n (k - 1) ≠ 0)
    (hn' : nth P.n k ≠ 0) :
    P.nL * P.uL * P.tachcTerm_spec k = CI (P.loc k) := by
  rw [tachcTerm_spec_eq, colour_classical P k hnL huL hn hn', ← A_loc]; rfl

theorem tchc_eq_classical (hnL : P.nL ≠ 0) (huL : P.uL ≠ 0) (hn : nth P.n (k - 1) ≠ 0)
    (hn' : nth P.n k ≠ 0) :
    P.nL * P.uL * P.tchcTerm_spec k = CII (P.loc k) := by
  rw [tchcTerm_spec_eq, colour_classical P k hnL huL hn hn', ← Ab_loc]; rfl

/-- **terms_eq_classical**: every per-surface transverse term, times the library's normalisation
`-2 n'u'` (colour: `n'u'`), is the classical surface contribution in the library's sign
convention (`-S_j` of Welford; `+C_I`, `+C_II`). -/
theorem terms_eq_classical (G : SysOK P) (h : SurfOK P k) :
    -2 * P.nL * P.uL * P.tscTerm k = - SI (P.loc k) ∧
    -2 * P.nL * P.uL * P.ccTerm k = - SII (P.loc k) ∧
    -2 * P.nL * P.uL * P.tacTerm k = - SIII (P.loc k) ∧
    -2 * P.nL * P.uL * P.tpcTerm k = - SIV (P.loc k) ∧
    -2 * P.nL * P.uL * P.dcTerm k = - SVp (P.loc k) ∧
    (A (P.loc k) ≠ 0 → -2 * P.nL * P.uL * P.dcTerm k = - SV (P.loc k)) ∧
    P.nL * P.uL * P.tachcTerm_spec k = CI (P.loc k) ∧
    P.nL * P.uL * P.tchcTerm_spec k = CII (P.loc k) :=
  ⟨tsc_eq_classical P k G h, cc_eq_classical P k G h, tac_eq_classical P k G h,
   tpc_eq_classical P k G.hnL G.huL h.hn h.hn', dc_eq_classical_pupil P k G h,
   dc_eq_classical P k G h, tachc_eq_classical P k G.hnL G.huL h.hn h.hn',
   tchc_eq_classical P k G.hnL G.huL h.hn h.hn'⟩

/-- F-C08-1 made precise: the tree's colour terms are the classical ones with the marginal
height of the previous surface; they agree with the specification exactly when
`(y_{k-1} − y_k)·i_k·(dispersion factor) = 0` (resp. `ī_k`). -/
theorem colour_code_vs_spec (hnL : P.nL ≠ 0) (huL : P.uL ≠ 0) :
    (P.tachcTerm_code k = P.tachcTerm_spec k ↔
      (nth P.ya (k - 1) - nth P.ya k) * P.i k * P.dnFac k = 0) ∧
    (P.tchcTerm_code k = P.tchcTerm_spec k ↔
      (nth P.ya (k - 1) - nth P.ya k) * P.ip k * P.dnFac k = 0) := by
  have key : ∀ x : ℝ, -nth P.ya (k - 1) * x / (P.nL * P.uL) * P.dnFac k
      = -nth P.ya k * x / (P.nL * P.uL) * P.dnFac k ↔ (nth P.ya (k - 1) - nth P.ya k) * x * P.dnFac k = 0 := by
    intro x
    rw [div_mul_eq_mul_div, div_mul_eq_mul_div, div_left_inj' (mul_ne_zero hnL huL)]
    constructor <;> intro h <;> linear_combination -h
  exact ⟨key _, key _⟩

/-- F-C08-1, the case named in the finding: for a finite object the marginal ray leaves the axial
object point (`_ya[0] = 0`), so the tree's colour terms of the *first* surface are exactly 0 whatever
its dispersion step — while the classical ones are `−y₁ i₁ …` with the height on the surface itself -/
theorem colour_code_first_surface_zero (P : Pre ℝ) (h0 : nth P.ya 0 = 0) :
    P.tachcTerm_code 1 = 0 ∧ P.tchcTerm_code 1 = 0 ∧
    (P.nL ≠ 0 → P.uL ≠ 0 → (P.tachcTerm_spec 1 = 0 ↔ nth P.ya 1 * P.i 1 * P.dnFac 1 = 0)) := by
  have key : ∀ x : ℝ, -nth P.ya (1 - 1) * x / (P.nL * P.uL) * P.dnFac 1 = 0 := fun x => by
    rw [Nat.sub_self, h0, neg_zero, zero_mul, zero_div, zero_mul]
  refine ⟨key _, key _, fun hnL huL => ?_⟩
  rw [tachcTerm_spec_eq, div_mul_eq_mul_div, div_eq_zero_iff]
  simp only [mul_ne_zero hnL huL, or_false, neg_mul, neg_eq_zero]

example : ∃ P : Pre ℝ, nth P.ya 0 = 0 ∧ P.nL ≠ 0 ∧ P.uL ≠ 0 ∧ P.tachcTerm_spec 1 ≠ 0 := by
  refine ⟨{ exPre with ya := [0, 1, 1], ua := [1/10, -1/2, -1/2], dn := [0, 1/100, 0] },
    rfl, (two_ne_zero : (2:ℝ) ≠ 0), (by norm_num : (-1/2 : ℝ) ≠ 0), ?_⟩
  show -(1 : ℝ) * (1 * 1 + 1/10) / (2 * (-1/2)) * (0 - 1 / 2 * (1/100)) ≠ 0
  norm_num

end terms

/-! ### the Seidel sums and the array accessors -/

/-- **sums_are_sums**: each Seidel coefficient is `-2 n'u'` times the sum of its surface terms;
the operand `…_sum` wrappers are the plain sums. -/
theorem sums_are_sums (P : Pre ℝ) :
    P.seidels = [-2 * P.nL * P.uL * P.TSC.sum, -2 * P.nL * P.uL * P.CC.sum, -2 * P.nL * P.uL * P.TAC.sum,
                 -2 * P.nL * P.uL * P.TPC.sum, -2 * P.nL * P.uL * P.DC.sum] ∧
    ∀ l : List ℝ, opSum l = l.sum := by
  constructor
  · simp only [Pre.seidels, Pre.sumSeidels, seidelOf_eq]
  · intro l; exact pysum_eq l

/-- the Seidel coefficients are minus the sums of the classical (Welford) contributions, when
the classical hypotheses hold at every surface `1 … N-2` -/
theorem seidels_eq_classical_sums (P : Pre ℝ) (G : SysOK P)
    (h : ∀ k, 1 ≤ k → k ≤ P.N - 2 → SurfOK P k) :
    P.seidels = [(P.arr fun k => - SI (P.loc k)).sum, (P.arr fun k => - SII (P.loc k)).sum,
                 (P.arr fun k => - SIII (P.loc k)).sum, (P.arr fun k => - SIV (P.loc k)).sum,
                 (P.arr fun k => - SVp (P.loc k)).sum] := by
  rw [(sums_are_sums P).1]
  simp only [Pre.TSC, Pre.CC, Pre.TAC, Pre.TPC, Pre.DC]
  rw [sum_arr P _ _ _ fun k h1 h2 => tsc_eq_classical P k G (h k h1 h2),
      sum_arr P _ _ _ fun k h1 h2 => cc_eq_classical P k G (h k h1 h2),
      sum_arr P _ _ _ fun k h1 h2 => tac_eq_classical P k G (h k h1 h2),
      sum_arr P _ _ _ fun k h1 h2 => tpc_eq_classical P k G.hnL G.huL (h k h1 h2).hn (h k h1 h2).hn',
      sum_arr P _ _ _ fun k h1 h2 => dc_eq_classical_pupil P k G (h k h1 h2)]

/-- **accessors_agree**: every accessor returns the matching component of `third_order()` and
`seidels()` returns its `S` -/
theorem accessors_agree (P : Pre ℝ) (spec : Bool) :
    let t := P.thirdOrder spec
    t.TSC = P.TSC ∧ t.SC = P.SC ∧ t.CC = P.CC ∧ t.TCC = P.TCC ∧ t.TAC = P.TAC ∧ t.AC = P.AC ∧
    t.TPC = P.TPC ∧ t.PC = P.PC ∧ t.DC = P.DC ∧ t.TAchC = P.TAchC spec ∧ t.LchC = P.LchC spec ∧
    t.TchC = P.TchC spec ∧ t.S = P.seidels := by
  simp only [Pre.thirdOrder, Pre.TSC, Pre.SC, Pre.CC, Pre.TCC, Pre.TAC, Pre.AC, Pre.TPC, Pre.PC, Pre.DC,
    Pre.TAchC, Pre.LchC, Pre.TchC, Pre.seidels, Pre.arr, List.map_map, Function.comp_def, and_self]

/-- the operand wrappers return entry `k` of the accessor array, i.e. (library convention) the
term of surface `k+1`; `seidels(optic, j)` returns `S[j-1]` -/
theorem operand_index (P : Pre ℝ) (f : ℕ → ℝ) (k j : ℕ) (hk : k < P.N - 2) :
    opAt (P.arr f) k = f (k + 1) ∧ opSeidel P j = nth P.seidels (j - 1) := by
  refine ⟨?_, rfl⟩
  simp [opAt, nth, Pre.arr, List.getD_eq_getElem?_getD, hk]

theorem tcc_eq_3cc (P : Pre ℝ) : P.TCC = P.CC.map fun x => 3 * x := by
  unfold Pre.TCC
  apply List.map_congr_left
  intro x _
  rw [three_eq]
  num_real
  ring

/-- **longitudinal_eq**: `SC = -TSC/u'`, `AC = -TAC/u'`, `PC = -TPC/u'`, `LchC = -TAchC/u'`
element-wise (`u'` the final marginal slope) -/
theorem longitudinal_eq (P : Pre ℝ) (spec : Bool) :
    P.SC = P.TSC.map (fun t => -t / P.uL) ∧ P.AC = P.TAC.map (fun t => -t / P.uL) ∧
    P.PC = P.TPC.map (fun t => -t / P.uL) ∧ P.LchC spec = (P.TAchC spec).map (fun t => -t / P.uL) := by
  simp only [Pre.SC, Pre.TSC, Pre.AC, Pre.TAC, Pre.PC, Pre.TPC, Pre.LchC, Pre.TAchC, Pre.arr, List.map_map,
    Function.comp_def, Pre.longi]
  num_real
  simp only [and_self]

/-! ### stop shift: which terms see the chief ray, and how -/

/-- the spherical term does not see the chief ray at all: `inv` cancels between `B` and `hp` -/
theorem tsc_indep (P : Pre ℝ) (k : ℕ) (hn' : nth P.n k ≠ 0) (hH : P.inv ≠ 0) :
    P.tscTerm k = nth P.n (k - 1) * (nth P.n k - nth P.n (k - 1)) * nth P.ya k * (nth P.ua k + P.i k)
                    * (P.i k * P.i k) / (2 * nth P.n k * (P.nL * P.uL)) := by
  rw [tscTerm_eq, B_eq, hp_eq, mul_right_comm, div_mul_div_comm, mul_right_comm (2 * nth P.n k),
    mul_div_mul_right _ _ hH, div_mul_eq_mul_div]

/-- the Petzval term sees the chief ray only through `inv²` -/
theorem tpc_indep (P : Pre ℝ) (k : ℕ) :
    P.tpcTerm k = (nth P.n k - nth P.n (k - 1)) * nth P.C k * (P.inv * P.inv)
                    / (P.nL * P.uL) / (2 * nth P.n k * nth P.n (k - 1)) := by
  rw [tpcTerm_eq, hp_eq]
  ring

/-- **stop_shift_invariance**: two precalculations over the same surfaces (indices, curvatures)
and the same marginal ray, with *any* two chief rays: the spherical terms coincide as soon as both
Lagrange invariants are non-zero, the Petzval terms coincide when the invariants are equal (or
opposite); hence `S_I` and `S_IV` coincide.  Moving the stop changes only the chief ray. -/
theorem stop_shift_invariance (P Q : Pre ℝ) (hn : P.n = Q.n) (hN : P.N = Q.N) (hC : P.C = Q.C)
    (hya : P.ya = Q.ya) (hua : P.ua = Q.ua) (hP : P.inv ≠ 0) (hQ : Q.inv ≠ 0)
    (hk : ∀ k, 1 ≤ k → k ≤ P.N - 2 → nth P.n k ≠ 0) :
    P.TSC = Q.TSC ∧ nth P.seidels 0 = nth Q.seidels 0 ∧
    (P.inv * P.inv = Q.inv * Q.inv → P.TPC = Q.TPC ∧ nth P.seidels 3 = nth Q.seidels 3) := by
  have hnL : P.nL = Q.nL := by unfold Pre.nL; rw [hn]
  have huL : P.uL = Q.uL := by unfold Pre.uL; rw [hua]
  have hi : ∀ k, P.i k = Q.i k := fun k => by rw [i_eq, i_eq, hC, hya, hua]
  have h1 : P.TSC = Q.TSC := arr_congr hN fun k hk1 hk2 => by
    have hk' := hk k hk1 hk2
    rw [tsc_indep P k hk' hP, tsc_indep Q k (hn ▸ hk') hQ, hi, hn, hya, hua, hnL, huL]
  refine ⟨h1, ?_, fun hI => ?_⟩
  · simp only [Pre.seidels, Pre.sumSeidels, nth, List.getD_cons_zero, seidelOf_eq]
    rw [h1, hnL, huL]
  · have h3 : P.TPC = Q.TPC := arr_congr hN fun k _ _ => by
      rw [tpc_indep P k, tpc_indep Q k, hI, hn, hC, hnL, huL]
    refine ⟨h3, ?_⟩
    simp only [Pre.seidels, Pre.sumSeidels, nth, List.getD_cons_succ, List.getD_cons_zero, seidelOf_eq]
    rw [h3, hnL, huL]

/-- the same statement for the tree's `_precalculations` of two systems (e.g. the same lens with
the stop on another surface): same index and curvature arrays, same marginal ray, same
Lagrange invariant ⇒ same `S_I` and `S_IV`.
Conditional: that moving the stop leaves the marginal ray (`hm`) and the Lagrange invariant (`hI`) unchanged
is *assumed* here, not derived from "same lens, other stop surface" (it holds for an infinite object with an
EPD aperture and an angular field; for a finite object the model's marginal ray is launched towards the
entrance pupil and does change with the stop).  The harness checks `hI` numerically before it compares. -/
theorem stop_shift_invariance_sys (S S' : PSys ℝ) (nF nC nF' nC' : List ℝ)
    (hn : nList S = nList S') (hlen : S.surfs.length = S'.surfs.length)
    (hC : curvatures S.surfs = curvatures S'.surfs) (hm : marginalRay S = marginalRay S')
    (hI : invariant S = invariant S') (hH : invariant S ≠ 0)
    (hk : ∀ k, 1 ≤ k → k ≤ S.surfs.length - 2 → nth (nList S) k ≠ 0) :
    nth (precalcCode S nF nC).seidels 0 = nth (precalcCode S' nF' nC').seidels 0 ∧
    nth (precalcCode S nF nC).seidels 3 = nth (precalcCode S' nF' nC').seidels 3 := by
  have h := stop_shift_invariance (precalcCode S nF nC) (precalcCode S' nF' nC') hn hlen hC
    (by simp only [precalcCode, hm]) (by simp only [precalcCode, hm]) hH
    (by rw [← hI]; exact hH : invariant S' ≠ 0) hk
  exact ⟨h.2.1, (h.2.2 (by simp only [precalcCode, hI])).2⟩

/-- **stop_shift_formulae**: moving the stop adds a multiple `ε` of the marginal ray to the chief ray
(`ȳ* = ȳ + ε y`, `ū* = ū + ε u` at the surface, on both sides) and leaves the Lagrange invariant
unchanged.  Stated on the stored arrays at surface `k`: the model's terms obey the classical stop-shift
equations `S_II* = S_II + ε S_I`, `S_III* = S_III + 2ε S_II + ε² S_I`, with `S_I`, `S_IV` unchanged —
for every `ε`, every surface, also when `H = 0`. -/
theorem stop_shift_formulae (P Q : Pre ℝ) (k : ℕ) (ε : ℝ) (hn : Q.n = P.n) (hC : Q.C = P.C)
    (hya : Q.ya = P.ya) (hua : Q.ua = P.ua) (hI : Q.inv = P.inv)
    (hyb : nth Q.yb k = nth P.yb k + ε * nth P.ya k)
    (hub : nth Q.ub (k - 1) = nth P.ub (k - 1) + ε * nth P.ua (k - 1)) :
    Q.tscTerm k = P.tscTerm k ∧ Q.tpcTerm k = P.tpcTerm k ∧
    Q.ccTerm k = P.ccTerm k + ε * P.tscTerm k ∧
    Q.tacTerm k = P.tacTerm k + 2 * ε * P.ccTerm k + ε ^ 2 * P.tscTerm k := by
  have hi : Q.i k = P.i k := by rw [i_eq, i_eq, hC, hya, hua]
  have hip : Q.ip k = P.ip k + ε * P.i k := by rw [ip_eq, ip_eq, i_eq, hC, hyb, hub]; ring
  have hB : Q.B k = P.B k := by rw [B_eq, B_eq, hi, hn, hya, hua, hI]
  have hhp : Q.hp = P.hp := by unfold Pre.hp Pre.nL Pre.uL; rw [hn, hua, hI]
  refine ⟨?_, ?_, ?_, ?_⟩
  · rw [tscTerm_eq, tscTerm_eq, hB, hi, hhp]
  · rw [tpcTerm_eq, tpcTerm_eq, hn, hC, hhp, hI]
  · rw [ccTerm_eq, ccTerm_eq, tscTerm_eq, hB, hi, hip, hhp]; ring
  · rw [tacTerm_eq, tacTerm_eq, ccTerm_eq, tscTerm_eq, hB, hip, hhp]; ring

example : ∃ (P Q : Pre ℝ) (k : ℕ) (ε : ℝ), ε ≠ 0 ∧ Q.n = P.n ∧ Q.C = P.C ∧ Q.ya = P.ya ∧ Q.ua = P.ua ∧
    Q.inv = P.inv ∧ nth Q.yb k = nth P.yb k + ε * nth P.ya k ∧
    nth Q.ub (k - 1) = nth P.ub (k - 1) + ε * nth P.ua (k - 1) :=
  ⟨{ exPre with ub := [1/10, 1/20, 1/20] }, { exPre with yb := [0, 2, 0], ub := [1/10, 1/20, 1/20] },
   1, 2, two_ne_zero, rfl, rfl, rfl, rfl, rfl, (by norm_num : (2:ℝ) = 0 + 2 * 1),
   (by norm_num : (1/10:ℝ) = 1/10 + 2 * 0)⟩

/-! ### the model's rays satisfy the classical hypotheses (index bookkeeping over the trace) -/

/-- well-formed sequential system: object surface first, ordinary surfaces `1 … N-2`, no
decentres, non-zero indices, media chained (a mirror keeps its index) -/
structure WFsys (ss : List (PSurf ℝ)) (n0 : ℝ) : Prop where
  wf : ∀ s ∈ ss, s.dy = 0 ∧ s.n2 ≠ 0
  chained : C04.Chained n0 ss
  std : ∀ k, 1 ≤ k → k ≤ ss.length - 2 → (ss.getD k dS).kind = .standard

/-- `_precalculations` with signed indices for two arbitrary traced rays -/
noncomputable def preOf (ss : List (PSurf ℝ)) (ra rb : PRay ℝ) (dn : List ℝ) : Pre ℝ :=
  let a := ptrace ra ss
  let b := ptrace rb ss
  let n := mulLists (sigmas 1 ss) (ss.map (·.n2))
  { inv := nth (ys b) 1 * nth n 1 * nth (us a) 1 - nth (ys a) 1 * nth n 1 * nth (us b) 1,
    n := n, N := ss.length, C := curvatures ss,
    ya := ys a, ua := us a, yb := ys b, ub := us b, dn := dn }

theorem lagrange_at (ss : List (PSurf ℝ)) (n0 : ℝ) (ra rb : PRay ℝ) (W : WFsys ss n0) :
    ∀ k, 1 ≤ k → k ≤ ss.length - 2 →
      C04.lag (nth (sigmas 1 ss) k) (ss.getD k dS).n2 ((ptrace ra ss).getD k dR) ((ptrace rb ss).getD k dR)
        = C04.lag (nth (sigmas 1 ss) 1) (ss.getD 1 dS).n2 ((ptrace ra ss).getD 1 dR) ((ptrace rb ss).getD 1 dR)
      ∧ ((ptrace ra ss).getD k dR).z = ((ptrace rb ss).getD k dR).z := by
  intro k hk1
  induction k, hk1 using Nat.le_induction with
  | base =>
    intro h
    have h1 : 0 + 1 < ss.length := by omega
    obtain ⟨hdy, hn2⟩ := W.wf _ (getD_mem ss 1 h1)
    have hz := fun r => (refr_step r _ 1 hdy (W.std 1 le_rfl h) hn2
      fun hr => (chained_getD ss n0 0 W.chained h1).2 (Or.inr hr)).1
    rw [ptrace_getD_succ ss ra 0 h1, ptrace_getD_succ ss rb 0 h1, hz, hz]
    exact ⟨rfl, rfl⟩
  | succ k hk ih =>
    intro h
    have ihk := ih (by omega)
    have h1 : k + 1 < ss.length := by omega
    obtain ⟨hdy, hn2⟩ := W.wf _ (getD_mem ss (k + 1) h1)
    have hc := chained_getD ss n0 k W.chained h1
    have hl := C04.pstep_lagrange ((ptrace ra ss).getD k dR) ((ptrace rb ss).getD k dR) (ss.getD (k + 1) dS)
      (nth (sigmas 1 ss) k) ihk.2 hdy hn2 hc.2
    rw [ptrace_getD_succ ss ra k h1, ptrace_getD_succ ss rb k h1, sigmas_getD_succ ss 1 k h1, hl.1, hc.1]
    exact ⟨ihk.1, hl.2⟩

/-- **surfOK_of_trace**: for every well-formed system and any two traced
paraxial rays, the arrays of `_precalculations` with signed indices satisfy the refraction
invariants and the Lagrange invariant at every surface `1 … N-2` -/
theorem surfOK_of_trace (ss : List (PSurf ℝ)) (n0 : ℝ) (ra rb : PRay ℝ) (dn : List ℝ) (W : WFsys ss n0)
    (k : ℕ) (hk1 : 1 ≤ k) (hk2 : k ≤ ss.length - 2) : SurfOK (preOf ss ra rb dn) k := by
  obtain ⟨j, rfl⟩ : ∃ j, k = j + 1 := ⟨k - 1, by omega⟩
  have h1 : j + 1 < ss.length := by omega
  obtain ⟨hdy, hn2⟩ := W.wf _ (getD_mem ss (j + 1) h1)
  have hc := chained_getD ss n0 j W.chained h1
  have hn' : nth (mulLists (sigmas 1 ss) (ss.map (·.n2))) (j + 1)
      = C04.sgnIdx (nth (sigmas 1 ss) j) (ss.getD (j + 1) dS) * (ss.getD (j + 1) dS).n2 := by
    rw [signedN_getD ss 1 (j + 1) h1, sigmas_getD_succ ss 1 j h1]
  have hn : nth (mulLists (sigmas 1 ss) (ss.map (·.n2))) j
      = nth (sigmas 1 ss) j * (ss.getD (j + 1) dS).n1 := by
    rw [signedN_getD ss 1 j (by omega), hc.1]
  have hne : ∀ i, i < ss.length → nth (mulLists (sigmas 1 ss) (ss.map (·.n2))) i ≠ 0 := fun i hi => by
    rw [signedN_getD ss 1 i hi]
    refine mul_ne_zero ?_ (W.wf _ (getD_mem ss i hi)).2
    rcases sigmas_pm ss 1 i (Or.inl rfl) hi with h | h <;> rw [h] <;> norm_num
  have hR := fun r => (refr_step r _ (nth (sigmas 1 ss) j) hdy (W.std _ hk1 hk2) hn2
    fun hr => hc.2 (Or.inr hr)).2
  have hL := (lagrange_at ss n0 ra rb W (j + 1) hk1 hk2).1
  refine ⟨?_, ?_, ?_, ?_, ?_⟩ <;> simp only [preOf, Nat.add_sub_cancel, nth_us, nth_ys, nth_curv]
  · exact hne j (by omega)
  · exact hne _ h1
  · rw [hn, hn', ptrace_getD_succ ss ra j h1]
    exact hR _
  · rw [hn, hn', ptrace_getD_succ ss rb j h1]
    exact hR _
  · rw [signedN_getD ss 1 1 (by omega), signedN_getD ss 1 (j + 1) h1]
    unfold C04.lag at hL
    linear_combination -hL

/-- `precalcSpec` is `preOf` for the model's marginal and chief rays -/
theorem precalcSpec_is_preOf (S : PSys ℝ) (nF nC : List ℝ) :
    ∃ ra rb, precalcSpec S nF nC = preOf S.surfs ra rb (mulLists (sigmas 1 S.surfs) (subLists nF nC)) := by
  obtain ⟨ra, ha⟩ := marginal_is_trace S
  obtain ⟨rb, hb⟩ := chief_is_trace S
  refine ⟨ra, rb, ?_⟩
  unfold precalcSpec preOf
  simp only [ha, hb, nList]

/-- **terms_eq_classical for the model**: for every well-formed system (any mirrors, any stop,
finite or infinite object, any aperture/field specification), with the indices signed at mirrors,
every per-surface term is the classical contribution and the five sums are the classical sums. -/
theorem model_terms_eq_classical (S : PSys ℝ) (nF nC : List ℝ) (n0 : ℝ) (W : WFsys S.surfs n0)
    (G : SysOK (precalcSpec S nF nC)) :
    let P := precalcSpec S nF nC
    (∀ k, 1 ≤ k → k ≤ S.surfs.length - 2 →
      -2 * P.nL * P.uL * P.tscTerm k = - SI (P.loc k) ∧
      -2 * P.nL * P.uL * P.ccTerm k = - SII (P.loc k) ∧
      -2 * P.nL * P.uL * P.tacTerm k = - SIII (P.loc k) ∧
      -2 * P.nL * P.uL * P.tpcTerm k = - SIV (P.loc k) ∧
      -2 * P.nL * P.uL * P.dcTerm k = - SVp (P.loc k) ∧
      (A (P.loc k) ≠ 0 → -2 * P.nL * P.uL * P.dcTerm k = - SV (P.loc k)) ∧
      P.nL * P.uL * P.tachcTerm_spec k = CI (P.loc k) ∧
      P.nL * P.uL * P.tchcTerm_spec k = CII (P.loc k)) ∧
    P.seidels = [(P.arr fun k => - SI (P.loc k)).sum, (P.arr fun k => - SII (P.loc k)).sum,
                 (P.arr fun k => - SIII (P.loc k)).sum, (P.arr fun k => - SIV (P.loc k)).sum,
                 (P.arr fun k => - SVp (P.loc k)).sum] := by
  intro P
  obtain ⟨ra, rb, hP⟩ := precalcSpec_is_preOf S nF nC
  have hall : ∀ k, 1 ≤ k → k ≤ P.N - 2 → SurfOK P k := fun k h1 h2 => by
    show SurfOK (precalcSpec S nF nC) k
    rw [hP]
    exact surfOK_of_trace S.surfs n0 ra rb _ W k h1 h2
  exact ⟨fun k h1 h2 => terms_eq_classical P k G (hall k h1 h2), seidels_eq_classical_sums P G hall⟩

/-! the tree's own precalculation coincides with the signed one when no surface reflects -/

/-- without mirrors `_precalculations` as coded *is* the signed precalculation -/
theorem precalcCode_eq_spec (S : PSys ℝ) (nF nC : List ℝ) (hm : ∀ s ∈ S.surfs, s.refl = false)
    (hF : nF.length ≤ S.surfs.length) : precalcCode S nF nC = precalcSpec S nF nC := by
  unfold precalcCode precalcSpec
  have h1 : mulLists (sigmas 1 S.surfs) (nList S) = nList S :=
    mulLists_sigmas_one S.surfs (nList S) hm (by simp [nList])
  have h2 : mulLists (sigmas 1 S.surfs) (subLists nF nC) = subLists nF nC :=
    mulLists_sigmas_one S.surfs _ hm (by
      unfold subLists; rw [List.length_zipWith]; exact le_trans (Nat.min_le_left _ _) hF)
  simp only [h1, h2, invariant]

/-- **the tree's Seidel terms are the classical ones for every refracting (mirror-free)
well-formed system** — stated on `precalcCode`, i.e. on what the tree computes. -/
theorem code_terms_eq_classical (S : PSys ℝ) (nF nC : List ℝ) (n0 : ℝ) (W : WFsys S.surfs n0)
    (hm : ∀ s ∈ S.surfs, s.refl = false) (hF : nF.length ≤ S.surfs.length)
    (G : SysOK (precalcCode S nF nC)) :
    let P := precalcCode S nF nC
    (∀ k, 1 ≤ k → k ≤ S.surfs.length - 2 →
      -2 * P.nL * P.uL * P.tscTerm k = - SI (P.loc k) ∧
      -2 * P.nL * P.uL * P.ccTerm k = - SII (P.loc k) ∧
      -2 * P.nL * P.uL * P.tacTerm k = - SIII (P.loc k) ∧
      -2 * P.nL * P.uL * P.tpcTerm k = - SIV (P.loc k) ∧
      -2 * P.nL * P.uL * P.dcTerm k = - SVp (P.loc k)) ∧
    P.seidels = [(P.arr fun k => - SI (P.loc k)).sum, (P.arr fun k => - SII (P.loc k)).sum,
                 (P.arr fun k => - SIII (P.loc k)).sum, (P.arr fun k => - SIV (P.loc k)).sum,
                 (P.arr fun k => - SVp (P.loc k)).sum] := by
  intro P
  have hP : P = precalcSpec S nF nC := precalcCode_eq_spec S nF nC hm hF
  have h := model_terms_eq_classical S nF nC n0 W (hP ▸ G)
  rw [← hP] at h
  exact ⟨fun k h1 h2 => let t := h.1 k h1 h2; ⟨t.1, t.2.1, t.2.2.1, t.2.2.2.1, t.2.2.2.2.1⟩, h.2⟩

/-! ### the spherical term against the exact ray through one surface -/
open Filter Topology

/-- one spherical surface (radius `r`, indices `n → n'`, stop on it), object at infinity, entrance
pupil diameter `2h`, image plane at distance `t` -/
noncomputable def single (n n' r h t fld : ℝ) : PSys ℝ :=
  { surfs := [⟨.object, 0, 0, 0, n, n, false, false⟩, ⟨.standard, 0, 0, r, n, n', false, true⟩,
              ⟨.standard, 0, t, 0, n', n', false, false⟩],
    apType := .EPD, apValue := 2 * h, fieldType := .angle, maxYField := fld, objInf := true }

theorem marginal_single (n n' r h t fld : ℝ) :
    marginalRay (single n n' r h t fld) =
      [⟨h, 0, -10⟩, ⟨h, 1 / n' * (n * 0 - h * ((n' - n) / r)), 0⟩,
       ⟨h + t * (1 / n' * (n * 0 - h * ((n' - n) / r))), 1 / n' * (n' * (1 / n' * (n * 0 - h * ((n' - n) / r))) - (h + t * (1 / n' * (n * 0 - h * ((n' - n) / r)))) * ((n' - n') / 0)), t⟩] := by
  -- the launch (infinite object: height `EPD/2`, slope 0, ten units in front of surface 1), then the three
  -- `pstep`s (object: record; surface: transfer and refraction; image plane: transfer), then arithmetic
  simp only [marginalRay, single, EPD, traceGeneric, posOf, if_true, Bool.false_eq_true, if_false, List.drop_zero,
    ptrace, pstep, C04.pstepStd_real, List.map, List.getD_cons_succ, List.getD_cons_zero]
  num_real
  simp only [Nat.cast_ofNat, Nat.cast_one, div_one, mul_div_cancel_left₀ _ (two_ne_zero (α := ℝ)), sub_zero,
    zero_sub, mul_zero, add_zero, sub_neg_eq_add, zero_add]

theorem tsc_single (n n' r h t fld : ℝ) (nF nC : List ℝ) (hn' : n' ≠ 0) (hnn : n' - n ≠ 0) (hr : r ≠ 0)
    (hh : h ≠ 0) (hH : invariant (single n n' r h t fld) ≠ 0) :
    (precalcCode (single n n' r h t fld) nF nC).tscTerm 1 = -(n / n') ^ 2 * (1 / r) ^ 2 * h ^ 3 / 2 := by
  have hP : (precalcCode (single n n' r h t fld) nF nC).inv ≠ 0 := hH
  rw [tsc_indep _ 1 (by simp [precalcCode, nList, single, nth]; exact hn') hP]
  simp only [Pre.i, Pre.nL, Pre.uL, precalcCode, marginal_single]
  simp only [nList, curvatures, ys, us, nth, last, single,
    List.map, List.getD_cons_succ, List.getD_cons_zero, List.getLastD_cons, List.getLastD_nil,
    Nat.sub_self, mul_zero, zero_sub, sub_self, zero_div, sub_zero, add_zero]
  field_simp
  ring

/-- exact meridional trace of a ray parallel to the axis at height `h` through one spherical
surface of curvature `c` between indices `n → n'`: `sin I = c h`, Snell `n sin I = n' sin I'`,
ray slope behind the surface `tan (I' − I)`, sag `(1 − cos I)/c`; the value is the ray height in
the paraxial focal plane `z = n'/((n'−n)c)`, i.e. the real transverse spherical aberration. -/
noncomputable def realErr (n n' c h : ℝ) : ℝ :=
  let s := c * h
  let s' := n / n' * s
  let C := Real.sqrt (1 - s ^ 2)
  let C' := Real.sqrt (1 - s' ^ 2)
  h + (n' / ((n' - n) * c) - (1 - C) / c) * ((s' * C - C' * s) / (C' * C + s' * s))

/-- the two denominators of the closed form -/
noncomputable def D1 (μ a : ℝ) : ℝ :=
  (1 + Real.sqrt (1 - a ^ 2)) * (1 + Real.sqrt (1 - (μ * a) ^ 2)) - μ * a ^ 2
noncomputable def D2 (μ a : ℝ) : ℝ :=
  Real.sqrt (1 - a ^ 2) * Real.sqrt (1 - (μ * a) ^ 2) + μ * a ^ 2

/-- closed form of the real transverse error: third-order term times `4/(D1·D2)` -/
theorem realErr_closed (n n' c h : ℝ) (hn' : n' ≠ 0) (hnn : n' - n ≠ 0) (hc : c ≠ 0)
    (ha : (c * h) ^ 2 ≤ 1) (ha' : (n / n' * (c * h)) ^ 2 ≤ 1)
    (hD1 : D1 (n / n') (c * h) ≠ 0) (hD2 : D2 (n / n') (c * h) ≠ 0) :
    realErr n n' c h = (-(n / n') ^ 2 * c ^ 2 * h ^ 3 / 2) * (4 / (D1 (n / n') (c * h) * D2 (n / n') (c * h))) := by
  have hμ : 1 - n / n' ≠ 0 := by rw [one_sub_div hn']; exact div_ne_zero hnn hn'
  have hz : n' / ((n' - n) * c) = 1 / ((1 - n / n') * c) := by
    rw [one_sub_div hn', div_mul_eq_mul_div, one_div_div]
  unfold realErr
  rw [hz]
  exact real_core (n / n') c h _ _ (Real.sq_sqrt (sub_nonneg.2 ha)) (Real.sq_sqrt (sub_nonneg.2 ha')) hc hμ hD1 hD2

theorem ratio_tendsto_one (μ c : ℝ) :
    Tendsto (fun h : ℝ => 4 / (D1 μ (c * h) * D2 μ (c * h))) (𝓝 0) (𝓝 1) := by
  have hcont : Continuous fun h : ℝ => D1 μ (c * h) * D2 μ (c * h) := by
    unfold D1 D2; fun_prop
  have h0 : D1 μ (c * 0) * D2 μ (c * 0) = 4 := by
    unfold D1 D2; norm_num
  have ht := hcont.tendsto 0
  rw [h0] at ht
  have := Tendsto.div (tendsto_const_nhds (x := (4:ℝ))) ht (by norm_num)
  rw [show (4:ℝ) / 4 = 1 by norm_num] at this
  exact this

theorem D_pos (μ a : ℝ) (hμ : 0 ≤ μ) (ha : a ^ 2 < 1) (hμa : μ * a ^ 2 < 1) :
    0 < D1 μ a ∧ 0 < D2 μ a := by
  have h1 : 0 < Real.sqrt (1 - a ^ 2) := Real.sqrt_pos.2 (sub_pos.2 ha)
  have h2 : 0 ≤ Real.sqrt (1 - (μ * a) ^ 2) := Real.sqrt_nonneg _
  have h3 : 0 ≤ μ * a ^ 2 := mul_nonneg hμ (sq_nonneg a)
  have h12 := mul_nonneg h1.le h2
  unfold D1 D2
  refine ⟨by linarith, ?_⟩
  rcases h3.eq_or_lt with h0 | h0
  · -- `μ a² = 0` forces `μ a = 0`, so the second root is 1
    have : μ * a = 0 := by
      rcases mul_eq_zero.1 h0.symm with h | h
      · rw [h, zero_mul]
      · rw [pow_eq_zero_iff two_ne_zero] at h; rw [h, mul_zero]
    rw [this, ← h0, zero_pow two_ne_zero, sub_zero, Real.sqrt_one, mul_one, add_zero]; exact h1
  · linarith

/-- **tsc_predicts_real_partial**: one spherical refracting surface, object at infinity.  The
real marginal ray (exact Snell trace, `realErr`) lands in the paraxial image plane at the
third-order prediction `TSC` of the model times `4/(D1·D2)`, and that factor tends to 1 as the
aperture `h → 0`: `TSC` *is* the small-aperture limit of the real transverse error.
Partial: general lenses (several surfaces, finite objects, mirrors) are checked numerically by
the harness against the implementation's real ray tracer. -/
theorem tsc_predicts_real_partial (n n' r t fld : ℝ) (nF nC : List ℝ) (hn' : n' ≠ 0) (hnn : n' - n ≠ 0)
    (hr : r ≠ 0) :
    (∀ h : ℝ, h ≠ 0 → invariant (single n n' r h t fld) ≠ 0 → (1 / r * h) ^ 2 ≤ 1 →
        (n / n' * (1 / r * h)) ^ 2 ≤ 1 → D1 (n / n') (1 / r * h) ≠ 0 → D2 (n / n') (1 / r * h) ≠ 0 →
      realErr n n' (1 / r) h = (precalcCode (single n n' r h t fld) nF nC).tscTerm 1 *
        (4 / (D1 (n / n') (1 / r * h) * D2 (n / n') (1 / r * h)))) ∧
    Tendsto (fun h : ℝ => 4 / (D1 (n / n') (1 / r * h) * D2 (n / n') (1 / r * h))) (𝓝 0) (𝓝 1) := by
  refine ⟨?_, ratio_tendsto_one _ _⟩
  intro h hh hH ha ha' hD1 hD2
  rw [tsc_single n n' r h t fld nF nC hn' hnn hr hh hH,
    realErr_closed n n' (1 / r) h hn' hnn (one_div_ne_zero hr) ha ha' hD1 hD2]

/-- non-vacuity of the side conditions: BK7-like surface `R = 50` at height 5 -/
example : (1 / (50:ℝ) * 5) ^ 2 ≤ 1 ∧ ((1:ℝ) / (3/2) * (1 / 50 * 5)) ^ 2 ≤ 1 ∧
    D1 ((1:ℝ) / (3/2)) (1 / 50 * 5) ≠ 0 ∧ D2 ((1:ℝ) / (3/2)) (1 / 50 * 5) ≠ 0 := by
  have h := D_pos ((1:ℝ) / (3/2)) (1 / 50 * 5) (by norm_num) (by norm_num) (by norm_num)
  exact ⟨by norm_num, by norm_num, h.1.ne', h.2.ne'⟩

/-! ### joint non-vacuity of the system-level hypotheses; what the guard `H ≠ 0` excludes -/

theorem inverted_single (n n' r h t fld : ℝ) :
    inverted (single n n' r h t fld).surfs =
      [⟨.standard, 0, t - t, 0 * (-1), n', n', false, false⟩, ⟨.standard, 0, t - 0, r * (-1), n', n, false, true⟩,
       ⟨.object, 0, t - 0, 0 * (-1), n, n, false, false⟩] := by
  simp [inverted, single]

theorem stop_inverted_single (n n' r h t fld : ℝ) :
    stopIndex (inverted (single n n' r h t fld).surfs) = some 1 := by
  rw [inverted_single]; simp [stopIndex, List.findIdx?_cons]

theorem chief_single (n n' r h t fld : ℝ) :
    chiefRay (single n n' r h t fld) =
      [⟨0, Real.tan (fld * (Real.pi / 180)), 0⟩, ⟨0, n'⁻¹ * (n * Real.tan (fld * (Real.pi / 180))), 0⟩,
       ⟨t * (n'⁻¹ * (n * Real.tan (fld * (Real.pi / 180)))),
        n'⁻¹ * (n' * (n'⁻¹ * (n * Real.tan (fld * (Real.pi / 180))))), t⟩] := by
  -- the backward trace from the stop (surface 1 of the inverted list) gives the launch slope `tan θ`;
  -- then the three `pstep`s of the forward trace as in `marginal_single`, then arithmetic
  simp only [chiefRay, stop_inverted_single, Option.getD_some, traceGeneric, if_true]
  rw [inverted_single]
  simp only [single, posOf, Bool.false_eq_true, if_false,
    ptrace, pstep, C04.pstepStd_real, List.map, List.getD_cons_succ, List.getD_cons_zero,
    List.drop, ys, us, last, tenth, deg2rad,
    List.getLastD_cons, List.getLastD_nil]
  num_real
  simp only [Nat.cast_ofNat, Nat.cast_one, div_one, neg_zero, sub_zero, sub_self, zero_mul, mul_zero,
    add_zero, zero_add, one_div, zero_div, mul_div_cancel_left₀ _ (inv_ne_zero (OfNat.ofNat_ne_zero (R := ℝ) 10))]

/-- the Lagrange invariant of the one-surface system: `−h·n·tan θ` -/
theorem invariant_single (n n' r h t fld : ℝ) (hn' : n' ≠ 0) :
    invariant (single n n' r h t fld) = -(h * n * Real.tan (fld * (Real.pi / 180))) := by
  unfold invariant
  rw [chief_single, marginal_single]
  simp only [nList, single, ys, us, nth, List.map, List.getD_cons_succ, List.getD_cons_zero]
  num_real
  field_simp
  ring

theorem tan_deg_pos : 0 < Real.tan ((1 : ℝ) * (Real.pi / 180)) := by
  apply Real.tan_pos_of_pos_of_lt_pi_div_two <;> nlinarith [Real.pi_pos]

/-- **non-vacuity of `code_terms_eq_classical` / `model_terms_eq_classical` / `tsc_predicts_real_partial`**:
the one-surface lens `R = 50`, air → `n = 3/2`, semi-aperture 5, field 1°, image plane at 150 is a
well-formed system, has no mirror, and meets the system guards `H ≠ 0`, `n' ≠ 0`, `u' ≠ 0`. -/
example : WFsys (single 1 (3/2) 50 5 150 1).surfs 1 ∧ (∀ s ∈ (single 1 (3/2) 50 5 150 1).surfs, s.refl = false) ∧
    SysOK (precalcCode (single 1 (3/2) 50 5 150 1) [] []) ∧ invariant (single 1 (3/2) 50 5 150 1) ≠ 0 := by
  have hI : invariant (single 1 (3/2) 50 5 150 1) ≠ 0 := by
    rw [invariant_single _ _ _ _ _ _ (by norm_num)]
    exact neg_ne_zero.2 (mul_ne_zero (mul_ne_zero (OfNat.ofNat_ne_zero 5) one_ne_zero) tan_deg_pos.ne')
  refine ⟨⟨?_, ?_, ?_⟩, ?_, ⟨hI, ?_, ?_⟩, hI⟩
  · intro s hs; simp [single] at hs; rcases hs with rfl | rfl | rfl <;> norm_num
  · simp [C04.Chained, single]
  · intro k h1 h2
    have : k = 1 := by simp [single] at h2; omega
    subst this; simp [single]
  · intro s hs; simp [single] at hs; rcases hs with rfl | rfl | rfl <;> rfl
  · exact (by norm_num : (3/2 : ℝ) ≠ 0)
  · simp only [Pre.uL, precalcCode, marginal_single]
    simp [us, last]
    norm_num

/-- **what the guard `P.inv ≠ 0` excludes.**  When the Lagrange invariant is 0 (a lens analysed with the
on-axis field only: the chief ray is identically zero) the tree's `_hp` is 0, so *every* third-order term
and every Seidel sum it returns is 0 — although the classical spherical contribution
`S_I = −A² y Δ(u/n)` does not involve the chief ray at all and is not 0.  `terms_eq_classical` therefore says
nothing about such a call, and the implementation's answer there is not the classical one (observed on the
real code: singlet R = ±50, N-BK7, EPD 10, single field 0°: `TSC() = [0, 0]`, `seidels() = 0`; with a second
field of 5° `TSC() = [-0.0055, -0.0742]`). -/
theorem terms_vanish_when_invariant_zero (P : Pre ℝ) (k : ℕ) (h : P.inv = 0) :
    P.tscTerm k = 0 ∧ P.ccTerm k = 0 ∧ P.tacTerm k = 0 ∧ P.tpcTerm k = 0 ∧ P.dcTerm k = 0 ∧
    P.seidels = [0, 0, 0, 0, 0] := by
  have hp : P.hp = 0 := by rw [hp_eq, h, zero_div]
  have t1 : ∀ k, P.tscTerm k = 0 := fun k => by rw [tscTerm_eq, hp, mul_zero]
  have t2 : ∀ k, P.ccTerm k = 0 := fun k => by rw [ccTerm_eq, hp, mul_zero]
  have t3 : ∀ k, P.tacTerm k = 0 := fun k => by rw [tacTerm_eq, hp, mul_zero]
  have t4 : ∀ k, P.tpcTerm k = 0 := fun k => by rw [tpcTerm_eq, hp, mul_zero, zero_mul, zero_div]
  have t5 : ∀ k, P.dcTerm k = 0 := fun k => by rw [dcTerm_eq, hp, zero_mul]
  have hz : ∀ f : ℕ → ℝ, (∀ k, f k = 0) → (P.arr f).sum = 0 := fun f hf =>
    List.sum_eq_zero fun x hx => by obtain ⟨j, -, rfl⟩ := List.mem_map.1 hx; exact hf _
  refine ⟨t1 k, t2 k, t3 k, t4 k, t5 k, ?_⟩
  rw [(sums_are_sums P).1]
  simp only [Pre.TSC, Pre.CC, Pre.TAC, Pre.TPC, Pre.DC, hz _ t1, hz _ t2, hz _ t3, hz _ t4, hz _ t5, mul_zero]

/-! ### index-matched (cemented) surfaces and mirrors as coded -/

/-- **index_matched_contributes_zero**: a surface between two media of the same index at the
primary wavelength (`_n[k] = _n[k-1]`: a cemented index-matched interface, or — with `optic.n()`
as the tree reads it — a mirror) has spherical, coma, astigmatism and Petzval terms exactly 0, for
every curvature, every ray and every value of the Lagrange invariant (also 0); the distortion term
keeps only `h'·½Δ(ū²)` and the colour terms only see the dispersion step `δn_{k-1} − δn_k`. -/
theorem index_matched_contributes_zero (P : Pre ℝ) (k : ℕ) (hm : nth P.n k = nth P.n (k - 1)) :
    P.tscTerm k = 0 ∧ P.ccTerm k = 0 ∧ P.tacTerm k = 0 ∧ P.tpcTerm k = 0 ∧
    P.dcTerm k = P.hp * (1 / 2 * (nth P.ub k * nth P.ub k - nth P.ub (k - 1) * nth P.ub (k - 1))) ∧
    (nth P.n k ≠ 0 →
      P.tachcTerm_spec k = -(nth P.ya k) * P.i k / (P.nL * P.uL) * (nth P.dn (k - 1) - nth P.dn k) ∧
      P.tchcTerm_spec k = -(nth P.ya k) * P.ip k / (P.nL * P.uL) * (nth P.dn (k - 1) - nth P.dn k)) := by
  have hB : P.B k = 0 := by rw [B_eq, hm, sub_self, mul_zero, zero_mul, zero_mul, zero_div]
  have hBp : P.Bp k = 0 := by rw [Bp_eq, hm, sub_self, mul_zero, zero_mul, zero_mul, zero_div]
  refine ⟨?_, ?_, ?_, ?_, ?_, ?_⟩
  · rw [tscTerm_eq, hB, zero_mul, zero_mul]
  · rw [ccTerm_eq, hB, zero_mul, zero_mul, zero_mul]
  · rw [tacTerm_eq, hB, zero_mul, zero_mul]
  · rw [tpcTerm_eq, hm, sub_self, zero_mul, zero_mul, zero_mul, zero_div]
  · rw [dcTerm_eq, hBp, zero_mul, zero_mul, zero_add]
  · intro hn
    rw [tachcTerm_spec_eq, tchcTerm_spec_eq, dnFac_eq, ← hm, div_self hn, one_mul]
    exact ⟨rfl, rfl⟩

example : ∃ P : Pre ℝ, nth P.n 1 = nth P.n (1 - 1) ∧ nth P.n 1 ≠ 0 ∧ nth P.C 1 ≠ 0 :=
  ⟨⟨1, [3/2, 3/2, 1], 3, [0, 1/50, 0], [5, 5, 4], [0, 0, -1/10], [0, 0, 1], [1/10, 1/10, 1/10], [1/100, 1/50, 0]⟩,
    rfl, (by norm_num : (3/2 : ℝ) ≠ 0), (by norm_num : (1/50 : ℝ) ≠ 0)⟩

/-- with the chief-ray refraction invariant an index-matched surface does not bend the chief ray,
so its distortion term is 0 as well -/
theorem index_matched_distortion_zero (P : Pre ℝ) (k : ℕ) (hm : nth P.n k = nth P.n (k - 1))
    (hn : nth P.n k ≠ 0)
    (refrC : nth P.n k * (nth P.ub k + nth P.yb k * nth P.C k)
            = nth P.n (k - 1) * (nth P.ub (k - 1) + nth P.yb k * nth P.C k)) :
    P.dcTerm k = 0 := by
  rw [(index_matched_contributes_zero P k hm).2.2.2.2.1]
  rw [← hm] at refrC
  have h : nth P.ub k = nth P.ub (k - 1) := by
    have := mul_left_cancel₀ hn refrC
    linarith
  rw [h]; ring

/-! ### F-C08-2: the tree's mirror terms against the classical ones -/

/-- **code_mirror_terms_vanish** (F-C08-2, the code side): in the tree's `_precalculations`
(`optic.n()` unsigned) a reflecting surface of a chained system has `_n[k] = _n[k-1]`, hence its
spherical, coma, astigmatism and Petzval terms are identically 0 -/
theorem code_mirror_terms_vanish (S : PSys ℝ) (nF nC : List ℝ) (n0 : ℝ) (hc : C04.Chained n0 S.surfs)
    (j : ℕ) (hj : j + 1 < S.surfs.length) (hr : (S.surfs.getD (j + 1) dS).refl = true) :
    let P := precalcCode S nF nC
    P.tscTerm (j + 1) = 0 ∧ P.ccTerm (j + 1) = 0 ∧ P.tacTerm (j + 1) = 0 ∧ P.tpcTerm (j + 1) = 0 := by
  intro P
  have hch := chained_getD S.surfs n0 j hc hj
  have hm : nth P.n (j + 1) = nth P.n (j + 1 - 1) := by
    show nth (nList S) (j + 1) = nth (nList S) (j + 1 - 1)
    rw [Nat.add_sub_cancel, nList, nth_n2 _ _ hj, nth_n2 _ j (by omega), hch.2 (Or.inr hr), hch.1]
  have h := index_matched_contributes_zero P (j + 1) hm
  exact ⟨h.1, h.2.1, h.2.2.1, h.2.2.2.1⟩

/-- **signed_vs_unsigned_index**: the index array of the signed precalculation and `optic.n()` as
the tree reads it differ by a sign only, at every surface: `n_spec[k] = ± n_code[k]`; so the two
precalculations can differ in orientation, never in magnitude of an index (mirrors, any number). -/
theorem signed_vs_unsigned_index (S : PSys ℝ) (nF nC : List ℝ) (k : ℕ) (hk : k < S.surfs.length) :
    nth (precalcSpec S nF nC).n k = nth (precalcCode S nF nC).n k ∨
    nth (precalcSpec S nF nC).n k = -nth (precalcCode S nF nC).n k := by
  show nth (mulLists (sigmas 1 S.surfs) (nList S)) k = nth (nList S) k ∨
    nth (mulLists (sigmas 1 S.surfs) (nList S)) k = -nth (nList S) k
  rw [show nList S = S.surfs.map (·.n2) from rfl, signedN_getD S.surfs 1 k hk]
  have : nth (S.surfs.map (·.n2)) k = (S.surfs.getD k dS).n2 := by
    simp [nth, List.getD_eq_getElem?_getD, hk]
  rw [this]
  rcases sigmas_pm S.surfs 1 k (Or.inl rfl) hk with h | h <;> rw [h]
  · left; ring
  · right; ring

example : (0 : ℕ) < (single 1 (3/2) 50 5 150 1).surfs.length := by simp [single]

/-- the classical contributions of a mirror (`n' = −n`, reflection `u' = −u − 2yc`) in closed form:
`S_I = −2 n i² y² c`, `S_IV = 2 H² c / n` -/
theorem mirror_classical (P : Pre ℝ) (k : ℕ) (h : SurfOK P k) (hm : nth P.n k = -nth P.n (k - 1)) :
    SI (P.loc k) = -2 * nth P.n (k - 1) * (P.i k * P.i k) * (nth P.ya k * nth P.ya k) * nth P.C k ∧
    SIV (P.loc k) = 2 * (P.inv * P.inv) * nth P.C k / nth P.n (k - 1) := by
  have hu : nth P.ua k = -nth P.ua (k - 1) - 2 * nth P.ya k * nth P.C k := by
    have hR := h.refrM
    rw [hm, neg_mul, ← mul_neg] at hR
    linear_combination -mul_left_cancel₀ h.hn hR
  have hn := h.hn
  rw [SI_eq, SIV_eq, dUN_eq, dInvN_eq, A_loc]
  simp only [Pre.loc]
  rw [hm, hu]
  constructor <;> field_simp <;> ring

/-- **mirror_code_vs_spec** (F-C08-2 as an iff): `P` is what the tree stores at a mirror
(`_n[k] = _n[k-1]`), `Q` the same surface with index sign reversal (`n' = −n`) satisfying the classical
hypotheses.  The tree's spherical term agrees with the classical one exactly when the mirror is
flat, or the marginal ray meets it on the axis, or at normal incidence; the Petzval term exactly
when the mirror is flat. -/
theorem mirror_code_vs_spec (P Q : Pre ℝ) (k : ℕ) (hP : nth P.n k = nth P.n (k - 1))
    (G : SysOK Q) (h : SurfOK Q k) (hm : nth Q.n k = -nth Q.n (k - 1)) :
    (P.tscTerm k = Q.tscTerm k ↔ Q.i k = 0 ∨ nth Q.ya k = 0 ∨ nth Q.C k = 0) ∧
    (P.tpcTerm k = Q.tpcTerm k ↔ nth Q.C k = 0) := by
  obtain ⟨z1, -, -, z4, -⟩ := index_matched_contributes_zero P k hP
  obtain ⟨m1, m4⟩ := mirror_classical Q k h hm
  have hd : -2 * Q.nL * Q.uL ≠ 0 := mul_ne_zero (mul_ne_zero (by norm_num) G.hnL) G.huL
  constructor
  · rw [z1, eq_comm, ← mul_eq_zero_iff_left hd, tsc_eq_classical Q k G h, m1]
    simp only [neg_eq_zero, mul_eq_zero, or_self, h.hn, OfNat.ofNat_ne_zero, false_or, or_assoc]
  · rw [z4, eq_comm, ← mul_eq_zero_iff_left hd, tpc_eq_classical Q k G.hnL G.huL h.hn h.hn', m4]
    simp only [neg_eq_zero, div_eq_zero_iff, mul_eq_zero, or_self, h.hn, G.hH, OfNat.ofNat_ne_zero,
      false_or, or_false]

/-! ### F-C08-3: exactly when the division by the Lagrange invariant loses the spherical term -/

/-- the spherical term with the invariant cancelled by hand (`B i² h'` without forming `B` and `h'`):
what the tree's spherical term would be if `H` were never divided by; `tsc_code_vs_spec_iff` (F-C08-3) says
when the two differ -/
noncomputable def tscFree (P : Pre ℝ) (k : ℕ) : ℝ :=
  nth P.n (k - 1) * (nth P.n k - nth P.n (k - 1)) * nth P.ya k * (nth P.ua k + P.i k)
    * (P.i k * P.i k) / (2 * nth P.n k * (P.nL * P.uL))

/-- the invariant-free term is the classical `S_I` contribution whatever the Lagrange invariant is
(no hypothesis on `P.inv`, no chief-ray data) -/
theorem tscFree_eq_classical (P : Pre ℝ) (k : ℕ) (hnL : P.nL ≠ 0) (huL : P.uL ≠ 0)
    (hn : nth P.n (k - 1) ≠ 0) (hn' : nth P.n k ≠ 0)
    (hR : nth P.n k * (nth P.ua k + nth P.ya k * nth P.C k)
            = nth P.n (k - 1) * (nth P.ua (k - 1) + nth P.ya k * nth P.C k)) :
    -2 * P.nL * P.uL * tscFree P k = - SI (P.loc k) := by
  rw [tscFree, SI_eq, dUN_eq, A_loc, mul_div_right_comm]
  simp only [Pre.loc, i_eq]
  linear_combination (nth P.C k * nth P.ya k + nth P.ua (k - 1)) ^ 2
    * B_refr (H := P.nL * P.uL) hn hn' (mul_ne_zero hnL huL) hR

/-- **tsc_code_vs_spec_iff** (F-C08-3 as an iff): the tree's spherical term equals the
invariant-free (classical) one exactly when the Lagrange invariant is non-zero or the classical
term itself vanishes, and the latter happens exactly when `n = 0`, the surface is index-matched,
the marginal ray meets the surface on the axis, `u' + i = 0`, or the incidence is normal.  So for
an axial-only field list (`H = 0`) every surface that classically contributes is reported as 0. -/
theorem tsc_code_vs_spec_iff (P : Pre ℝ) (k : ℕ) (hnL : P.nL ≠ 0) (huL : P.uL ≠ 0) (hn' : nth P.n k ≠ 0) :
    (P.tscTerm k = tscFree P k ↔ P.inv ≠ 0 ∨ tscFree P k = 0) ∧
    (tscFree P k = 0 ↔ nth P.n (k - 1) = 0 ∨ nth P.n k = nth P.n (k - 1) ∨ nth P.ya k = 0 ∨
      nth P.ua k + P.i k = 0 ∨ P.i k = 0) := by
  constructor
  · by_cases hH : P.inv = 0
    · rw [(terms_vanish_when_invariant_zero P k hH).1]
      constructor
      · intro e; exact Or.inr e.symm
      · rintro (e | e)
        · exact absurd hH e
        · exact e.symm
    · constructor
      · intro _; exact Or.inl hH
      · intro _; exact tsc_indep P k hn' hH
  · have hd : 2 * nth P.n k * (P.nL * P.uL) ≠ 0 :=
      mul_ne_zero (mul_ne_zero two_ne_zero hn') (mul_ne_zero hnL huL)
    unfold tscFree
    rw [div_eq_zero_iff]
    simp only [hd, or_false, mul_eq_zero, or_self, sub_eq_zero, or_assoc]

example : ∃ P : Pre ℝ, P.inv = 0 ∧ P.nL ≠ 0 ∧ P.uL ≠ 0 ∧ nth P.n 1 ≠ 0 ∧ tscFree P 1 ≠ 0 ∧ P.tscTerm 1 = 0 := by
  refine ⟨{ exPre with inv := 0 }, rfl,
    (two_ne_zero : (2:ℝ) ≠ 0), (by norm_num : (-1/2 : ℝ) ≠ 0), (two_ne_zero : (2:ℝ) ≠ 0), ?_,
    (terms_vanish_when_invariant_zero _ 1 rfl).1⟩
  show (1 : ℝ) * (2 - 1) * 1 * (-1/2 + (1 * 1 + 0)) * ((1 * 1 + 0) * (1 * 1 + 0)) / (2 * 2 * (2 * (-1/2))) ≠ 0
  norm_num

/-! ### immersed image space: the Seidel contributions do not see `n'_last u'_last` -/

/-- consequence for the sums: `S_I` is the sum of the surface contributions `−2H·B i²`, in which
`n'_last u'_last` no longer occurs (it still enters `B`, `i` through the arrays they read). -/
theorem seidel_SI_free_of_image_space (P : Pre ℝ) (hnL : P.nL ≠ 0) (huL : P.uL ≠ 0) :
    nth P.seidels 0 = (P.arr fun k => -2 * P.inv * (P.B k * (P.i k * P.i k))).sum := by
  simp only [Pre.seidels, Pre.sumSeidels, nth, List.getD_cons_zero, seidelOf_eq, Pre.TSC]
  exact sum_arr P _ _ _ fun k _ _ => (seidel_contrib_free_of_image_space P k hnL huL).1

example : ∃ P : Pre ℝ, P.nL ≠ 0 ∧ P.uL ≠ 0 :=
  ⟨exPre,
    (two_ne_zero : (2:ℝ) ≠ 0), (by norm_num : (-1/2 : ℝ) ≠ 0)⟩

/-! ### dependence on aperture and field (Lagrange invariant) -/

/-- the stored arrays after scaling the marginal ray by `a` (aperture) and the chief ray by `f`
(field); the Lagrange invariant, bilinear in the two rays, scales by `a f` -/
noncomputable def scaled (P : Pre ℝ) (a f : ℝ) : Pre ℝ :=
  { P with inv := a * f * P.inv, ya := P.ya.map fun x => a * x, ua := P.ua.map fun x => a * x,
           yb := P.yb.map fun x => f * x, ub := P.ub.map fun x => f * x }

theorem scaled_uL (P : Pre ℝ) (a f : ℝ) : (scaled P a f).uL = a * P.uL := last_map_mul a P.ua

theorem scaled_i (P : Pre ℝ) (a f : ℝ) (k : ℕ) : (scaled P a f).i k = a * P.i k := by
  rw [i_eq, i_eq]; simp only [scaled, nth_map_mul]; ring

theorem scaled_ip (P : Pre ℝ) (a f : ℝ) (k : ℕ) : (scaled P a f).ip k = f * P.ip k := by
  rw [ip_eq, ip_eq]; simp only [scaled, nth_map_mul]; ring

theorem scaled_hp (P : Pre ℝ) {a : ℝ} (f : ℝ) (ha : a ≠ 0) : (scaled P a f).hp = f * P.hp := by
  rw [hp_eq, hp_eq, scaled_uL]
  show a * f * P.inv / (P.nL * (a * P.uL)) = _
  rw [mul_assoc, mul_left_comm P.nL, mul_div_mul_left _ _ ha, mul_div_assoc]

/-- `B` is of degree 2 in its own ray and −1 in the invariant: scaling its ray by `a` and the other ray by `f`
multiplies it by `a/f` -/
theorem B_homog {a f : ℝ} (ha : a ≠ 0) (hf : f ≠ 0) (X D : ℝ) :
    a * a * X / (a * f * D) * f = a * (X / D) := by
  field_simp

theorem scaled_B (P : Pre ℝ) {a f : ℝ} (k : ℕ) (ha : a ≠ 0) (hf : f ≠ 0) :
    (scaled P a f).B k * f = a * P.B k := by
  rw [B_eq, B_eq, scaled_i, ← B_homog ha hf]; simp only [scaled, nth_map_mul]
  ring

theorem scaled_Bp (P : Pre ℝ) {a f : ℝ} (k : ℕ) (ha : a ≠ 0) (hf : f ≠ 0) :
    (scaled P a f).Bp k * a = f * P.Bp k := by
  rw [Bp_eq, Bp_eq, scaled_ip, ← B_homog hf ha]; simp only [scaled, nth_map_mul]
  ring

/-- **aperture_field_scaling**: the third-order terms of the model have the classical aperture
and field dependence: spherical ∝ a³, coma ∝ a²f, astigmatism and Petzval ∝ a f², distortion ∝ f³
(`a`: scale of the marginal ray, `f`: scale of the chief ray, hence `H ∝ a f`); the colour terms
are first order: axial ∝ a, lateral ∝ f. -/
theorem aperture_field_scaling (P : Pre ℝ) (a f : ℝ) (k : ℕ) (ha : a ≠ 0) (hf : f ≠ 0)
    (hH : P.inv ≠ 0) (hnL : P.nL ≠ 0) (huL : P.uL ≠ 0) (hn' : nth P.n k ≠ 0) :
    (scaled P a f).tscTerm k = a ^ 3 * P.tscTerm k ∧
    (scaled P a f).ccTerm k = a ^ 2 * f * P.ccTerm k ∧
    (scaled P a f).tacTerm k = a * f ^ 2 * P.tacTerm k ∧
    (scaled P a f).tpcTerm k = a * f ^ 2 * P.tpcTerm k ∧
    (scaled P a f).dcTerm k = f ^ 3 * P.dcTerm k ∧
    (scaled P a f).tachcTerm_spec k = a * P.tachcTerm_spec k ∧
    (scaled P a f).tchcTerm_spec k = f * P.tchcTerm_spec k := by
  have hB := scaled_B P k ha hf
  have hBp := scaled_Bp P k ha hf
  have hc : ∀ x, a * x / (P.nL * (a * P.uL)) = x / (P.nL * P.uL) := fun x => by
    rw [mul_left_comm P.nL, mul_div_mul_left _ _ ha]
  simp only [tscTerm_eq, ccTerm_eq, tacTerm_eq, tpcTerm_eq, dcTerm_eq, tachcTerm_spec_eq, tchcTerm_spec_eq,
    scaled_hp P f ha, scaled_i, scaled_ip, scaled_uL, show (scaled P a f).nL = P.nL from rfl,
    show (scaled P a f).dnFac k = P.dnFac k from rfl]
  generalize (scaled P a f).B k = B' at hB ⊢
  generalize (scaled P a f).Bp k = Bp' at hBp ⊢
  simp only [scaled, nth_map_mul]
  refine ⟨?_, ?_, ?_, ?_, ?_, ?_, ?_⟩
  · linear_combination (a * a * (P.i k * P.i k) * P.hp) * hB
  · linear_combination (a * f * P.i k * P.ip k * P.hp) * hB
  · linear_combination (f * f * (P.ip k * P.ip k) * P.hp) * hB
  · ring
  · linear_combination (f * f * P.i k * P.ip k * P.hp) * hBp
  · rw [← hc (-nth P.ya k * P.i k)]; ring
  · rw [← hc (-nth P.ya k * P.ip k)]; ring

example : ∃ (P : Pre ℝ) (a f : ℝ), a ≠ 0 ∧ f ≠ 0 ∧ P.inv ≠ 0 ∧ P.nL ≠ 0 ∧ P.uL ≠ 0 ∧ nth P.n 1 ≠ 0 :=
  ⟨exPre, 2, 3,
    two_ne_zero, three_ne_zero, one_ne_zero, (two_ne_zero : (2:ℝ) ≠ 0), (by norm_num : (-1/2 : ℝ) ≠ 0),
    (two_ne_zero : (2:ℝ) ≠ 0)⟩

/-! ### sign conventions behind a mirror -/

/-- **refracting_surface_behind_mirror**: a refracting surface `k` in the space behind an odd number
of mirrors.  `Q` carries the signed indices (`n, n', n'_last` and the dispersions reversed), `P` is
what the tree stores (unsigned); rays, curvatures and the Lagrange invariant are the same.  The
spherical, coma, astigmatism, Petzval and both colour terms of the tree *are* the classical ones —
the two sign reversals (in `B` and in `h'`) cancel — but the distortion term is not: the tree's
`½Δ(ū²)` enters with the wrong orientation, and the two agree exactly when `h'·Δ(ū²) = 0`. -/
theorem refracting_surface_behind_mirror (P Q : Pre ℝ) (k : ℕ)
    (hC : Q.C = P.C) (hya : Q.ya = P.ya) (hua : Q.ua = P.ua) (hyb : Q.yb = P.yb) (hub : Q.ub = P.ub)
    (hI : Q.inv = P.inv) (h0 : nth Q.n (k - 1) = -nth P.n (k - 1)) (h1 : nth Q.n k = -nth P.n k)
    (hL : Q.nL = -P.nL) (d0 : nth Q.dn (k - 1) = -nth P.dn (k - 1)) (d1 : nth Q.dn k = -nth P.dn k)
    (hH : P.inv ≠ 0) (hn' : nth P.n k ≠ 0) :
    Q.tscTerm k = P.tscTerm k ∧ Q.ccTerm k = P.ccTerm k ∧ Q.tacTerm k = P.tacTerm k ∧
    Q.tpcTerm k = P.tpcTerm k ∧
    Q.tachcTerm_spec k = P.tachcTerm_spec k ∧ Q.tchcTerm_spec k = P.tchcTerm_spec k ∧
    Q.dcTerm k = P.dcTerm k - P.hp * (nth P.ub k * nth P.ub k - nth P.ub (k - 1) * nth P.ub (k - 1)) ∧
    (Q.dcTerm k = P.dcTerm k ↔
      P.hp * (nth P.ub k * nth P.ub k - nth P.ub (k - 1) * nth P.ub (k - 1)) = 0) := by
  have hu : Q.uL = P.uL := by unfold Pre.uL; rw [hua]
  have ei : Q.i k = P.i k := by rw [i_eq, i_eq, hC, hya, hua]
  have eip : Q.ip k = P.ip k := by rw [ip_eq, ip_eq, hC, hyb, hub]
  have eB : Q.B k = -P.B k := by rw [B_eq, B_eq, ei, hI, h0, h1, hya, hua]; ring
  have eBp : Q.Bp k = -P.Bp k := by rw [Bp_eq, Bp_eq, eip, hI, h0, h1, hyb, hub]; ring
  have ehp : Q.hp = -P.hp := by rw [hp_eq, hp_eq, hI, hL, hu]; ring
  have ed : Q.dnFac k = -P.dnFac k := by rw [dnFac_eq, dnFac_eq, h0, h1, d0, d1]; ring
  simp only [tscTerm_eq, ccTerm_eq, tacTerm_eq, tpcTerm_eq, dcTerm_eq, tachcTerm_spec_eq, tchcTerm_spec_eq,
    eB, eBp, ei, eip, ehp, ed, hu, hL, hI, h0, h1, hC, hya, hub]
  refine ⟨by ring, by ring, by ring, by ring, by ring, by ring, by ring, ?_⟩
  constructor <;> intro h <;> linear_combination -h

/-- non-vacuity of `refracting_surface_behind_mirror` -/
example : ∃ (P Q : Pre ℝ) (k : ℕ), Q.C = P.C ∧ Q.ya = P.ya ∧ Q.ua = P.ua ∧ Q.yb = P.yb ∧ Q.ub = P.ub ∧
    Q.inv = P.inv ∧ nth Q.n (k - 1) = -nth P.n (k - 1) ∧ nth Q.n k = -nth P.n k ∧ Q.nL = -P.nL ∧
    nth Q.dn (k - 1) = -nth P.dn (k - 1) ∧ nth Q.dn k = -nth P.dn k ∧ P.inv ≠ 0 ∧ nth P.n k ≠ 0 :=
  ⟨{ exPre with ub := [1/10, 1/20, 1/20], dn := [0, 1/100, 1/100] },
   { exPre with n := [-1, -2, -2], ub := [1/10, 1/20, 1/20], dn := [0, -(1/100), -(1/100)] },
   1, rfl, rfl, rfl, rfl, rfl, rfl, rfl, rfl, rfl, neg_zero.symm, rfl, one_ne_zero,
   (two_ne_zero : (2:ℝ) ≠ 0)⟩

/-! ### edit, then re-evaluate: the aberrations are a function of the current prescription -/

/-- `optic.aberrations.third_order()` on the current prescription (`nF`, `nC`: `optic.n(0.4861)`,
`optic.n(0.6563)` of the current lens) -/
noncomputable def aberrOf (R : Presc ℝ) (nF nC : List ℝ) (spec : Bool) : ThirdOrder ℝ :=
  (precalcCode (toPSys R) nF nC).thirdOrder spec

/-- **result_independent_of_history**: two lenses reached by any two edit histories (from any two
starting prescriptions) that present the same surfaces, aperture and field to the paraxial tracer
return the same 13-tuple and the same Seidel sums: the model of `Aberrations` keeps no state
between calls (`_precalculations` is re-run by every accessor). -/
theorem result_independent_of_history (R₁ R₂ : Presc ℝ) (ops₁ ops₂ : List (Op ℝ)) (nF nC : List ℝ) (spec : Bool)
    (h : toPSys (runOps R₁ ops₁) = toPSys (runOps R₂ ops₂)) :
    aberrOf (runOps R₁ ops₁) nF nC spec = aberrOf (runOps R₂ ops₂) nF nC spec ∧
    (precalcCode (toPSys (runOps R₁ ops₁)) nF nC).seidels = (precalcCode (toPSys (runOps R₂ ops₂)) nF nC).seidels := by
  unfold aberrOf; rw [h]; exact ⟨rfl, rfl⟩

/-- **aberrations_ignore_unread_edits**: `set_conic`, the tilt/x-decentre setters, `set_asphere_coeff` and
`add_wavelength` change nothing the third-order code reads (it sees radii, vertex positions, y-decentres, indices,
mirror and stop flags only): the result after such an edit is the result before it.  In particular the
model — like the tree — returns the *spherical-surface* Seidel terms for a conic surface: the conic
contribution to `S_I` is not part of `Aberrations` (the harness restricts the classical comparison
to conic-free lenses for this reason). -/
theorem aberrations_ignore_unread_edits (R : Presc ℝ) (v : ℝ) (k i : ℕ) (p : Bool) (nF nC : List ℝ) (spec : Bool) :
    aberrOf (setConic R v k) nF nC spec = aberrOf R nF nC spec ∧
    aberrOf (setCoeff R v k i) nF nC spec = aberrOf R nF nC spec ∧
    aberrOf { R with surfs := modifyAt R.surfs k fun s => { s with rx := v } } nF nC spec = aberrOf R nF nC spec ∧
    aberrOf { R with surfs := modifyAt R.surfs k fun s => { s with ry := v } } nF nC spec = aberrOf R nF nC spec ∧
    aberrOf { R with surfs := modifyAt R.surfs k fun s => { s with dx := v } } nF nC spec = aberrOf R nF nC spec ∧
    aberrOf (addWave R v p) nF nC spec = aberrOf R nF nC spec := by
  have key : ∀ f : SRec ℝ → SRec ℝ,
      (∀ s, (⟨(f s).kind, (f s).dy, (f s).z, (f s).radius, matN R (f s).mPre, matN R (f s).mPost,
          (f s).refl, (f s).stop⟩ : PSurf ℝ)
        = ⟨s.kind, s.dy, s.z, s.radius, matN R s.mPre, matN R s.mPost, s.refl, s.stop⟩) →
      aberrOf { R with surfs := modifyAt R.surfs k f } nF nC spec = aberrOf R nF nC spec := fun f hf => by
    unfold aberrOf toPSys
    rw [map_modifyAt _ f R.surfs k hf]
    rfl
  exact ⟨key _ fun _ => rfl, key _ fun _ => rfl, key _ fun _ => rfl, key _ fun _ => rfl, key _ fun _ => rfl, rfl⟩

/-- **last_radius_edit_wins**: setting a radius twice is setting it once to the last value (also
when the surface was a plane, which the first call turns into a standard surface): no trace of the
intermediate value is left in what `Aberrations` reads, nor anywhere else in the prescription. -/
theorem last_radius_edit_wins (R : Presc ℝ) (v w : ℝ) (k : ℕ) (nF nC : List ℝ) (spec : Bool) :
    setRadius (setRadius R v k) w k = setRadius R w k ∧
    aberrOf (setRadius (setRadius R v k) w k) nF nC spec = aberrOf (setRadius R w k) nF nC spec := by
  have h : setRadius (setRadius R v k) w k = setRadius R w k := by
    unfold setRadius
    rw [OptimProofs.modifyAt_twice _ _ _ _ _ fun _ => rfl]
    congr 1
    congr 1
    funext s
    cases s.gk <;> simp
  exact ⟨h, by rw [h]⟩

/-- editing a radius and restoring it gives back the original prescription (non-plane surface, or
any index outside the list), hence the original aberrations; a plane is excluded because `set_radius`
turns it into a standard surface (the aberrations are still restored when the plane's stored radius,
`inf`, is written back: see `last_radius_edit_wins`) -/
theorem radius_edit_roundtrip (R : Presc ℝ) (v : ℝ) (k : ℕ) (nF nC : List ℝ) (spec : Bool)
    (hk : ∀ s, R.surfs[k]? = some s → s.gk ≠ .plane) :
    aberrOf (setRadius (setRadius R v k) ((R.surfs.map (·.radius)).getD k 0) k) nF nC spec = aberrOf R nF nC spec := by
  rw [(last_radius_edit_wins R v _ k nF nC spec).1]
  have : setRadius R ((R.surfs.map (·.radius)).getD k 0) k = R := by
    unfold setRadius
    generalize hr : (R.surfs.map (·.radius)).getD k 0 = r
    rw [modifyAt_fix]
    intro s hs
    have hne := hk s hs
    have : r = s.radius := by
      rw [← hr]; simp [List.getD_eq_getElem?_getD, hs]
    subst this
    clear hr hs
    rcases s with ⟨kind, gk, z, dx, dy, rx, ry, radius, conic, coeffs, mPre, mPost, stop, refl⟩
    cases gk <;> simp_all
  rw [this]

example : ∃ (R : Presc ℝ) (k : ℕ), (∀ s, R.surfs[k]? = some s → s.gk ≠ .plane) ∧ k < R.surfs.length :=
  ⟨{ surfs := [⟨.object, .plane, 0, 0, 0, 0, 0, 0, 0, [], 0, 0, false, false⟩,
               ⟨.standard, .standard, 0, 0, 0, 0, 0, 50, 0, [], 0, 1, true, false⟩],
     lastThickness := 0, apValue := 10, maxYField := 1 }, 1,
   by intro s hs; simp at hs; subst hs; simp, by simp⟩

end C08
