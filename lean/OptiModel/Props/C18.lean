import OptiModel.Model.Material
import OptiModel.Proofs.NumReal
import OptiModel.Proofs.MaterialStr
import OptiModel.Proofs.MaterialReal
import OptiModel.Gen.Catalog
import OptiModel.Gen.CatalogCert
import Mathlib.Tactic.Ring
import Mathlib.Tactic.FieldSimp
import Mathlib.Tactic.NormNum
/-!
# C18  Catalogue materials return the index their data file defines

Theorems about `Model/Material.lean`.

* `formulaK_code_eq_spec` (`formula1_code_eq_spec` … `formula9_code_eq_spec`): for every coefficient list of
  a length the published formula provides for, the fold `MaterialFile._formula_K` performs equals the
  formula of the refractiveindex.info document evaluated on the zero-padded coefficients;
  `formulaK_raises` characterises the lengths for which the code raises `ValueError`;
  `formulaK_published` (K = 1, 2, 3, 4, 7, 8, 9) shows that the specification function solves the published
  (implicit) equation.  `formula_code_eq_spec`, `formula_code_unknown`: the same through the dispatcher
  `formula_code k` that the driver runs.
* `np.interp` on strictly increasing knots: `interp_raises`, `interp_clamps_left`, `interp_clamps_right`,
  `interp_linear_between`, `interp_knots`, `interp_in_hull`, and `interp_piecewise_linear` (every `x` inside
  the table's range; `exists_bracket` finds the two knots).
* `abbe_def`, `polyval_horner`; `levenshtein_dp_eq_spec`, `levenshtein_zero_iff_eq`.
* the catalogue table `Gen.Catalog.rows` (regenerated from `catalog_nk.csv`): `catalog_unambiguous` rests
  on a certificate, not on evaluating the lookup: `Gen/CatalogCert.lean` checks `rowCheck` on every row
  against a search tree (`KTree`) over case-insensitive keys by kernel evaluation (`rows_pass`), and
  `unambiguous_of_rowCheck` (Proofs/MaterialStr.lean) proves the check sound without trusting the tree's
  shape.  From it `lookup_exact_name_passes` and its instances `lookup_exact_name`, `lookup_exact_name_ref`,
  `lookup_exact_name_own_ref`.  The exception list `Gen.Catalog.ambiguous` has 10 names;
  `ambiguous_genuine` shows each of them really ties with a row of another name.
* `lookup_code_eq_spec`, `lookup_exact_name_code`: the tree's regular-expression lookup agrees with the
  literal one on metacharacter-free names (`regexSimple_noMeta`, `matchPrefix_lit`, `searchRe_lit`), so
  `lookup_exact_name` holds for the code there.
* non-vacuity: `rows_length`, `lookup_exact_name_code_nonvacuous`, `lookup_exact_name_nonvacuous`, and the
  `example`s (`incr_three_knots` is their table).

Not covered by theorems (see the harness): IEEE rounding; the regular-expression semantics of the tree
(`lookup_code`, finding F10) on names *with* metacharacters is only run, not reasoned about; scalar
versus array arguments and the per-row data files (coefficients, ranges) are compared by the harness
only; the accuracy of the model-glass fit.
-/
namespace C18
open Model.Mat

/-- destructure a list into its first 18 elements -/
macro "split_list " c:ident : tactic => `(tactic|
  rcases $c:ident with _ | ⟨a1, _ | ⟨a2, _ | ⟨a3, _ | ⟨a4, _ | ⟨a5, _ | ⟨a6, _ | ⟨a7, _ | ⟨a8, _ | ⟨a9,
    _ | ⟨a10, _ | ⟨a11, _ | ⟨a12, _ | ⟨a13, _ | ⟨a14, _ | ⟨a15, _ | ⟨a16, _ | ⟨a17, _ | ⟨a18, rest⟩⟩⟩⟩⟩⟩⟩⟩⟩⟩⟩⟩⟩⟩⟩⟩⟩⟩)

/-! ## dispersion formulas

Formulas 1–6 loop over the coefficients in pairs; the loop is `pairSum` on the zero-padded
coefficients (`foldPairs_eq_pairSum`), and the published right-hand sides are `pairSum` by unfolding. -/

/-- formula 1 (Sellmeier): code = published formula for 1, 3, …, 17 coefficients -/
theorem formula1_code_eq_spec (c : List ℝ) (w : ℝ) (hodd : c.length % 2 = 1) (hlen : c.length ≤ 17) :
    formula1_code c w = some (formula1_spec (coef c) w) := by
  cases c with
  | nil => exact absurd hodd Nat.zero_ne_one
  | cons c0 rest =>
    exact congrArg (Option.map Num.sqrt) ((foldPairs_eq_pairSum (fun a b => a * (w * w) / (w * w - b * b))
      (by rw [zero_mul, zero_div]) 8 rest (1 + c0) hodd hlen).trans (congrArg some (pairSum_add _ 8 _ 1 c0)))

/-- the code raises exactly for an even number of coefficients (including none) -/
theorem formula1_raises {α : Type} [Num α] [NumPow α] (c : List α) (w : α) :
    formula1_code c w = none ↔ c.length % 2 = 0 := by
  cases c with
  | nil => exact iff_of_true rfl rfl
  | cons c0 rest => exact Option.map_eq_none_iff.trans (foldPairs_eq_none_iff _ rest _)

/-- the specification solves the published equation `n² − 1 = C1 + Σ …` with `n ≥ 0` -/
theorem formula1_published (C : ℕ → ℝ) (l : ℝ) (h : 0 ≤ 1 + formula1_rhs C l) :
    (formula1_spec C l) ^ 2 - 1 = formula1_rhs C l ∧ 0 ≤ formula1_spec C l :=
  ⟨(congrArg (· - 1) (Real.sq_sqrt h)).trans (add_sub_cancel_left _ _), Real.sqrt_nonneg _⟩

/-- formula 2 (Sellmeier-2) -/
theorem formula2_code_eq_spec (c : List ℝ) (w : ℝ) (hodd : c.length % 2 = 1) (hlen : c.length ≤ 17) :
    formula2_code c w = some (formula2_spec (coef c) w) := by
  cases c with
  | nil => exact absurd hodd Nat.zero_ne_one
  | cons c0 rest =>
    exact congrArg (Option.map Num.sqrt) ((foldPairs_eq_pairSum (fun a b => a * (w * w) / (w * w - b))
      (by rw [zero_mul, zero_div]) 8 rest (1 + c0) hodd hlen).trans (congrArg some (pairSum_add _ 8 _ 1 c0)))

theorem formula2_raises {α : Type} [Num α] [NumPow α] (c : List α) (w : α) :
    formula2_code c w = none ↔ c.length % 2 = 0 := by
  cases c with
  | nil => exact iff_of_true rfl rfl
  | cons c0 rest => exact Option.map_eq_none_iff.trans (foldPairs_eq_none_iff _ rest _)

theorem formula2_published (C : ℕ → ℝ) (l : ℝ) (h : 0 ≤ 1 + formula2_rhs C l) :
    (formula2_spec C l) ^ 2 - 1 = formula2_rhs C l ∧ 0 ≤ formula2_spec C l :=
  ⟨(congrArg (· - 1) (Real.sq_sqrt h)).trans (add_sub_cancel_left _ _), Real.sqrt_nonneg _⟩

/-- formula 3 (Polynomial); `λ^C` is `Real.rpow` -/
theorem formula3_code_eq_spec (c : List ℝ) (w : ℝ) (hodd : c.length % 2 = 1) (hlen : c.length ≤ 17) :
    formula3_code c w = some (formula3_spec (coef c) w) := by
  cases c with
  | nil => exact absurd hodd Nat.zero_ne_one
  | cons c0 rest =>
    exact congrArg (Option.map Num.sqrt)
      (foldPairs_eq_pairSum (fun a b => a * rpow w b) (zero_mul _) 8 rest c0 hodd hlen)

theorem formula3_raises {α : Type} [Num α] [NumPow α] (c : List α) (w : α) :
    formula3_code c w = none ↔ c.length % 2 = 0 := by
  cases c with
  | nil => exact iff_of_true rfl rfl
  | cons c0 rest => exact Option.map_eq_none_iff.trans (foldPairs_eq_none_iff _ rest _)

theorem formula3_published (C : ℕ → ℝ) (l : ℝ) (h : 0 ≤ formula3_rhs C l) :
    (formula3_spec C l) ^ 2 = formula3_rhs C l ∧ 0 ≤ formula3_spec C l :=
  ⟨Real.sq_sqrt h, Real.sqrt_nonneg _⟩

/-- formula 4 (RefractiveIndex.INFO): 9, 11, …, 17 coefficients -/
theorem formula4_code_eq_spec (c : List ℝ) (w : ℝ) (hodd : c.length % 2 = 1) (h9 : 9 ≤ c.length)
    (hlen : c.length ≤ 17) : formula4_code c w = some (formula4_spec (coef c) w) := by
  rcases c with _ | ⟨c0, _ | ⟨c1, _ | ⟨c2, _ | ⟨c3, _ | ⟨c4, _ | ⟨c5, _ | ⟨c6, _ | ⟨c7, _ | ⟨c8, rest⟩⟩⟩⟩⟩⟩⟩⟩⟩
  iterate 9 exact absurd h9 (by simp only [List.length_cons, List.length_nil]; decide)
  exact congrArg (Option.map Num.sqrt) (foldPairs_eq_pairSum (fun a b => a * rpow w b) (zero_mul _) 4 rest _
    ((Nat.add_mul_mod_self_left (rest.length + 1) 2 4).symm.trans hodd)
    (Nat.le_of_add_le_add_right (show rest.length + 1 + 8 ≤ 2 * 4 + 1 + 8 from hlen)))

/-- the code raises for fewer than 9 coefficients and for an even number -/
theorem formula4_raises {α : Type} [Num α] [NumPow α] (c : List α) (w : α) :
    formula4_code c w = none ↔ c.length < 9 ∨ c.length % 2 = 0 := by
  rcases c with _ | ⟨a1, _ | ⟨a2, _ | ⟨a3, _ | ⟨a4, _ | ⟨a5, _ | ⟨a6, _ | ⟨a7, _ | ⟨a8, _ | ⟨a9, rest⟩⟩⟩⟩⟩⟩⟩⟩⟩
  iterate 9 exact iff_of_true rfl (Or.inl (by simp only [List.length_cons, List.length_nil]; decide))
  exact Option.map_eq_none_iff.trans ((foldPairs_eq_none_iff _ rest _).trans
    ((Eq.congr_left (Nat.add_mul_mod_self_left (rest.length + 1) 2 4).symm).trans
      (or_iff_right (Nat.not_lt.mpr (Nat.le_add_left 9 rest.length))).symm))

theorem formula4_published (C : ℕ → ℝ) (l : ℝ) (h : 0 ≤ formula4_rhs C l) :
    (formula4_spec C l) ^ 2 = formula4_rhs C l ∧ 0 ≤ formula4_spec C l :=
  ⟨Real.sq_sqrt h, Real.sqrt_nonneg _⟩

/-- formula 5 (Cauchy): 1, 3, …, 11 coefficients -/
theorem formula5_code_eq_spec (c : List ℝ) (w : ℝ) (hodd : c.length % 2 = 1) (hlen : c.length ≤ 11) :
    formula5_code c w = some (formula5_spec (coef c) w) := by
  cases c with
  | nil => exact absurd hodd Nat.zero_ne_one
  | cons c0 rest => exact foldPairs_eq_pairSum (fun a b => a * rpow w b) (zero_mul _) 5 rest c0 hodd hlen

theorem formula5_raises {α : Type} [Num α] [NumPow α] (c : List α) (w : α) :
    formula5_code c w = none ↔ c.length % 2 = 0 := by
  cases c with
  | nil => exact iff_of_true rfl rfl
  | cons c0 rest => exact foldPairs_eq_none_iff _ rest _

/-- formula 6 (Gases) for a positive wavelength (`w ** -2 = 1/w²`): 1, 3, …, 11 coefficients -/
theorem formula6_code_eq_spec (c : List ℝ) (w : ℝ) (hw : 0 < w) (hodd : c.length % 2 = 1)
    (hlen : c.length ≤ 11) : formula6_code c w = some (formula6_spec (coef c) w) := by
  cases c with
  | nil => exact absurd hodd Nat.zero_ne_one
  | cons c0 rest =>
    show foldPairs (fun a b => a / (b - rpow w (Num.neg Num.two))) (1 + c0) rest = _
    rw [rpow_neg_two w hw]
    exact (foldPairs_eq_pairSum (fun a b => a / (b - 1 / (w * w))) (zero_div _) 5 rest (1 + c0) hodd
      hlen).trans (congrArg some (pairSum_add _ 5 _ 1 c0))

theorem formula6_raises {α : Type} [Num α] [NumPow α] (c : List α) (w : α) :
    formula6_code c w = none ↔ c.length % 2 = 0 := by
  cases c with
  | nil => exact iff_of_true rfl rfl
  | cons c0 rest => exact foldPairs_eq_none_iff _ rest _

/-- formula 7 (Herzberger): 3 … 6 coefficients; the constant is 0.028 -/
theorem formula7_code_eq_spec (c : List ℝ) (w : ℝ) (h3 : 3 ≤ c.length) (hlen : c.length ≤ 6) :
    formula7_code c w = some (formula7_spec (coef c) w) := by
  rcases c with _ | ⟨c0, _ | ⟨c1, _ | ⟨c2, rest⟩⟩⟩
  iterate 3 exact absurd h3 (by simp only [List.length_cons, List.length_nil]; decide)
  exact congrArg some (herzTail_three w _ rest (Nat.le_of_add_le_add_right (show rest.length + 3 ≤ 3 + 3 from hlen)))

theorem formula7_raises {α : Type} [Num α] [NumPow α] (c : List α) (w : α) :
    formula7_code c w = none ↔ c.length < 3 := by
  rcases c with _ | ⟨a1, _ | ⟨a2, _ | ⟨a3, rest⟩⟩⟩
  iterate 3 exact iff_of_true rfl (by simp only [List.length_cons, List.length_nil]; decide)
  exact iff_of_false nofun (Nat.not_lt.mpr (Nat.le_add_left 3 rest.length))

/-- the specification written with the decimal constant of the document -/
theorem formula7_published (C : ℕ → ℝ) (l : ℝ) :
    formula7_spec C l = C 1 + C 2 / (l ^ 2 - 0.028) + C 3 * (1 / (l ^ 2 - 0.028)) ^ 2
      + C 4 * l ^ 2 + C 5 * l ^ 4 + C 6 * l ^ 6 := by
  simp only [formula7_spec, Model.Mat.sq, npow_four, npow_six]
  num_real
  have e : ((28 : ℕ) : ℝ) / ((1000 : ℕ) : ℝ) = 0.028 := by norm_num
  rw [e]
  ring

/-- formula 8 (Retro): exactly 4 coefficients -/
theorem formula8_code_eq_spec (c : List ℝ) (w : ℝ) (hlen : c.length = 4) :
    formula8_code c w = some (formula8_spec (coef c) w) := by
  rcases c with _ | ⟨c0, _ | ⟨c1, _ | ⟨c2, _ | ⟨c3, _ | ⟨c4, rest⟩⟩⟩⟩⟩
  all_goals cases hlen
  rfl

theorem formula8_raises {α : Type} [Num α] [NumPow α] (c : List α) (w : α) :
    formula8_code c w = none ↔ c.length ≠ 4 := by
  rcases c with _ | ⟨a1, _ | ⟨a2, _ | ⟨a3, _ | ⟨a4, _ | ⟨a5, rest⟩⟩⟩⟩⟩
  iterate 4 exact iff_of_true rfl nofun
  · exact iff_of_false nofun (fun h => h rfl)
  · exact iff_of_true rfl nofun

/-- the specification solves `(n² − 1)/(n² + 2) = C1 + C2 λ²/(λ² − C3) + C4 λ²` -/
theorem formula8_published (C : ℕ → ℝ) (l : ℝ) (hb : formula8_rhs C l ≠ 1)
    (h : 0 ≤ (1 + 2 * formula8_rhs C l) / (1 - formula8_rhs C l)) :
    ((formula8_spec C l) ^ 2 - 1) / ((formula8_spec C l) ^ 2 + 2) = formula8_rhs C l
      ∧ 0 ≤ formula8_spec C l := by
  refine ⟨?_, Real.sqrt_nonneg _⟩
  unfold formula8_spec
  generalize formula8_rhs C l = b at hb h ⊢
  have h1 : 1 - b ≠ 0 := sub_ne_zero.mpr hb.symm
  num_real
  rw [Real.sq_sqrt h]
  field_simp
  ring

/-- formula 9 (Exotic): exactly 6 coefficients -/
theorem formula9_code_eq_spec (c : List ℝ) (w : ℝ) (hlen : c.length = 6) :
    formula9_code c w = some (formula9_spec (coef c) w) := by
  rcases c with _ | ⟨c0, _ | ⟨c1, _ | ⟨c2, _ | ⟨c3, _ | ⟨c4, _ | ⟨c5, _ | ⟨c6, rest⟩⟩⟩⟩⟩⟩⟩
  all_goals cases hlen
  rfl

theorem formula9_raises {α : Type} [Num α] [NumPow α] (c : List α) (w : α) :
    formula9_code c w = none ↔ c.length ≠ 6 := by
  rcases c with _ | ⟨a1, _ | ⟨a2, _ | ⟨a3, _ | ⟨a4, _ | ⟨a5, _ | ⟨a6, _ | ⟨a7, rest⟩⟩⟩⟩⟩⟩⟩
  iterate 6 exact iff_of_true rfl nofun
  · exact iff_of_false nofun (fun h => h rfl)
  · exact iff_of_true rfl nofun

theorem formula9_published (C : ℕ → ℝ) (l : ℝ) (h : 0 ≤ formula9_rhs C l) :
    (formula9_spec C l) ^ 2 = formula9_rhs C l ∧ 0 ≤ formula9_spec C l :=
  ⟨Real.sq_sqrt h, Real.sqrt_nonneg _⟩

/-- the hypotheses are satisfiable: N-BK7-like Sellmeier-2 coefficients at 0.55 µm -/
example : ([0, 1.03961212, 0.00600069867, 0.231792344, 0.0200179144, 1.01046945, 103.560653] :
    List ℝ).length % 2 = 1 ∧ (7 : ℕ) ≤ 17 := ⟨rfl, by decide⟩

/-- the coefficient counts for which formula `k` of the document is defined (and the code does not raise) -/
def ValidLen (k n : Nat) : Prop :=
  match k with
  | 1 | 2 | 3 => n % 2 = 1 ∧ n ≤ 17
  | 4 => n % 2 = 1 ∧ 9 ≤ n ∧ n ≤ 17
  | 5 | 6 => n % 2 = 1 ∧ n ≤ 11
  | 7 => 3 ≤ n ∧ n ≤ 6
  | 8 => n = 4
  | 9 => n = 6
  | _ => False

/-- the dispatcher the driver runs (`MaterialFile.n`: `formula_map[type]`): for each of the nine type
strings and every coefficient list of a length the document provides for, `formula_code k` returns the
value of `formula_spec k` (positive wavelength needed for formula 6 only) -/
theorem formula_code_eq_spec (k : Nat) (c : List ℝ) (w : ℝ) (hw : k = 6 → 0 < w)
    (h : ValidLen k c.length) : formula_code k c w = some (formula_spec k c w) := by
  rcases k with _ | _ | _ | _ | _ | _ | _ | _ | _ | _ | k
  · exact h.elim
  · exact formula1_code_eq_spec c w h.1 h.2
  · exact formula2_code_eq_spec c w h.1 h.2
  · exact formula3_code_eq_spec c w h.1 h.2
  · exact formula4_code_eq_spec c w h.1 h.2.1 h.2.2
  · exact formula5_code_eq_spec c w h.1 h.2
  · exact formula6_code_eq_spec c w (hw rfl) h.1 h.2
  · exact formula7_code_eq_spec c w h.1 h.2
  · exact formula8_code_eq_spec c w h
  · exact formula9_code_eq_spec c w h
  · exact h.elim

/-- a type string `formula k` with `k` outside 1…9 has no entry in `formula_map` -/
theorem formula_code_unknown (k : Nat) (c : List ℝ) (w : ℝ) (h : k = 0 ∨ 10 ≤ k) :
    formula_code k c w = none := by
  obtain rfl | h := h
  · rfl
  · obtain ⟨k, rfl⟩ := Nat.exists_eq_add_of_le' h
    rfl

/-- non-vacuity: Sellmeier-2 with seven coefficients (N-BK7-like) is a valid instance of the dispatcher theorem -/
example (w : ℝ) : formula_code 2 [0, 1.03961212, 0.00600069867, 0.231792344, 0.0200179144, 1.01046945,
    103.560653] w = some (formula_spec 2 [0, 1.03961212, 0.00600069867, 0.231792344, 0.0200179144,
    1.01046945, 103.560653] w) :=
  formula_code_eq_spec 2 _ w (fun h => absurd h (by decide)) ⟨rfl, by decide⟩

/-! ## tabulated data: `np.interp` -/

/-- `np.interp` raises only for an empty table -/
theorem interp_raises (x : ℝ) (l : List (ℝ × ℝ)) : interp x l = none ↔ l = [] := by
  cases l <;> simp [interp]

/-- left of (or at) the first knot: the first table value -/
theorem interp_clamps_left (x : ℝ) (p : ℝ × ℝ) (rest : List (ℝ × ℝ)) (hinc : Incr (p :: rest))
    (hx : x ≤ p.1) : interp x (p :: rest) = some p.2 := by
  rw [interp_unfold]
  split_ifs with h
  · rfl
  · rw [le_antisymm hx (not_lt.mp h), interpFrom_at_knot p rest hinc]

/-- right of (or at) the last knot: the last table value -/
theorem interp_clamps_right (x : ℝ) (pre : List (ℝ × ℝ)) (last : ℝ × ℝ) (hinc : Incr (pre ++ [last]))
    (hx : last.1 ≤ x) : interp x (pre ++ [last]) = some last.2 :=
  interp_append x pre last [] hinc hx

/-- between two consecutive knots the result is the straight line through them -/
theorem interp_linear_between (x : ℝ) (pre post : List (ℝ × ℝ)) (p q : ℝ × ℝ)
    (hinc : Incr (pre ++ p :: q :: post)) (hpx : p.1 ≤ x) (hxq : x ≤ q.1) :
    interp x (pre ++ p :: q :: post) = some (p.2 + (x - p.1) * (q.2 - p.2) / (q.1 - p.1)) :=
  (interp_append x pre p _ hinc hpx).trans
    (congrArg some (interpFrom_bracket x p q post (List.pairwise_append.mp hinc).2.1 hxq))

/-- at a knot the tabulated value is returned -/
theorem interp_knots (l : List (ℝ × ℝ)) (p : ℝ × ℝ) (hinc : Incr l) (hp : p ∈ l) :
    interp p.1 l = some p.2 := by
  obtain ⟨pre, post, rfl⟩ := List.append_of_mem hp
  rw [interp_append p.1 pre p post hinc le_rfl,
    interpFrom_at_knot p post (List.pairwise_append.mp hinc).2.1]

/-- the interpolated value never leaves the hull of the table values -/
theorem interp_in_hull (x lo hi v : ℝ) (l : List (ℝ × ℝ)) (hinc : Incr l) (hw : Within lo hi l)
    (hv : interp x l = some v) : lo ≤ v ∧ v ≤ hi := by
  cases l with
  | nil => exact nomatch hv
  | cons p rest =>
    rw [interp_unfold, Option.some.injEq] at hv
    subst hv
    split_ifs with h
    · exact hw p List.mem_cons_self
    · exact interpFrom_in_hull x lo hi rest p hinc hw (not_lt.mp h)

theorem incr_three_knots : Incr [((1 : ℝ), (2 : ℝ)), (2, 5), (4, 3)] := by
  simp only [Incr, List.pairwise_cons, List.mem_cons, List.not_mem_nil, or_false, forall_eq_or_imp,
    forall_eq, List.Pairwise.nil, and_true, IsEmpty.forall_iff, implies_true]
  norm_num

/-- non-vacuity: a three-knot table -/
example : Incr [((1 : ℝ), (2 : ℝ)), (2, 5), (4, 3)] := incr_three_knots

/-- a point between the first knot and some later knot lies between two consecutive knots -/
theorem exists_bracket (x : ℝ) : ∀ (rest : List (ℝ × ℝ)) (a : ℝ × ℝ), a.1 ≤ x → (∃ z ∈ rest, x ≤ z.1) →
    ∃ pre p q post, a :: rest = pre ++ p :: q :: post ∧ p.1 ≤ x ∧ x ≤ q.1
  | [], a, _, ⟨z, hz, _⟩ => nomatch hz
  | b :: rest, a, ha, ⟨z, hz, hxz⟩ => by
    by_cases hb : x ≤ b.1
    · exact ⟨[], a, b, rest, rfl, ha, hb⟩
    · have hz' : z ∈ rest := (List.mem_cons.mp hz).resolve_left fun e => hb (e ▸ hxz)
      obtain ⟨pre, p, q, post, e, h⟩ := exists_bracket x rest b (not_le.mp hb).le ⟨z, hz', hxz⟩
      exact ⟨a :: pre, p, q, post, congrArg (a :: ·) e, h⟩

/-- every abscissa inside the table's range (the quantifier of the property: "any wavelength inside
the entry's stated range"): on strictly increasing knots, for `x` between the abscissae of two knots
`lo`, `hi` of the table (`lo.1 < hi.1`), `np.interp` returns the value at `x` of the straight line through
two *consecutive* knots that bracket `x` -/
theorem interp_piecewise_linear (l : List (ℝ × ℝ)) (x : ℝ) (hinc : Incr l) (lo hi : ℝ × ℝ) (hlo : lo ∈ l)
    (hhi : hi ∈ l) (hlt : lo.1 < hi.1) (h1 : lo.1 ≤ x) (h2 : x ≤ hi.1) :
    ∃ pre p q post, l = pre ++ p :: q :: post ∧ p.1 ≤ x ∧ x ≤ q.1 ∧
      interp x l = some (p.2 + (x - p.1) * (q.2 - p.2) / (q.1 - p.1)) := by
  cases l with
  | nil => exact nomatch hlo
  | cons a rest =>
    have hmin : ∀ z ∈ a :: rest, a.1 ≤ z.1 := fun z hz =>
      (List.mem_cons.mp hz).elim (fun e => e ▸ le_rfl) fun h => ((List.pairwise_cons.mp hinc).1 z h).le
    have hhi' : hi ∈ rest :=
      (List.mem_cons.mp hhi).resolve_left fun e => not_le.mpr hlt (e ▸ hmin lo hlo)
    obtain ⟨pre, p, q, post, e, hp, hq⟩ :=
      exists_bracket x rest a (le_trans (hmin lo hlo) h1) ⟨hi, hhi', h2⟩
    rw [e] at hinc ⊢
    exact ⟨pre, p, q, post, rfl, hp, hq, interp_linear_between x pre post p q hinc hp hq⟩

/-- non-vacuity: the three-knot table at `x = 3` -/
example : interp (3 : ℝ) [((1 : ℝ), (2 : ℝ)), (2, 5), (4, 3)] = some (5 + (3 - 2) * (3 - 5) / (4 - 2)) :=
  interp_linear_between 3 [((1 : ℝ), (2 : ℝ))] [] (2, 5) (4, 3) incr_three_knots (by norm_num) (by norm_num)

/-! ## Abbe number, model glass -/

/-- `BaseMaterial.abbe` is `(n_d − 1)/(n_F − n_C)` at 587.5618, 486.1327 and 656.2725 nm.
(This only unfolds the model's definition and checks the three decimal constants; that the Python method
computes the same is the harness's comparison, not a theorem.) -/
theorem abbe_def (n : ℝ → ℝ) :
    abbe n = (n 0.5875618 - 1) / (n 0.4861327 - n 0.6562725) := by
  simp only [abbe, lamD, lamF, lamC]
  num_real
  norm_num

/-- `np.polyval` (Horner) evaluates the polynomial with the given coefficients, highest power first -/
theorem polyval_horner (p : List ℝ) (x : ℝ) : polyval p x = polyEval x p := by
  unfold polyval
  num_real
  rw [foldl_horner]
  simp

/-! ## Levenshtein distance -/

/-- the matrix DP of `Material._levenshtein_distance` computes the Wagner–Fischer recurrence -/
theorem levenshtein_dp_eq_spec (s t : Str) : levDP s t = levSpec s t := levDP_eq_levSpec s t

/-- score 0 means equality -/
theorem levenshtein_zero_iff_eq (s t : Str) : levDP s t = 0 ↔ s = t := levDP_eq_zero_iff s t

/-! ## catalogue lookup over the regenerated table -/
open Gen.Catalog

theorem rows_pass : ∀ r ∈ rows, rowCheck tree ambiguous r = true := by
  intro r hr
  obtain ⟨c, hc, hrc⟩ := List.mem_flatten.mp hr
  exact List.all_eq_true.mp (chunks_ok c hc) r hrc

/-- finite-table fact (certificate checked by the kernel, `Gen/CatalogCert.lean`): outside the
exception list, a row shares its lower-cased name (as `name` or as `category_name` of another row)
only with rows of exactly the same name -/
theorem catalog_unambiguous : ∀ r ∈ rows, ∀ x ∈ rows, r.name ∉ ambiguous →
    (lowerL x.cat.str = lowerL r.name.str ∨ lowerL x.name.str = lowerL r.name.str) →
    x.name = r.name :=
  unambiguous_of_rowCheck tree ambiguous rows rows_pass

/-- with or without a reference string: any optional reference that matches the row -/
theorem lookup_exact_name_passes : ∀ r ∈ rows, r.name ∉ ambiguous → ∀ ref : Option Str,
    passesRef ref r → lookup_spec (lrows rows) r.name.str ref ≠ [] ∧
      ∀ x ∈ lookup_spec (lrows rows) r.name.str ref, x.row.name = r.name := by
  intro r hr hamb ref href
  obtain ⟨hne, hall⟩ := lookup_spec_sound rows r hr ref href
  exact ⟨hne, fun x hx => catalog_unambiguous r hr x.row (hall x hx).1 hamb (hall x hx).2⟩

/-- **lookup_exact_name**: for every catalogue row `r` whose name is not on the exception list, looking
up `r.name` (literal-substring semantics, any tie order of the sort) finds something, and every row
that may be returned has exactly that name -/
theorem lookup_exact_name : ∀ r ∈ rows, r.name ∉ ambiguous →
    lookup_spec (lrows rows) r.name.str none ≠ [] ∧
    ∀ x ∈ lookup_spec (lrows rows) r.name.str none, x.row.name = r.name :=
  fun r hr hamb => lookup_exact_name_passes r hr hamb none trivial

/-- the same with any reference string that matches the row (literally, in one of the five columns the
filter reads) -/
theorem lookup_exact_name_ref : ∀ r ∈ rows, r.name ∉ ambiguous → ∀ ref : Str,
    refMatch (isInfix (lowerL ref)) (LRow.of 0 r) = true →
    lookup_spec (lrows rows) r.name.str (some ref) ≠ [] ∧
    ∀ x ∈ lookup_spec (lrows rows) r.name.str (some ref), x.row.name = r.name :=
  fun r hr hamb ref href => lookup_exact_name_passes r hr hamb (some ref) href

/-- in particular with the row's own vendor reference -/
theorem lookup_exact_name_own_ref : ∀ r ∈ rows, r.name ∉ ambiguous →
    lookup_spec (lrows rows) r.name.str (some r.ref.str) ≠ [] ∧
    ∀ x ∈ lookup_spec (lrows rows) r.name.str (some r.ref.str), x.row.name = r.name := by
  intro r hr hamb
  apply lookup_exact_name_ref r hr hamb
  simp [refMatch, LRow.of, isInfix_refl]

/-- the exception list is tight: each listed name belongs to a catalogue row, and a lookup of it may
return a row with another name (a `category_name` or `name` equal to it up to case) -/
theorem ambiguous_genuine : ∀ a ∈ ambiguous,
    (∃ r ∈ rows, r.name = a) ∧
    ∃ x ∈ lookup_spec (lrows rows) a.str none, x.row.name ≠ a := by
  intro a ha
  obtain ⟨hr, x, hx, hne, hkey⟩ := ambCheck_sound rows ambiguous witness ambiguous_ok a ha
  obtain ⟨lx, hlx, rfl, -⟩ := mem_lookup_spec_of_key_eq rows x hx a.str none trivial hkey
  exact ⟨hr, lx, hlx, hne⟩

theorem rows_length : rows.length = nrows := by decide +kernel

/-! ## the lookup of the tree (`lookup_code`, regular-expression semantics) on metacharacter-free names -/

/-- no regular-expression metacharacter (`\ ^ $ * + ? { } [ ] | ( ) .`) occurs in the string -/
def noMeta (s : Str) : Bool := s.all fun c => !(otherMeta c) && c != 40 && c != 41 && c != 46

theorem regexSimple_noMeta : ∀ (s : Str), noMeta s = true → regexSimple s 0 = .ok (s.map Tok.lit)
  | [], _ => rfl
  | c :: cs, h => by
    rw [noMeta, List.all_cons, Bool.and_eq_true] at h
    have ih := regexSimple_noMeta cs h.2
    simp only [Bool.and_eq_true, Bool.not_eq_true', bne_iff_ne, ne_eq] at h
    obtain ⟨⟨⟨h1, h2⟩, h3⟩, h4⟩ := h.1
    rw [regexSimple, h1, if_neg Bool.false_ne_true, if_neg h2, if_neg h3, ih, if_neg h4]
    rfl

theorem matchPrefix_lit : ∀ (s t : Str), matchPrefix (s.map Tok.lit) t = isPrefix s t
  | [], _ => by simp [matchPrefix, isPrefix]
  | _ :: _, [] => by simp [matchPrefix, isPrefix]
  | a :: as, b :: bs => by simp [matchPrefix, isPrefix, matchPrefix_lit as bs]

theorem searchRe_lit (s : Str) : ∀ t : Str, searchRe (s.map Tok.lit) t = isInfix s t
  | [] => by simp [searchRe, isInfix, matchPrefix_lit]
  | b :: bs => by simp [searchRe, isInfix, matchPrefix_lit, searchRe_lit s bs]

/-- the tree's lookup agrees with the literal-substring specification whenever the (lower-cased)
name, and the reference if one is given, contain no regular-expression metacharacter -/
theorem lookup_code_eq_spec (rs : List LRow) (name : Str) (hn : noMeta (lowerL name) = true) :
    lookup_code rs name none = .rows (lookup_spec rs name none) ∧
    ∀ ref : Str, ref ≠ [] → noMeta (lowerL ref) = true →
      lookup_code rs name (some ref) = .rows (lookup_spec rs name (some ref)) := by
  have e (s : Str) : searchRe (s.map Tok.lit) = isInfix s := funext (searchRe_lit s)
  refine ⟨?_, fun ref hne hr => ?_⟩
  · simp only [lookup_code, regexSimple_noMeta _ hn, lookup_spec, Option.map_none, e]
  · simp only [lookup_code, regexSimple_noMeta _ hn, regexSimple_noMeta _ hr, lookup_spec, Option.map_some,
      e, List.isEmpty_eq_false_iff.mpr hne, Bool.false_eq_true, if_false]

/-- lookup_exact_name for the code as it stands: for every catalogue row whose name is not on the
exception list and contains no regular-expression metacharacter (1700 of the 2593 rows; the others are
the subject of finding F10), `Material(name)` as the tree computes it finds something and can only
return rows with exactly that name -/
theorem lookup_exact_name_code : ∀ r ∈ rows, r.name ∉ ambiguous → noMeta (lowerL r.name.str) = true →
    ∃ l, lookup_code (lrows rows) r.name.str none = .rows l ∧ l ≠ [] ∧ ∀ x ∈ l, x.row.name = r.name := by
  intro r hr hamb hm
  obtain ⟨h1, h2⟩ := lookup_exact_name r hr hamb
  exact ⟨_, (lookup_code_eq_spec _ _ hm).1, h1, h2⟩

/-- non-vacuity: row 650 (`N-BK7HT`) satisfies the hypotheses of `lookup_exact_name_code` -/
theorem lookup_exact_name_code_nonvacuous :
    ∃ r ∈ rows, r.name ∉ ambiguous ∧ noMeta (lowerL r.name.str) = true := by
  have h : (rows[650]?).any (fun r => decide (r.name ∉ ambiguous) && noMeta (lowerL r.name.str)) = true := by
    decide +kernel
  obtain ⟨r, hr, h⟩ := (Option.any_eq_true _ _).mp h
  rw [Bool.and_eq_true, decide_eq_true_eq] at h
  exact ⟨r, List.mem_of_getElem? hr, h⟩

/-- non-vacuity of `lookup_exact_name`: the same row -/
theorem lookup_exact_name_nonvacuous : ∃ r ∈ rows, r.name ∉ ambiguous :=
  let ⟨r, hr, h, _⟩ := lookup_exact_name_code_nonvacuous
  ⟨r, hr, h⟩

end C18
