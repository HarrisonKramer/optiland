import OptiModel.Model.Parax
import OptiModel.Proofs.Covariance
import Mathlib.Tactic.FieldSimp
import Mathlib.Tactic.Ring
import Mathlib.Tactic.Linarith
/-!
# C07  Results transform correctly under symmetries and re-descriptions of the lens
Theorems over ℝ about `Model/Real.lean` (and one paraxial step of `Model/Parax.lean`): mirror in x and
in y, scaling of all lengths, a dummy surface between equal media.  Each relation is proved for the
single operations, composed along the body of `traceSurf` (`Cov.traceSurf_equivariant`) and carried to
the record list of `traceLens` by induction over the surface list (`Cov.traceLens_equivariant`); the
statements for surfaces and lenses are equalities of whole `Ray` records: position, direction, intensity
and accumulated optical path at once.  `harness/c07.py` checks the same relations on the implementation.
-/
namespace C07
open Model Cov RayReal

/-! ### dummy surface between equal media -/

/-- refraction between equal indices leaves a unit direction
unchanged, whatever the unit normal (not grazing). -/
theorem refract_same_index (r : Ray ℝ) (nx ny nz n : ℝ) (hn0 : n ≠ 0)
    (hn : nx^2 + ny^2 + nz^2 = 1) (hd : r.L*nx + r.M*ny + r.N*nz ≠ 0) :
    (r.refract nx ny nz n n).L = r.L ∧ (r.refract nx ny nz n n).M = r.M ∧
    (r.refract nx ny nz n n).N = r.N := by
  simp only [refract_same r nx ny nz n hn0, and_self]

/-- splitting a segment at a dummy surface does not change the
accumulated optical path `Σ |t·n|` -/
theorem dummy_opd (t1 t2 n : ℝ) (h1 : 0 ≤ t1) (h2 : 0 ≤ t2) :
    |t1 * n| + |t2 * n| = |(t1 + t2) * n| :=
  abs_mul_add t1 t2 n h1 h2

/-! ### mirror symmetry about the y–z plane (rotationally symmetric surfaces) -/

/-- mirror image of a ray in the plane x = 0 -/
def mirX (r : Ray ℝ) : Ray ℝ := { r with x := -r.x, L := -r.L }

theorem conicABC_eq (R k : ℝ) (r : Ray ℝ) : conicABC R k r =
    (k*(r.N*r.N) + r.L*r.L + r.M*r.M + r.N*r.N,
     2*k*r.N*r.z + 2*r.L*r.x + 2*r.M*r.y - 2*r.N*R + 2*r.N*r.z,
     k*(r.z*r.z) - 2*R*r.z + r.x*r.x + r.y*r.y + r.z*r.z) := RayReal.conicABC_eq R k r

theorem conicABC_mirX (R k : ℝ) (r : Ray ℝ) : conicABC R k (mirX r) = conicABC R k r := by
  simp only [conicABC_eq, mirX, mul_neg, neg_mul, neg_neg]

theorem stdDistance_mirX (R k : ℝ) (r : Ray ℝ) : stdDistance R k (mirX r) = stdDistance R k r := by
  rw [stdDistance_eq, conicABC_mirX]
  rfl

theorem planeDistance_mirX (r : Ray ℝ) : planeDistance (mirX r) = planeDistance r := rfl

theorem propagate_mirX (r : Ray ℝ) (t k w : ℝ) : (mirX r).propagate t k w = mirX (r.propagate t k w) := by
  simp only [propagate_eq, mirX, mul_neg, ← neg_add]

theorem conicSlope_mirX (R k x y : ℝ) :
    conicSlope R k (-x) y = (-(conicSlope R k x y).1, (conicSlope R k x y).2) := by
  simp only [conicSlope_eq, neg_mul_neg, neg_div]

theorem stdNormal_mirX (R k x y : ℝ) :
    stdNormal R k (-x) y = (-(stdNormal R k x y).1, (stdNormal R k x y).2.1, (stdNormal R k x y).2.2) := by
  simp only [stdNormal_eq, conicSlope_mirX, neg_mul_neg, neg_div]

theorem refract_mirX (r : Ray ℝ) (nx ny nz n1 n2 : ℝ) :
    (mirX r).refract (-nx) ny nz n1 n2 = mirX (r.refract nx ny nz n1 n2) := by
  simp only [refract_eq, mirX, mul_neg, neg_mul, neg_neg, ← neg_add]

theorem reflect_mirX (r : Ray ℝ) (nx ny nz : ℝ) :
    (mirX r).reflect (-nx) ny nz = mirX (r.reflect nx ny nz) := by
  simp only [reflect_eq, mirX, mul_neg, neg_mul, neg_neg, ← neg_sub']

/-! ### scaling all lengths by s > 0 -/

/-- the ray of the scaled system: positions and accumulated path × s, direction cosines unchanged -/
def scaleRay (s : ℝ) (r : Ray ℝ) : Ray ℝ :=
  { r with x := s * r.x, y := s * r.y, z := s * r.z, opd := s * r.opd }

theorem conicABC_scale (s R k : ℝ) (r : Ray ℝ) :
    conicABC (s * R) k (scaleRay s r) =
      ((conicABC R k r).1, s * (conicABC R k r).2.1, s^2 * (conicABC R k r).2.2) := by
  rw [conicABC_eq, conicABC_eq]
  simp only [scaleRay, Prod.mk.injEq]
  refine ⟨trivial, by ring, by ring⟩

/-- the distance to the scaled conic along the scaled ray is `s`
times the original distance — for every `s > 0`, every ray and every branch of the root selection -/
theorem selectRoot_scale (s a b c z N : ℝ) (hs : 0 < s) :
    selectRoot a (s * b) (s^2 * c) (s * z) N = s * selectRoot a b c z N := by
  -- the discriminant gets the factor `s²`, so both roots, their masked values and `z + tN` get the
  -- factor `s`; `|·|` and the comparison of the two end points do not see a positive factor
  have hd : s * b * (s * b) - 4 * a * (s ^ 2 * c) = s^2 * (b * b - 4 * a * c) := by ring
  simp only [selectRoot_eq]
  rw [hd, Real.sqrt_mul (sq_nonneg s), Real.sqrt_sq hs.le]
  generalize Real.sqrt (b * b - 4 * a * c) = q
  rw [show (-(s * b) + s * q) / (2 * a) = s * ((-b + q) / (2 * a)) by ring,
    show (-(s * b) - s * q) / (2 * a) = s * ((-b - q) / (2 * a)) by ring, masked_mul hs, masked_mul hs]
  generalize masked ((-b + q) / (2 * a)) = M1
  generalize masked ((-b - q) / (2 * a)) = M2
  rw [show s * z + s * M1 * N = s * (z + M1 * N) by ring, show s * z + s * M2 * N = s * (z + M2 * N) by ring,
    abs_mul, abs_mul, abs_of_pos hs, sq, mul_assoc, ← mul_neg, mul_div_mul_left _ _ hs.ne', neg_mul_eq_mul_neg,
    mul_div_assoc]
  simp only [mul_le_mul_iff_right₀ hs, mul_ite]

theorem stdDistance_scale (s R k : ℝ) (r : Ray ℝ) (hs : 0 < s) :
    stdDistance (s * R) k (scaleRay s r) = s * stdDistance R k r := by
  rw [stdDistance_eq, stdDistance_eq, conicABC_scale]
  exact selectRoot_scale s _ _ _ _ _ hs

/-- the argument of the square root in sag and slope does not see the scale -/
theorem radicand_scale (s R k x y : ℝ) (hs : s ≠ 0) :
    (1 + k) * (s * x * (s * x) + s * y * (s * y)) / (s * R * (s * R)) = (1 + k) * (x * x + y * y) / (R * R) := by
  rw [mul_mul_mul_comm s x, mul_mul_mul_comm s y, mul_mul_mul_comm s R, ← mul_add, mul_left_comm,
    mul_div_mul_left _ _ (mul_self_ne_zero.mpr hs)]

theorem conicSag_scale (s R k x y : ℝ) (hs : 0 < s) :
    conicSag (s * R) k (s * x) (s * y) = s * conicSag R k x y := by
  rw [conicSag_eq, conicSag_eq, radicand_scale s R k x y hs.ne', mul_mul_mul_comm s x, mul_mul_mul_comm s y,
    ← mul_add, mul_assoc s R, mul_assoc s s, mul_div_mul_left _ _ hs.ne', mul_div_assoc]

theorem conicSlope_scale (s R k x y : ℝ) (hs : 0 < s) :
    conicSlope (s * R) k (s * x) (s * y) = conicSlope R k x y := by
  simp only [conicSlope_eq]
  rw [radicand_scale s R k x y hs.ne', mul_assoc s R, mul_div_mul_left _ _ hs.ne',
    mul_div_mul_left _ _ hs.ne']

theorem stdNormal_scale (s R k x y : ℝ) (hs : 0 < s) :
    stdNormal (s * R) k (s * x) (s * y) = stdNormal R k x y := by
  rw [stdNormal_eq, stdNormal_eq, conicSlope_scale s R k x y hs]

/-- in the scaled system the paraxial ray has `s` times the height and the
same slope at every surface -/
theorem pstepStd_scale (s : ℝ) (ray : PRay ℝ) (sf : PSurf ℝ) (hs : s ≠ 0) :
    pstepStd ⟨s * ray.y, ray.u, s * ray.z⟩ { sf with dy := s * sf.dy, z := s * sf.z, r := s * sf.r } =
      ⟨s * (pstepStd ray sf).y, (pstepStd ray sf).u, s * (pstepStd ray sf).z⟩ := by
  unfold pstepStd
  num_real
  simp only [PRay.mk.injEq]
  refine ⟨by ring, ?_, by ring⟩
  by_cases hr : sf.r = 0
  · simp [hr]
  · split_ifs
    · field_simp
    · field_simp

/-! ### non-vacuity -/
example : (0:ℝ) < 2.5 ∧ ((0:ℝ)^2 + 0^2 + (-1)^2 = 1) := by norm_num

/-! ### mirror in x: frame, aperture, distance -/

theorem truthy_zero : truthy (0:ℝ) = false := RayReal.truthy_zero

/-- `localize` commutes with the x-mirror when the frame has no x-decentre and no tilt about y, z
(any tilt `rx` about the x-axis is allowed: it acts in the y–z plane only) -/
theorem localize_mirX (c : Cs ℝ) (hx : c.x = 0) (hry : c.ry = 0) (hrz : c.rz = 0) (r : Ray ℝ) :
    c.localize (mirX r) = mirX (c.localize r) := by
  simp only [localize_eq, hx, hry, hrz, neg_zero, rotateY_zero, rotateZ_zero, translate_eq, rotateX_eq, mirX,
    add_zero]

theorem globalize_mirX (c : Cs ℝ) (hx : c.x = 0) (hry : c.ry = 0) (hrz : c.rz = 0) (r : Ray ℝ) :
    c.globalize (mirX r) = mirX (c.globalize r) := by
  simp only [globalize_eq, hx, hry, hrz, rotateY_zero, rotateZ_zero, translate_eq, rotateX_eq, mirX, add_zero]

theorem clip_mirX (ap : Option (ℝ × ℝ)) (r : Ray ℝ) : clip ap (mirX r) = mirX (clip ap r) := by
  rcases ap with _ | ⟨rmax, rmin⟩
  · rfl
  · simp only [clip_some, mirX, neg_mul_neg]
    split_ifs <;> rfl

theorem dist1_mirX (g : Geom ℝ) (r : Ray ℝ) : dist1 g (mirX r) = dist1 g r := by
  cases g <;> simp only [dist1, planeDistance_mirX, stdDistance_mirX]

/-! ### the Newton–Raphson intersection under a pair of maps on rays and points -/

/-- one Newton–Raphson step for one ray: new point and `|dz|` -/
noncomputable def nrStep (g : Geom ℝ) (p : ℝ × ℝ × ℝ) (r : Ray ℝ) : (ℝ × ℝ × ℝ) × ℝ :=
  ((p.1 - (p.2.2 - g.nrSag p.1 p.2.1) / r.N * r.L, p.2.1 - (p.2.2 - g.nrSag p.1 p.2.1) / r.N * r.M,
    p.2.2 - (p.2.2 - g.nrSag p.1 p.2.1) / r.N * r.N), |p.2.2 - g.nrSag p.1 p.2.1|)

theorem nrSweep_eq (g : Geom ℝ) (rays : List (Ray ℝ)) (pts : List (ℝ × ℝ × ℝ)) :
    nrSweep g rays pts = (((pts.zip rays).map (fun pr => nrStep g pr.1 pr.2)).map (·.1),
      npMax (((pts.zip rays).map (fun pr => nrStep g pr.1 pr.2)).map (·.2))) := rfl

section
variable (g : Geom ℝ) (φ : Ray ℝ → Ray ℝ) (ψ : ℝ × ℝ × ℝ → ℝ × ℝ × ℝ)
  (hstep : ∀ p r, nrStep g (ψ p) (φ r) = (ψ (nrStep g p r).1, (nrStep g p r).2))
include hstep

/-- if `φ` on rays and `ψ` on points commute with one step and keep its `|dz|`, a sweep over the
transformed batch gives the transformed points and the same batch-wide `max |dz|` -/
theorem nrSweep_equivariant (rays : List (Ray ℝ)) (pts : List (ℝ × ℝ × ℝ)) :
    nrSweep g (rays.map φ) (pts.map ψ) = ((nrSweep g rays pts).1.map ψ, (nrSweep g rays pts).2) := by
  have h : (List.map (Prod.map ψ φ) (pts.zip rays)).map (fun pr => nrStep g pr.1 pr.2) =
      ((pts.zip rays).map (fun pr => nrStep g pr.1 pr.2)).map (fun q => (ψ q.1, q.2)) := by
    rw [List.map_map, List.map_map]
    exact List.map_congr_left fun pr _ => hstep pr.1 pr.2
  rw [nrSweep_eq, nrSweep_eq, List.zip_map, h]
  simp only [List.map_map, Function.comp_def]

/-- … hence the loop stops after the same number of sweeps -/
theorem nrLoop_equivariant (rays : List (Ray ℝ)) (tol : ℝ) (n : ℕ) (pts : List (ℝ × ℝ × ℝ)) :
    nrLoop g (rays.map φ) tol n (pts.map ψ) = (nrLoop g rays tol n pts).map ψ := by
  induction n generalizing pts with
  | zero => rfl
  | succ n ih =>
    simp only [nrLoop, nrSweep_equivariant g φ ψ hstep]
    split_ifs
    · rfl
    · exact ih _

/-- … and, if the first guesses correspond and `ψ`, `φ` keep the distance from the start point to
the point found, the batch of distances is the same -/
theorem nrDistance_equivariant (R tol : ℝ) (mi : ℕ) (hguess : ∀ r, sphereGuess R (φ r) = ψ (sphereGuess R r))
    (hchord : ∀ (p : ℝ × ℝ × ℝ) (r : Ray ℝ),
      ((ψ p).1 - (φ r).x) * ((ψ p).1 - (φ r).x) + ((ψ p).2.1 - (φ r).y) * ((ψ p).2.1 - (φ r).y) +
        ((ψ p).2.2 - (φ r).z) * ((ψ p).2.2 - (φ r).z) =
      (p.1 - r.x) * (p.1 - r.x) + (p.2.1 - r.y) * (p.2.1 - r.y) + (p.2.2 - r.z) * (p.2.2 - r.z))
    (rays : List (Ray ℝ)) : nrDistance g R tol mi (rays.map φ) = nrDistance g R tol mi rays := by
  simp only [nrDistance]
  rw [List.map_map, show sphereGuess R ∘ φ = ψ ∘ sphereGuess R from funext hguess, ← List.map_map,
    nrLoop_equivariant g φ ψ hstep, List.zip_map, List.map_map]
  exact List.map_congr_left fun pr _ => congrArg Real.sqrt (hchord pr.1 pr.2)
end

/-! ### mirror in x: the even asphere (batch-coupled Newton–Raphson intersection) -/

def mirP (p : ℝ × ℝ × ℝ) : ℝ × ℝ × ℝ := (-p.1, p.2.1, p.2.2)

theorem sphereGuess_mirX (R : ℝ) (r : Ray ℝ) : sphereGuess R (mirX r) = mirP (sphereGuess R r) := by
  simp only [sphereGuess, mirX, mirP]
  num_real
  simp only [mul_neg, neg_mul, neg_neg, ← neg_add]

theorem nrStep_mirX (g : Geom ℝ) (hsag : ∀ x y, g.nrSag (-x) y = g.nrSag x y) (p : ℝ × ℝ × ℝ) (r : Ray ℝ) :
    nrStep g (mirP p) (mirX r) = (mirP (nrStep g p r).1, (nrStep g p r).2) := by
  simp only [nrStep, mirP, mirX, hsag, Prod.mk.injEq, and_true]
  ring

theorem nrSweep_mirX (g : Geom ℝ) (hsag : ∀ x y, g.nrSag (-x) y = g.nrSag x y)
    (rays : List (Ray ℝ)) (pts : List (ℝ × ℝ × ℝ)) :
    nrSweep g (rays.map mirX) (pts.map mirP) =
      ((nrSweep g rays pts).1.map mirP, (nrSweep g rays pts).2) :=
  nrSweep_equivariant g mirX mirP (nrStep_mirX g hsag) rays pts

theorem nrLoop_mirX (g : Geom ℝ) (hsag : ∀ x y, g.nrSag (-x) y = g.nrSag x y)
    (rays : List (Ray ℝ)) (tol : ℝ) (n : ℕ) (pts : List (ℝ × ℝ × ℝ)) :
    nrLoop g (rays.map mirX) tol n (pts.map mirP) = (nrLoop g rays tol n pts).map mirP :=
  nrLoop_equivariant g mirX mirP (nrStep_mirX g hsag) rays tol n pts

/-- the batch of Newton–Raphson distances is the same for the mirrored batch (same iteration count:
the stopping test `max |dz| < tol` sees the same numbers) -/
theorem nrDistance_mirX (g : Geom ℝ) (hsag : ∀ x y, g.nrSag (-x) y = g.nrSag x y)
    (R tol : ℝ) (mi : ℕ) (rays : List (Ray ℝ)) :
    nrDistance g R tol mi (rays.map mirX) = nrDistance g R tol mi rays :=
  nrDistance_equivariant g mirX mirP (nrStep_mirX g hsag) R tol mi (sphereGuess_mirX R)
    (fun p r => by simp only [mirP, mirX, neg_sub_neg, ← neg_sub p.1, neg_mul_neg]) rays

theorem conicSag_mirX (R k x y : ℝ) : conicSag R k (-x) y = conicSag R k x y := by
  simp only [conicSag_eq, neg_mul_neg]

theorem asphSag_mirX (R k : ℝ) (c : List ℝ) (x y : ℝ) : asphSag R k c (-x) y = asphSag R k c x y := by
  unfold asphSag
  rw [conicSag_mirX]
  num_real
  simp only [neg_mul_neg]

theorem nrNormalize_neg (a b : ℝ) :
    nrNormalize (-a) b = (-(nrNormalize a b).1, (nrNormalize a b).2.1, (nrNormalize a b).2.2) := by
  simp only [nrNormalize_eq, neg_mul_neg, neg_div]

/-- the polynomial part of the even-asphere slope: the x-component changes sign with x -/
theorem asphFold_mirX (x y r2 : ℝ) (l : List (ℝ × ℕ)) (a b : ℝ) :
    l.foldl (fun (d : ℝ × ℝ) (ci : ℝ × ℕ) =>
      (d.1 + 2 * (Num.ofNat (ci.2 + 1) : ℝ) * (-x) * ci.1 * ipow r2 ci.2,
       d.2 + 2 * (Num.ofNat (ci.2 + 1) : ℝ) * y * ci.1 * ipow r2 ci.2)) (-a, b) =
    (-(l.foldl (fun (d : ℝ × ℝ) (ci : ℝ × ℕ) =>
      (d.1 + 2 * (Num.ofNat (ci.2 + 1) : ℝ) * x * ci.1 * ipow r2 ci.2,
       d.2 + 2 * (Num.ofNat (ci.2 + 1) : ℝ) * y * ci.1 * ipow r2 ci.2)) (a, b)).1,
     (l.foldl (fun (d : ℝ × ℝ) (ci : ℝ × ℕ) =>
      (d.1 + 2 * (Num.ofNat (ci.2 + 1) : ℝ) * x * ci.1 * ipow r2 ci.2,
       d.2 + 2 * (Num.ofNat (ci.2 + 1) : ℝ) * y * ci.1 * ipow r2 ci.2)) (a, b)).2) := by
  induction l generalizing a b with
  | nil => rfl
  | cons ci l ih =>
    rw [List.foldl_cons, List.foldl_cons, mul_neg, neg_mul, neg_mul, ← neg_add, ih]

theorem asphNormal_mirX (R k : ℝ) (c : List ℝ) (x y : ℝ) :
    asphNormal R k c (-x) y =
      (-(asphNormal R k c x y).1, (asphNormal R k c x y).2.1, (asphNormal R k c x y).2.2) := by
  simp only [asphNormal, conicSlope_mirX]
  num_real
  rw [neg_mul_neg, asphFold_mirX, nrNormalize_neg]

/-- what `traceSurf` needs from a geometry to be mirror symmetric in x: the batch of distances of the
mirrored batch is the same, and the normal at the mirrored point is the mirrored normal -/
def MirSymGeom (g : Geom ℝ) : Prop :=
  (∀ rays : List (Ray ℝ), g.distance (rays.map mirX) = g.distance rays) ∧
  (∀ (r : Ray ℝ) (nx ny nz : ℝ), g.normal r = (nx, ny, nz) → g.normal (mirX r) = (-nx, ny, nz))

theorem mirSym_plane : MirSymGeom (.plane : Geom ℝ) := by
  refine ⟨fun rays => List.map_map, fun r nx ny nz h => ?_⟩
  cases h
  exact congrArg (·, _) neg_zero.symm

theorem mirSym_standard (R k : ℝ) : MirSymGeom (.standard R k : Geom ℝ) := by
  refine ⟨fun rays => ?_, fun r nx ny nz h => ?_⟩
  · simp only [Geom.distance, List.map_map]
    exact List.map_congr_left fun r _ => stdDistance_mirX R k r
  · exact (stdNormal_mirX R k r.x r.y).trans (congrArg (fun n : ℝ × ℝ × ℝ => (-n.1, n.2.1, n.2.2)) h)

/-- the even asphere `z = conic(r²) + Σ cᵢ r^{2(i+1)}` is mirror symmetric, including its
Newton–Raphson intersection with the batch-wide stopping test -/
theorem mirSym_evenAsphere (R k tol : ℝ) (mi : ℕ) (c : List ℝ) :
    MirSymGeom (.evenAsphere R k tol mi c : Geom ℝ) := by
  refine ⟨fun rays => ?_, fun r nx ny nz h => ?_⟩
  · exact nrDistance_mirX (.evenAsphere R k tol mi c) (asphSag_mirX R k c) R tol mi rays
  · exact (asphNormal_mirX R k c r.x r.y).trans (congrArg (fun n : ℝ × ℝ × ℝ => (-n.1, n.2.1, n.2.2)) h)

theorem interact_mirX_sym (s : RSurf ℝ) (hg : MirSymGeom s.geom) (r : Ray ℝ) :
    interact s (mirX r) = mirX (interact s r) :=
  interact_equivariant mirX s s r _ _ rfl rfl (hg.2 r _ _ _ rfl) (refract_mirX r _ _ _ _ _)
    (reflect_mirX r _ _ _) (fun _ _ => rfl)

theorem surfStep_mirX_sym (s : RSurf ℝ) (w : ℝ) (hx : s.cs.x = 0) (hry : s.cs.ry = 0) (hrz : s.cs.rz = 0)
    (hg : MirSymGeom s.geom) (r : Ray ℝ) (t : ℝ) :
    surfStep s w (mirX r) t = mirX (surfStep s w r t) :=
  surfStep_equivariant mirX s s w w t t r (by rw [advance, propagate_mirX]; rfl) (clip_mirX _)
    (interact_mirX_sym s hg) (globalize_mirX _ hx hry hrz)

theorem traceSurf_mirX_sym (s : RSurf ℝ) (w : ℝ) (hx : s.cs.x = 0) (hry : s.cs.ry = 0) (hrz : s.cs.rz = 0)
    (hg : MirSymGeom s.geom) (rays : List (Ray ℝ)) :
    traceSurf s w (rays.map mirX) = (traceSurf s w rays).map mirX :=
  traceSurf_equivariant mirX id s s w w rfl (localize_mirX _ hx hry hrz)
    (fun rays => by rw [hg.1, List.map_id]) (surfStep_mirX_sym s w hx hry hrz hg) rays

/-- One surface, mirror in x.  The frame has no decentre in x and no tilt about y and z (`rx` arbitrary);
any radial aperture, coating and kind.  The geometry is a plane, a standard conic or an `EvenAsphere` (any
coefficients, tolerance, iteration limit): its intersection is found by a Newton–Raphson loop whose
stopping test looks at the whole batch — the mirrored batch takes the same number of sweeps. -/
theorem traceSurf_mirX_asph (s : RSurf ℝ) (w : ℝ) (hx : s.cs.x = 0) (hry : s.cs.ry = 0) (hrz : s.cs.rz = 0)
    (hg : s.geom = .plane ∨ (∃ R k, s.geom = .standard R k) ∨
      ∃ R k tol mi c, s.geom = .evenAsphere R k tol mi c) (rays : List (Ray ℝ)) :
    traceSurf s w (rays.map mirX) = (traceSurf s w rays).map mirX := by
  apply traceSurf_mirX_sym s w hx hry hrz
  rcases hg with h | ⟨R, k, h⟩ | ⟨R, k, tol, mi, c, h⟩ <;> rw [h]
  · exact mirSym_plane
  · exact mirSym_standard R k
  · exact mirSym_evenAsphere R k tol mi c

theorem traceLens_mirX_asph (w : ℝ) (ss : List (RSurf ℝ))
    (h : ∀ s ∈ ss, s.cs.x = 0 ∧ s.cs.ry = 0 ∧ s.cs.rz = 0 ∧
      (s.geom = .plane ∨ (∃ R k, s.geom = .standard R k) ∨
        ∃ R k tol mi c, s.geom = .evenAsphere R k tol mi c)) (rays : List (Ray ℝ)) :
    traceLens w ss (rays.map mirX) = (traceLens w ss rays).map (List.map mirX) := by
  apply traceLens_equivariant mirX w w ss ss
  rw [List.forall₂_same]
  intro s hs rays
  obtain ⟨hx, hry, hrz, hg⟩ := h s hs
  exact traceSurf_mirX_asph s w hx hry hrz hg rays

/-! ### mirror in x: plane and standard conic, as corollaries -/

theorem mirSym_of_simple (g : Geom ℝ) (hg : Simple g) : MirSymGeom g := by
  rcases hg with h | ⟨R, k, h⟩ <;> rw [h]
  · exact mirSym_plane
  · exact mirSym_standard R k

/-- `Surface._interact` commutes with the x-mirror on a plane and on a standard conic: the normal
at the mirrored point is the mirrored normal, refraction/reflection are equivariant, a
`SimpleCoating` multiplies the intensity by a constant -/
theorem interact_mirX (s : RSurf ℝ) (hg : Simple s.geom) (r : Ray ℝ) :
    interact s (mirX r) = mirX (interact s r) :=
  interact_mirX_sym s (mirSym_of_simple _ hg) r

theorem surfStep_mirX (s : RSurf ℝ) (w : ℝ) (hx : s.cs.x = 0) (hry : s.cs.ry = 0) (hrz : s.cs.rz = 0)
    (hg : Simple s.geom) (r : Ray ℝ) (t : ℝ) :
    surfStep s w (mirX r) t = mirX (surfStep s w r t) :=
  surfStep_mirX_sym s w hx hry hrz (mirSym_of_simple _ hg) r t

theorem surfRay_mirX (s : RSurf ℝ) (w : ℝ) (hx : s.cs.x = 0) (hry : s.cs.ry = 0) (hrz : s.cs.rz = 0)
    (hg : Simple s.geom) (r : Ray ℝ) :
    surfRay s w (mirX r) = mirX (surfRay s w r) := by
  unfold surfRay
  rw [localize_mirX _ hx hry hrz, dist1_mirX, surfStep_mirX s w hx hry hrz hg]

/-- The case without the even asphere.  For a surface whose frame has no decentre in x and no tilt
about y and z (`rx` arbitrary) and whose geometry is a plane or a standard conic — any radial
aperture, any `SimpleCoating`, refracting or reflecting, any surface kind — tracing the
x-mirrored batch gives the x-mirrored records: position, direction, intensity and opd.
(Polynomial / Chebyshev geometries are symmetric only if all odd x-powers vanish and are left out.
With `cs.x ≠ 0`, `cs.ry ≠ 0` or `cs.rz ≠ 0` the statement is false.) -/
theorem traceSurf_mirX (s : RSurf ℝ) (w : ℝ) (hx : s.cs.x = 0) (hry : s.cs.ry = 0) (hrz : s.cs.rz = 0)
    (hg : s.geom = .plane ∨ ∃ R k, s.geom = .standard R k) (rays : List (Ray ℝ)) :
    traceSurf s w (rays.map mirX) = (traceSurf s w rays).map mirX :=
  traceSurf_mirX_sym s w hx hry hrz (mirSym_of_simple _ hg) rays

/-- If every surface satisfies the guard of `traceSurf_mirX`, the
record list (one batch per surface) of the mirrored batch is the mirror image of the record list. -/
theorem traceLens_mirX (w : ℝ) (ss : List (RSurf ℝ))
    (h : ∀ s ∈ ss, s.cs.x = 0 ∧ s.cs.ry = 0 ∧ s.cs.rz = 0 ∧
      (s.geom = .plane ∨ ∃ R k, s.geom = .standard R k)) (rays : List (Ray ℝ)) :
    traceLens w ss (rays.map mirX) = (traceLens w ss rays).map (List.map mirX) := by
  apply traceLens_equivariant mirX w w ss ss
  rw [List.forall₂_same]
  intro s hs rays
  obtain ⟨hx, hry, hrz, hg⟩ := h s hs
  exact traceSurf_mirX s w hx hry hrz hg rays

/-! non-vacuity: a tilted (about x), y-decentred, coated, apertured conic satisfies the guard -/
noncomputable def exConic : RSurf ℝ :=
  { kind := .standard, cs := ⟨0, 0.3, 5, 0.1, 0, 0⟩, geom := .standard 50 (-0.5), n1 := 1, n2 := 1.5,
    k1 := 0, refl := false, aperture := some (10, 0), coating := some (0.98, 0.02) }
noncomputable def exPlaneMirror : RSurf ℝ :=
  { kind := .standard, cs := ⟨0, 0, 12, 0, 0, 0⟩, geom := .plane, n1 := 1.5, n2 := 1.5,
    k1 := 0, refl := true, aperture := none, coating := none }
noncomputable def exImage : RSurf ℝ :=
  { kind := .image, cs := ⟨0, 0, 2, 0, 0, 0⟩, geom := .plane, n1 := 1.5, n2 := 1.5,
    k1 := 0, refl := false, aperture := none, coating := none }

example (w : ℝ) (rays : List (Ray ℝ)) :
    traceSurf exConic w (rays.map mirX) = (traceSurf exConic w rays).map mirX :=
  traceSurf_mirX exConic w rfl rfl rfl (Or.inr ⟨_, _, rfl⟩) rays

example (w : ℝ) (rays : List (Ray ℝ)) :
    traceLens w [exConic, exPlaneMirror, exImage] (rays.map mirX) =
      (traceLens w [exConic, exPlaneMirror, exImage] rays).map (List.map mirX) := by
  apply traceLens_mirX
  intro s hs
  simp only [List.mem_cons, List.not_mem_nil, or_false] at hs
  rcases hs with rfl | rfl | rfl
  · exact ⟨rfl, rfl, rfl, Or.inr ⟨_, _, rfl⟩⟩
  · exact ⟨rfl, rfl, rfl, Or.inl rfl⟩
  · exact ⟨rfl, rfl, rfl, Or.inl rfl⟩

noncomputable def exAsphere : RSurf ℝ :=
  { kind := .standard, cs := ⟨0, -0.2, 1, -0.05, 0, 0⟩, geom := .evenAsphere 30 (-1) 1e-10 100 [1e-4, -2e-7],
    n1 := 1, n2 := 1.5, k1 := 0, refl := false, aperture := some (8, 0), coating := none }

example (w : ℝ) (rays : List (Ray ℝ)) :
    traceLens w [exAsphere, exConic, exImage] (rays.map mirX) =
      (traceLens w [exAsphere, exConic, exImage] rays).map (List.map mirX) := by
  apply traceLens_mirX_asph
  intro s hs
  simp only [List.mem_cons, List.not_mem_nil, or_false] at hs
  rcases hs with rfl | rfl | rfl
  · exact ⟨rfl, rfl, rfl, Or.inr (Or.inr ⟨_, _, _, _, _, rfl⟩)⟩
  · exact ⟨rfl, rfl, rfl, Or.inr (Or.inl ⟨_, _, rfl⟩)⟩
  · exact ⟨rfl, rfl, rfl, Or.inl rfl⟩

/-! ### scaling all lengths by c > 0: one surface, whole lens -/

/-- the geometry of the scaled lens: radius × c, conic constant unchanged -/
noncomputable def scaleGeom (c : ℝ) : Geom ℝ → Geom ℝ
  | .plane => .plane
  | .standard R k => .standard (c * R) k
  | g => g

/-- the surface of the scaled lens: vertex position, radius of curvature and aperture radii × c;
tilts, conic constant, indices, extinction coefficient, coating unchanged -/
noncomputable def scaleSurf (c : ℝ) (s : RSurf ℝ) : RSurf ℝ :=
  { s with cs := { s.cs with x := c * s.cs.x, y := c * s.cs.y, z := c * s.cs.z },
           geom := scaleGeom c s.geom,
           aperture := s.aperture.map (fun a => (c * a.1, c * a.2)) }

theorem translate_scale (c : ℝ) (r : Ray ℝ) (dx dy dz : ℝ) :
    (scaleRay c r).translate (c * dx) (c * dy) (c * dz) = scaleRay c (r.translate dx dy dz) := by
  simp only [translate_eq, scaleRay, mul_add]

theorem rotateX_scale (c : ℝ) (r : Ray ℝ) (a : ℝ) :
    (scaleRay c r).rotateX a = scaleRay c (r.rotateX a) := by
  simp only [rotateX_eq, scaleRay, Ray.mk.injEq, true_and, and_true]
  exact ⟨by ring, by ring⟩

theorem rotateY_scale (c : ℝ) (r : Ray ℝ) (a : ℝ) :
    (scaleRay c r).rotateY a = scaleRay c (r.rotateY a) := by
  simp only [rotateY_eq, scaleRay, Ray.mk.injEq, true_and, and_true]
  exact ⟨by ring, by ring⟩

theorem rotateZ_scale (c : ℝ) (r : Ray ℝ) (a : ℝ) :
    (scaleRay c r).rotateZ a = scaleRay c (r.rotateZ a) := by
  simp only [rotateZ_eq, scaleRay, Ray.mk.injEq, and_true]
  exact ⟨by ring, by ring⟩

/-- `localize` into the scaled frame of the scaled ray = scaled `localize` (any decentre, any tilt) -/
theorem localize_scale (c : ℝ) (cs : Cs ℝ) (r : Ray ℝ) :
    Cs.localize { cs with x := c * cs.x, y := c * cs.y, z := c * cs.z } (scaleRay c r) =
      scaleRay c (cs.localize r) := by
  simp only [localize_eq, ← mul_neg, translate_scale, rotateX_scale, rotateY_scale, rotateZ_scale]

theorem globalize_scale (c : ℝ) (cs : Cs ℝ) (r : Ray ℝ) :
    Cs.globalize { cs with x := c * cs.x, y := c * cs.y, z := c * cs.z } (scaleRay c r) =
      scaleRay c (cs.globalize r) := by
  simp only [globalize_eq, rotateZ_scale, rotateY_scale, rotateX_scale, translate_scale]

/-- the distance to the vertex plane scales (both branches of the `t < 0` mask; the masked value
`nan` is the junk value `0/0 = 0` over ℝ on both sides) -/
theorem planeDistance_scale (c : ℝ) (r : Ray ℝ) (hc : 0 < c) :
    planeDistance (scaleRay c r) = c * planeDistance r := by
  rw [planeDistance_eq, planeDistance_eq, ← masked_mul hc, mul_div_assoc', mul_neg]
  rfl

theorem dist1_scale (c : ℝ) (g : Geom ℝ) (r : Ray ℝ) (hc : 0 < c) :
    dist1 (scaleGeom c g) (scaleRay c r) = c * dist1 g r := by
  cases g <;> simp only [dist1, scaleGeom, planeDistance_scale c r hc, stdDistance_scale c _ _ r hc, mul_zero]

/-- propagation by the scaled distance.  The Beer–Lambert factor `exp(-4πk/λ · t · 1000)` is
invariant only if the medium does not absorb (`k = 0`) or the wavelength is scaled as well. -/
theorem propagate_scale (c : ℝ) (r : Ray ℝ) (t k w w' : ℝ) (hc : 0 < c) (hI : k = 0 ∨ w' = c * w) :
    (scaleRay c r).propagate (c * t) k w' = scaleRay c (r.propagate t k w) := by
  have hx : -(4 * Real.pi * k / w') * (c * t) = -(4 * Real.pi * k / w) * t := by
    rcases hI with h | h
    · rw [h, mul_zero, zero_div, zero_div, neg_zero, zero_mul, zero_mul]
    -- `x/(c w) · (c t) = x/w · t`: split the quotient and cancel `c` (no case `w = 0` needed)
    · rw [h, mul_comm c w, ← div_div, neg_mul, neg_mul, div_mul_eq_mul_div, mul_comm c t, ← mul_assoc,
        mul_div_cancel_right₀ _ hc.ne', mul_div_right_comm]
  simp only [propagate_eq, scaleRay, hx]
  simp only [mul_add, mul_assoc]

theorem opd_scale (c : ℝ) (q : Ray ℝ) (t n : ℝ) (hc : 0 < c) :
    ({ (scaleRay c q) with opd := (scaleRay c q).opd + Num.abs (c * t * n) } : Ray ℝ) =
      scaleRay c { q with opd := q.opd + Num.abs (t * n) } := by
  simp only [scaleRay, NumReal.abs_eq, Ray.mk.injEq, true_and]
  rw [mul_assoc, abs_mul, abs_of_pos hc, mul_add]

theorem clip_scale (c : ℝ) (ap : Option (ℝ × ℝ)) (r : Ray ℝ) (hc : 0 < c) :
    clip (ap.map (fun a => (c * a.1, c * a.2))) (scaleRay c r) = scaleRay c (clip ap r) := by
  rcases ap with _ | ⟨rmax, rmin⟩
  · rfl
  · have e : ∀ u : ℝ, c * u * (c * u) = c * c * (u * u) := fun u => mul_mul_mul_comm c u c u
    simp only [Option.map_some, clip_some, scaleRay, e, ← mul_add, mul_lt_mul_iff_right₀ (mul_pos hc hc)]
    split_ifs <;> rfl

/-- `Surface._interact` on the scaled surface: same unit normal, same refraction/reflection,
same coating factor; positions and path are not touched -/
theorem interact_scale (c : ℝ) (s : RSurf ℝ) (hg : Simple s.geom) (hc : 0 < c) (r : Ray ℝ) :
    interact (scaleSurf c s) (scaleRay c r) = scaleRay c (interact s r) := by
  have key : (scaleGeom c s.geom).normal (scaleRay c r) = s.geom.normal r := by
    rcases hg with h0 | ⟨R, k, h0⟩ <;> rw [h0]
    · rfl
    · exact stdNormal_scale c R k r.x r.y hc
  exact interact_equivariant (scaleRay c) s (scaleSurf c s) r _ _ rfl rfl key rfl rfl (fun _ _ => rfl)

theorem surfStep_scale (c : ℝ) (s : RSurf ℝ) (w w' : ℝ) (hg : Simple s.geom) (hc : 0 < c)
    (hI : s.k1 = 0 ∨ w' = c * w) (r : Ray ℝ) (t : ℝ) :
    surfStep (scaleSurf c s) w' (scaleRay c r) (c * t) = scaleRay c (surfStep s w r t) := by
  refine surfStep_equivariant (scaleRay c) s (scaleSurf c s) w w' t (c * t) r ?_ (clip_scale c _ · hc)
    (interact_scale c s hg hc) (globalize_scale c s.cs)
  show advance (scaleRay c r) (c * t) s.k1 w' s.n1 = _
  rw [advance, propagate_scale c r t s.k1 w w' hc hI, opd_scale c _ t s.n1 hc]
  rfl

theorem surfRay_scale (c : ℝ) (s : RSurf ℝ) (w w' : ℝ) (hg : Simple s.geom) (hc : 0 < c)
    (hI : s.k1 = 0 ∨ w' = c * w) (r : Ray ℝ) :
    surfRay (scaleSurf c s) w' (scaleRay c r) = scaleRay c (surfRay s w r) := by
  have h := surfStep_scale c s w w' hg hc hI (s.cs.localize r) (dist1 s.geom (s.cs.localize r))
  rwa [← dist1_scale c _ _ hc, ← localize_scale] at h

theorem simple_scaleGeom (c : ℝ) (g : Geom ℝ) (hg : Simple g) : Simple (scaleGeom c g) := by
  rcases hg with h | ⟨R, k, h⟩ <;> subst h
  · exact Or.inl rfl
  · exact Or.inr ⟨_, _, rfl⟩

/-- One surface, scaled by `c`.  `w'` is the wavelength used for the scaled
system: either the medium in front of the surface does not absorb, or the wavelength is scaled
together with all other lengths. -/
theorem traceSurf_scale_gen (c : ℝ) (s : RSurf ℝ) (w w' : ℝ) (hc : 0 < c)
    (hg : s.geom = .plane ∨ ∃ R k, s.geom = .standard R k) (hI : s.k1 = 0 ∨ w' = c * w)
    (rays : List (Ray ℝ)) :
    traceSurf (scaleSurf c s) w' (rays.map (scaleRay c)) = (traceSurf s w rays).map (scaleRay c) := by
  by_cases hk : s.kind = .object
  · rw [traceSurf_object _ _ _ hk, traceSurf_object (scaleSurf c s) _ _ hk]
  · rw [traceSurf_eq_map s _ _ hk hg, traceSurf_eq_map (scaleSurf c s) _ _ hk (simple_scaleGeom c _ hg),
      List.map_map, List.map_map]
    exact List.map_congr_left fun r _ => surfRay_scale c s w w' hg hc hI r

/-- Scale vertex position, radius of curvature and aperture radii
of a plane / standard-conic surface by `c > 0` (tilts, conic constant, indices, coating unchanged)
and the rays' positions and accumulated path by `c`: every record of `traceSurf` has position and
opd × c, direction and intensity unchanged — the intensity under the guard `k1 = 0`: with an
absorbing medium the Beer–Lambert factor `exp(-4πk·t/λ)` sees the longer path (use
`traceSurf_scale_gen` with `w' = c·w` for that case). -/
theorem traceSurf_scale (c : ℝ) (s : RSurf ℝ) (w : ℝ) (hc : 0 < c)
    (hg : s.geom = .plane ∨ ∃ R k, s.geom = .standard R k) (hk1 : s.k1 = 0) (rays : List (Ray ℝ)) :
    traceSurf (scaleSurf c s) w (rays.map (scaleRay c)) = (traceSurf s w rays).map (scaleRay c) :=
  traceSurf_scale_gen c s w w hc hg (Or.inl hk1) rays

/-- The record list of the scaled batch through the scaled lens is
the scaled record list — all media non-absorbing. -/
theorem traceLens_scale (c : ℝ) (w : ℝ) (hc : 0 < c) (ss : List (RSurf ℝ))
    (h : ∀ s ∈ ss, (s.geom = .plane ∨ ∃ R k, s.geom = .standard R k) ∧ s.k1 = 0)
    (rays : List (Ray ℝ)) :
    traceLens w (ss.map (scaleSurf c)) (rays.map (scaleRay c)) =
      (traceLens w ss rays).map (List.map (scaleRay c)) := by
  apply traceLens_equivariant (scaleRay c) w w ss (ss.map (scaleSurf c))
  rw [List.forall₂_map_right_iff, List.forall₂_same]
  intro s hs rays
  exact traceSurf_scale c s w hc (h s hs).1 (h s hs).2 rays

/-- Absorbing media: if the wavelength is scaled with the lens the
intensity is invariant too (the extinction coefficients `k1` being the same numbers). -/
theorem traceLens_scale_wavelength (c : ℝ) (w : ℝ) (hc : 0 < c) (ss : List (RSurf ℝ))
    (h : ∀ s ∈ ss, s.geom = .plane ∨ ∃ R k, s.geom = .standard R k) (rays : List (Ray ℝ)) :
    traceLens (c * w) (ss.map (scaleSurf c)) (rays.map (scaleRay c)) =
      (traceLens w ss rays).map (List.map (scaleRay c)) := by
  apply traceLens_equivariant (scaleRay c) w (c * w) ss (ss.map (scaleSurf c))
  rw [List.forall₂_map_right_iff, List.forall₂_same]
  intro s hs rays
  exact traceSurf_scale_gen c s w (c * w) hc (h s hs) (Or.inr rfl) rays

example (w : ℝ) (rays : List (Ray ℝ)) :
    traceLens w ([exConic, exPlaneMirror, exImage].map (scaleSurf 2.5)) (rays.map (scaleRay 2.5)) =
      (traceLens w [exConic, exPlaneMirror, exImage] rays).map (List.map (scaleRay 2.5)) := by
  apply traceLens_scale 2.5 w (by norm_num)
  intro s hs
  simp only [List.mem_cons, List.not_mem_nil, or_false] at hs
  rcases hs with rfl | rfl | rfl
  · exact ⟨Or.inr ⟨_, _, rfl⟩, rfl⟩
  · exact ⟨Or.inl rfl, rfl⟩
  · exact ⟨Or.inl rfl, rfl⟩

/-! ### a dummy surface between equal media is transparent -/

theorem refract_same_index_ray (r : Ray ℝ) (nx ny nz n : ℝ) (hn0 : n ≠ 0)
    (hn : nx^2 + ny^2 + nz^2 = 1) (hd : r.L*nx + r.M*ny + r.N*nz ≠ 0) :
    r.refract nx ny nz n n = r :=
  refract_same r nx ny nz n hn0

/-- the dummy surface: an untilted plane with vertex anywhere, the same non-zero index on both sides,
refracting, no aperture, no coating (its `k1` is the extinction coefficient of that medium) -/
def IsDummy (d : RSurf ℝ) : Prop :=
  d.kind = .standard ∧ d.geom = .plane ∧ d.cs.rx = 0 ∧ d.cs.ry = 0 ∧ d.cs.rz = 0 ∧
    d.n1 = d.n2 ∧ d.n1 ≠ 0 ∧ d.refl = false ∧ d.aperture = none ∧ d.coating = none

noncomputable def dummyT (d : RSurf ℝ) (r : Ray ℝ) : ℝ := (d.cs.z - r.z) / r.N

/-- what the dummy surface does to one ray that reaches it going forward: it moves the ray onto
the plane — position, Beer–Lambert factor and `|t·n|` of that segment — and leaves the direction alone -/
theorem surfRay_dummy (d : RSurf ℝ) (w : ℝ) (hd : IsDummy d) (r : Ray ℝ) (hN : r.N ≠ 0)
    (ht : 0 ≤ dummyT d r) :
    surfRay d w r = advance r (dummyT d r) d.k1 w d.n1 := by
  obtain ⟨kind, ⟨x0, y0, z0, rx, ry, rz⟩, geom, n1, n2, k1, refl, ap, coat⟩ := d
  simp only [IsDummy] at hd
  obtain ⟨rfl, rfl, rfl, rfl, rfl, rfl, hn0, rfl, rfl, rfl⟩ := hd
  have hint : ∀ q : Ray ℝ,
      interact (⟨.standard, ⟨x0, y0, z0, 0, 0, 0⟩, .plane, n1, n1, k1, false, none, none⟩ : RSurf ℝ) q = q :=
    fun q => refract_same q 0 0 1 n1 hn0
  have hT : masked (-(r.z + -z0) / r.N) = (z0 - r.z) / r.N := by
    rw [neg_add, neg_neg, neg_add_eq_sub]
    exact masked_of_nonneg ht
  simp only [surfRay, surfStep_eq, localize_eq, globalize_eq, neg_zero, rotateX_zero, rotateY_zero, rotateZ_zero,
    dist1, clip, hint, planeDistance_eq, dummyT, translate_advance]
  rw [show (r.translate (-x0) (-y0) (-z0)).translate x0 y0 z0 = r by
    simp only [translate_eq, neg_add_cancel_right]]
  exact congrArg (advance r · k1 w n1) hT

/-- per-ray guard for the ray `r` that arrives at the dummy `d`, `S` being the surface after it:
the ray is not parallel to the dummy plane, reaches it going forward (`0 ≤ t`), and the dummy plane
lies before the intersection of the ray with `S` (`Cov.Ahead`, in the frame of `S`: for a plane
`t ≤ -z/N`; for a conic `Cov.RootsAhead`: `t ≤` the selected root of the quadratic, see there for
the case of a root behind the ray, whose masked value `inf` is a junk value over ℝ).
At the excluded points the code does something else: with `t < 0` (dummy plane behind the ray)
`Plane.distance` masks the distance to NaN and the ray is lost; with the dummy plane beyond `S` the
root towards `S` becomes negative and is masked to `inf`. -/
def DummyGuard (d S : RSurf ℝ) (r : Ray ℝ) : Prop :=
  r.N ≠ 0 ∧ 0 ≤ dummyT d r ∧ Ahead S.geom (S.cs.localize r) (dummyT d r)

theorem surfRay_after_dummy (d S : RSurf ℝ) (w : ℝ) (hd : IsDummy d) (hn : S.n1 = d.n1)
    (hk : S.k1 = d.k1) (r : Ray ℝ) (hg : DummyGuard d S r) :
    surfRay S w (surfRay d w r) = surfRay S w r := by
  obtain ⟨hN, ht, hA⟩ := hg
  rw [surfRay_dummy d w hd r hN ht, ← hn, ← hk]
  unfold surfRay
  rw [localize_advance]
  obtain ⟨h1, h2⟩ := dist1_advance S.geom (S.cs.localize r) (dummyT d r) S.k1 w S.n1 ht hA
  rw [h1, surfStep_eq, surfStep_eq, advance_add _ _ _ _ _ _ ht (sub_nonneg.mpr h2), add_sub_cancel]

/-- (a) the record at the dummy is the incoming batch moved onto the
dummy plane (same directions; position, absorption and `|t·n|` of that first part of the gap);
(b) the surface after the dummy produces the same records — position, direction, intensity and
accumulated path — as without the dummy: the gap is split, `|t₁n| + |t₂n| = |(t₁+t₂)n|`,
`e^{-αt₁}e^{-αt₂} = e^{-α(t₁+t₂)}`. -/
theorem dummy_then_surface (d S : RSurf ℝ) (w : ℝ) (hd : IsDummy d) (hn : S.n1 = d.n1) (hk : S.k1 = d.k1)
    (hkind : S.kind ≠ .object) (rays : List (Ray ℝ)) (hg : ∀ r ∈ rays, DummyGuard d S r) :
    traceSurf d w rays = rays.map (fun r => advance r (dummyT d r) d.k1 w d.n1) ∧
      traceSurf S w (traceSurf d w rays) = traceSurf S w rays := by
  have e1 : traceSurf d w rays = rays.map (surfRay d w) :=
    traceSurf_eq_map d w rays (by rw [hd.1]; decide) (Or.inl hd.2.1)
  refine ⟨e1.trans (List.map_congr_left fun r hr => surfRay_dummy d w hd r (hg r hr).1 (hg r hr).2.1), ?_⟩
  rcases rays with _ | ⟨r0, rs⟩
  · rw [e1]; rfl
  · have hS : Simple S.geom := simple_of_ahead _ _ _ (hg r0 List.mem_cons_self).2.2
    rw [e1, traceSurf_eq_map S w _ hkind hS, traceSurf_eq_map S w _ hkind hS, List.map_map]
    exact List.map_congr_left fun r hr => surfRay_after_dummy d S w hd hn hk r (hg r hr)

/-- Insert a dummy plane `d` (same medium on both sides, no aperture,
no coating, refracting, untilted, vertex anywhere) in front of surface `S` of a lens
`pre ++ S :: post` (`S` a plane or a standard conic, possibly the image surface).  If every ray that
leaves `pre` reaches the dummy plane going forward and before it reaches `S`, then deleting the
dummy's own record from the record list of `pre ++ d :: S :: post` gives exactly the record list of
`pre ++ S :: post`: no downstream position, direction, intensity or opd changes. -/
theorem dummy_surface_transparent (w : ℝ) (pre post : List (RSurf ℝ)) (d S : RSurf ℝ)
    (hd : IsDummy d) (hn : S.n1 = d.n1) (hk : S.k1 = d.k1) (hkind : S.kind ≠ .object)
    (rays : List (Ray ℝ)) (hg : ∀ r ∈ (traceLens w pre rays).getLastD rays, DummyGuard d S r) :
    (traceLens w (pre ++ d :: S :: post) rays).eraseIdx pre.length =
      traceLens w (pre ++ S :: post) rays := by
  rw [← finalRays_eq_getLastD] at hg
  rw [traceLens_append, traceLens_append]
  simp only [traceLens]
  rw [(dummy_then_surface d S w hd hn hk hkind _ hg).2,
    List.eraseIdx_append_of_length_le (by rw [traceLens_length]), traceLens_length, Nat.sub_self,
    List.eraseIdx_cons_zero]

/-! non-vacuity of `dummy_surface_transparent`: object surface, dummy plane at z = 3 in air, a sphere
R = 50 at z = 5 (air → glass), image plane; the ray starts at height 1 parallel to the axis. -/
noncomputable def exObject : RSurf ℝ :=
  { kind := .object, cs := ⟨0, 0, 0, 0, 0, 0⟩, geom := .plane, n1 := 1, n2 := 1,
    k1 := 0, refl := false, aperture := none, coating := none }
noncomputable def exDummy : RSurf ℝ :=
  { kind := .standard, cs := ⟨0, 0, 3, 0, 0, 0⟩, geom := .plane, n1 := 1, n2 := 1,
    k1 := 0, refl := false, aperture := none, coating := none }
noncomputable def exSphere : RSurf ℝ :=
  { kind := .standard, cs := ⟨0, 0, 5, 0, 0, 0⟩, geom := .standard 50 0, n1 := 1, n2 := 1.5,
    k1 := 0, refl := false, aperture := some (10, 0), coating := none }
noncomputable def exRay : Ray ℝ := ⟨1, 0, 0, 0, 0, 1, 1, 0⟩

example : IsDummy exDummy := by
  refine ⟨rfl, rfl, rfl, rfl, rfl, rfl, ?_, rfl, rfl, rfl⟩
  show (1:ℝ) ≠ 0
  norm_num

/-- the example ray in the frame of the surface behind the dummy (vertex at `z = 5`, no tilt), and its
distance to the dummy plane -/
theorem ex_frame : (⟨0, 0, 5, 0, 0, 0⟩ : Cs ℝ).localize exRay = ⟨1, 0, -5, 0, 0, 1, 1, 0⟩ ∧
    dummyT exDummy exRay = 3 := by
  constructor
  · simp only [localize_eq, exRay, neg_zero, rotateX_zero, rotateY_zero, rotateZ_zero, translate_eq]
    norm_num
  · unfold dummyT exDummy exRay
    norm_num

theorem exGuard : DummyGuard exDummy exSphere exRay := by
  have hloc : exSphere.cs.localize exRay = _ := ex_frame.1
  have ht := ex_frame.2
  refine ⟨?_, ?_, ?_⟩
  · show (1:ℝ) ≠ 0
    norm_num
  · rw [ht]; norm_num
  · rw [ht, hloc]
    show RootsAhead _ _ _ _ _ 3
    rw [conicABC_eq]
    simp only
    norm_num
    unfold RootsAhead
    right; left
    have hs : Real.sqrt 9996 ≤ 104 := by
      rw [Real.sqrt_le_iff]; norm_num
    have hs0 : 0 ≤ Real.sqrt 9996 := Real.sqrt_nonneg _
    refine ⟨by norm_num, ?_, ?_⟩ <;> norm_num <;> linarith

example (w : ℝ) :
    (traceLens w ([exObject] ++ exDummy :: exSphere :: [exImage]) [exRay]).eraseIdx 1 =
      traceLens w ([exObject] ++ exSphere :: [exImage]) [exRay] := by
  apply dummy_surface_transparent w [exObject] [exImage] exDummy exSphere
  · refine ⟨rfl, rfl, rfl, rfl, rfl, rfl, ?_, rfl, rfl, rfl⟩
    show (1:ℝ) ≠ 0
    norm_num
  · rfl
  · rfl
  · show RKind.standard ≠ RKind.object
    decide
  · intro r hr
    have : (traceLens w [exObject] [exRay]).getLastD [exRay] = [exRay] := by
      simp only [traceLens, traceSurf_object exObject w [exRay] rfl, List.getLastD_cons, List.getLastD_nil]
    rw [this, List.mem_singleton] at hr
    rw [hr]
    exact exGuard

/-- non-vacuity of the "one root behind the ray" case: a concave sphere R = -50 at z = 5 -/
noncomputable def exConcave : RSurf ℝ :=
  { kind := .standard, cs := ⟨0, 0, 5, 0, 0, 0⟩, geom := .standard (-50) 0, n1 := 1, n2 := 1.5,
    k1 := 0, refl := false, aperture := none, coating := none }

theorem exGuardConcave : DummyGuard exDummy exConcave exRay := by
  have hloc : exConcave.cs.localize exRay = _ := ex_frame.1
  have ht := ex_frame.2
  refine ⟨?_, ?_, ?_⟩
  · show (1:ℝ) ≠ 0
    norm_num
  · rw [ht]; norm_num
  · rw [ht, hloc]
    show RootsAhead _ _ _ _ _ 3
    rw [conicABC_eq]
    simp only
    norm_num
    unfold RootsAhead
    right; right; left
    have hs : Real.sqrt 9996 ≤ 100 := by
      rw [Real.sqrt_le_iff]; norm_num
    have hs1 : 96 ≤ Real.sqrt 9996 := by
      apply Real.le_sqrt_of_sq_le; norm_num
    refine ⟨by norm_num, ?_, ?_, ?_, ?_⟩
    · norm_num; linarith
    · norm_num; linarith
    · norm_num
      rw [abs_le]; constructor <;> linarith
    · norm_num
      rw [abs_le]; constructor <;> linarith

/-! ### mirror in y (about the x–z plane): the same chain with the roles of x and y exchanged -/

/-- mirror image of a ray in the plane y = 0 -/
def mirY (r : Ray ℝ) : Ray ℝ := { r with y := -r.y, M := -r.M }
def mirPY (p : ℝ × ℝ × ℝ) : ℝ × ℝ × ℝ := (p.1, -p.2.1, p.2.2)

theorem conicABC_mirY (R k : ℝ) (r : Ray ℝ) : conicABC R k (mirY r) = conicABC R k r := by
  simp only [conicABC_eq, mirY, mul_neg, neg_mul, neg_neg]

theorem stdDistance_mirY (R k : ℝ) (r : Ray ℝ) : stdDistance R k (mirY r) = stdDistance R k r := by
  rw [stdDistance_eq, conicABC_mirY]
  rfl

theorem planeDistance_mirY (r : Ray ℝ) : planeDistance (mirY r) = planeDistance r := rfl

theorem propagate_mirY (r : Ray ℝ) (t k w : ℝ) : (mirY r).propagate t k w = mirY (r.propagate t k w) := by
  simp only [propagate_eq, mirY, mul_neg, ← neg_add]

theorem conicSlope_mirY (R k x y : ℝ) :
    conicSlope R k x (-y) = ((conicSlope R k x y).1, -(conicSlope R k x y).2) := by
  simp only [conicSlope_eq, neg_mul_neg, neg_div]

theorem stdNormal_mirY (R k x y : ℝ) :
    stdNormal R k x (-y) = ((stdNormal R k x y).1, -(stdNormal R k x y).2.1, (stdNormal R k x y).2.2) := by
  simp only [stdNormal_eq, conicSlope_mirY, neg_mul_neg, neg_div]

theorem refract_mirY (r : Ray ℝ) (nx ny nz n1 n2 : ℝ) :
    (mirY r).refract nx (-ny) nz n1 n2 = mirY (r.refract nx ny nz n1 n2) := by
  simp only [refract_eq, mirY, mul_neg, neg_mul, neg_neg, ← neg_add]

theorem reflect_mirY (r : Ray ℝ) (nx ny nz : ℝ) :
    (mirY r).reflect nx (-ny) nz = mirY (r.reflect nx ny nz) := by
  simp only [reflect_eq, mirY, mul_neg, neg_mul, neg_neg, ← neg_sub']

/-- `localize` commutes with the y-mirror when the frame has no y-decentre and no tilt about x, z
(any tilt `ry` about the y-axis is allowed) -/
theorem localize_mirY (c : Cs ℝ) (hy : c.y = 0) (hrx : c.rx = 0) (hrz : c.rz = 0) (r : Ray ℝ) :
    c.localize (mirY r) = mirY (c.localize r) := by
  simp only [localize_eq, hy, hrx, hrz, neg_zero, rotateX_zero, rotateZ_zero, translate_eq, rotateY_eq, mirY,
    add_zero]

theorem globalize_mirY (c : Cs ℝ) (hy : c.y = 0) (hrx : c.rx = 0) (hrz : c.rz = 0) (r : Ray ℝ) :
    c.globalize (mirY r) = mirY (c.globalize r) := by
  simp only [globalize_eq, hy, hrx, hrz, rotateX_zero, rotateZ_zero, translate_eq, rotateY_eq, mirY, add_zero]

theorem clip_mirY (ap : Option (ℝ × ℝ)) (r : Ray ℝ) : clip ap (mirY r) = mirY (clip ap r) := by
  rcases ap with _ | ⟨rmax, rmin⟩
  · rfl
  · simp only [clip_some, mirY, neg_mul_neg]
    split_ifs <;> rfl

theorem sphereGuess_mirY (R : ℝ) (r : Ray ℝ) : sphereGuess R (mirY r) = mirPY (sphereGuess R r) := by
  simp only [sphereGuess, mirY, mirPY]
  num_real
  simp only [mul_neg, neg_mul, neg_neg, ← neg_add]

theorem nrStep_mirY (g : Geom ℝ) (hsag : ∀ x y, g.nrSag x (-y) = g.nrSag x y) (p : ℝ × ℝ × ℝ) (r : Ray ℝ) :
    nrStep g (mirPY p) (mirY r) = (mirPY (nrStep g p r).1, (nrStep g p r).2) := by
  simp only [nrStep, mirPY, mirY, hsag, Prod.mk.injEq, and_true, true_and]
  ring

theorem nrSweep_mirY (g : Geom ℝ) (hsag : ∀ x y, g.nrSag x (-y) = g.nrSag x y)
    (rays : List (Ray ℝ)) (pts : List (ℝ × ℝ × ℝ)) :
    nrSweep g (rays.map mirY) (pts.map mirPY) =
      ((nrSweep g rays pts).1.map mirPY, (nrSweep g rays pts).2) :=
  nrSweep_equivariant g mirY mirPY (nrStep_mirY g hsag) rays pts

theorem nrLoop_mirY (g : Geom ℝ) (hsag : ∀ x y, g.nrSag x (-y) = g.nrSag x y)
    (rays : List (Ray ℝ)) (tol : ℝ) (n : ℕ) (pts : List (ℝ × ℝ × ℝ)) :
    nrLoop g (rays.map mirY) tol n (pts.map mirPY) = (nrLoop g rays tol n pts).map mirPY :=
  nrLoop_equivariant g mirY mirPY (nrStep_mirY g hsag) rays tol n pts

theorem nrDistance_mirY (g : Geom ℝ) (hsag : ∀ x y, g.nrSag x (-y) = g.nrSag x y)
    (R tol : ℝ) (mi : ℕ) (rays : List (Ray ℝ)) :
    nrDistance g R tol mi (rays.map mirY) = nrDistance g R tol mi rays :=
  nrDistance_equivariant g mirY mirPY (nrStep_mirY g hsag) R tol mi (sphereGuess_mirY R)
    (fun p r => by simp only [mirPY, mirY, neg_sub_neg, ← neg_sub p.2.1, neg_mul_neg]) rays

theorem conicSag_mirY (R k x y : ℝ) : conicSag R k x (-y) = conicSag R k x y := by
  simp only [conicSag_eq, neg_mul_neg]

theorem asphSag_mirY (R k : ℝ) (c : List ℝ) (x y : ℝ) : asphSag R k c x (-y) = asphSag R k c x y := by
  unfold asphSag
  rw [conicSag_mirY]
  num_real
  simp only [neg_mul_neg]

theorem nrNormalize_neg2 (a b : ℝ) :
    nrNormalize a (-b) = ((nrNormalize a b).1, -(nrNormalize a b).2.1, (nrNormalize a b).2.2) := by
  simp only [nrNormalize_eq, neg_mul_neg, neg_div]

theorem asphFold_mirY (x y r2 : ℝ) (l : List (ℝ × ℕ)) (a b : ℝ) :
    l.foldl (fun (d : ℝ × ℝ) (ci : ℝ × ℕ) =>
      (d.1 + 2 * (Num.ofNat (ci.2 + 1) : ℝ) * x * ci.1 * ipow r2 ci.2,
       d.2 + 2 * (Num.ofNat (ci.2 + 1) : ℝ) * (-y) * ci.1 * ipow r2 ci.2)) (a, -b) =
    ((l.foldl (fun (d : ℝ × ℝ) (ci : ℝ × ℕ) =>
      (d.1 + 2 * (Num.ofNat (ci.2 + 1) : ℝ) * x * ci.1 * ipow r2 ci.2,
       d.2 + 2 * (Num.ofNat (ci.2 + 1) : ℝ) * y * ci.1 * ipow r2 ci.2)) (a, b)).1,
     -(l.foldl (fun (d : ℝ × ℝ) (ci : ℝ × ℕ) =>
      (d.1 + 2 * (Num.ofNat (ci.2 + 1) : ℝ) * x * ci.1 * ipow r2 ci.2,
       d.2 + 2 * (Num.ofNat (ci.2 + 1) : ℝ) * y * ci.1 * ipow r2 ci.2)) (a, b)).2) := by
  induction l generalizing a b with
  | nil => rfl
  | cons ci l ih =>
    rw [List.foldl_cons, List.foldl_cons, mul_neg, neg_mul, neg_mul, ← neg_add, ih]

theorem asphNormal_mirY (R k : ℝ) (c : List ℝ) (x y : ℝ) :
    asphNormal R k c x (-y) =
      ((asphNormal R k c x y).1, -(asphNormal R k c x y).2.1, (asphNormal R k c x y).2.2) := by
  simp only [asphNormal, conicSlope_mirY]
  num_real
  rw [neg_mul_neg, asphFold_mirY, nrNormalize_neg2]

def MirSymGeomY (g : Geom ℝ) : Prop :=
  (∀ rays : List (Ray ℝ), g.distance (rays.map mirY) = g.distance rays) ∧
  (∀ (r : Ray ℝ) (nx ny nz : ℝ), g.normal r = (nx, ny, nz) → g.normal (mirY r) = (nx, -ny, nz))

theorem mirSymY_plane : MirSymGeomY (.plane : Geom ℝ) := by
  refine ⟨fun rays => List.map_map, fun r nx ny nz h => ?_⟩
  cases h
  exact congrArg (fun v => (_, v, _)) neg_zero.symm

theorem mirSymY_standard (R k : ℝ) : MirSymGeomY (.standard R k : Geom ℝ) := by
  refine ⟨fun rays => ?_, fun r nx ny nz h => ?_⟩
  · simp only [Geom.distance, List.map_map]
    exact List.map_congr_left fun r _ => stdDistance_mirY R k r
  · exact (stdNormal_mirY R k r.x r.y).trans (congrArg (fun n : ℝ × ℝ × ℝ => (n.1, -n.2.1, n.2.2)) h)

theorem mirSymY_evenAsphere (R k tol : ℝ) (mi : ℕ) (c : List ℝ) :
    MirSymGeomY (.evenAsphere R k tol mi c : Geom ℝ) := by
  refine ⟨fun rays => ?_, fun r nx ny nz h => ?_⟩
  · exact nrDistance_mirY (.evenAsphere R k tol mi c) (asphSag_mirY R k c) R tol mi rays
  · exact (asphNormal_mirY R k c r.x r.y).trans (congrArg (fun n : ℝ × ℝ × ℝ => (n.1, -n.2.1, n.2.2)) h)

theorem interact_mirY_sym (s : RSurf ℝ) (hg : MirSymGeomY s.geom) (r : Ray ℝ) :
    interact s (mirY r) = mirY (interact s r) :=
  interact_equivariant mirY s s r _ _ rfl rfl (hg.2 r _ _ _ rfl) (refract_mirY r _ _ _ _ _)
    (reflect_mirY r _ _ _) (fun _ _ => rfl)

theorem surfStep_mirY_sym (s : RSurf ℝ) (w : ℝ) (hy : s.cs.y = 0) (hrx : s.cs.rx = 0) (hrz : s.cs.rz = 0)
    (hg : MirSymGeomY s.geom) (r : Ray ℝ) (t : ℝ) :
    surfStep s w (mirY r) t = mirY (surfStep s w r t) :=
  surfStep_equivariant mirY s s w w t t r (by rw [advance, propagate_mirY]; rfl) (clip_mirY _)
    (interact_mirY_sym s hg) (globalize_mirY _ hy hrx hrz)

theorem traceSurf_mirY_sym (s : RSurf ℝ) (w : ℝ) (hy : s.cs.y = 0) (hrx : s.cs.rx = 0) (hrz : s.cs.rz = 0)
    (hg : MirSymGeomY s.geom) (rays : List (Ray ℝ)) :
    traceSurf s w (rays.map mirY) = (traceSurf s w rays).map mirY :=
  traceSurf_equivariant mirY id s s w w rfl (localize_mirY _ hy hrx hrz)
    (fun rays => by rw [hg.1, List.map_id]) (surfStep_mirY_sym s w hy hrx hrz hg) rays

/-- One surface, mirror in y: no decentre in y, no tilt about x and z (`ry` arbitrary);
plane, standard conic or even asphere; any radial aperture, coating, kind. -/
theorem traceSurf_mirY (s : RSurf ℝ) (w : ℝ) (hy : s.cs.y = 0) (hrx : s.cs.rx = 0) (hrz : s.cs.rz = 0)
    (hg : s.geom = .plane ∨ (∃ R k, s.geom = .standard R k) ∨
      ∃ R k tol mi c, s.geom = .evenAsphere R k tol mi c) (rays : List (Ray ℝ)) :
    traceSurf s w (rays.map mirY) = (traceSurf s w rays).map mirY := by
  apply traceSurf_mirY_sym s w hy hrx hrz
  rcases hg with h | ⟨R, k, h⟩ | ⟨R, k, tol, mi, c, h⟩ <;> rw [h]
  · exact mirSymY_plane
  · exact mirSymY_standard R k
  · exact mirSymY_evenAsphere R k tol mi c

theorem traceLens_mirY (w : ℝ) (ss : List (RSurf ℝ))
    (h : ∀ s ∈ ss, s.cs.y = 0 ∧ s.cs.rx = 0 ∧ s.cs.rz = 0 ∧
      (s.geom = .plane ∨ (∃ R k, s.geom = .standard R k) ∨
        ∃ R k tol mi c, s.geom = .evenAsphere R k tol mi c)) (rays : List (Ray ℝ)) :
    traceLens w ss (rays.map mirY) = (traceLens w ss rays).map (List.map mirY) := by
  apply traceLens_equivariant mirY w w ss ss
  rw [List.forall₂_same]
  intro s hs rays
  obtain ⟨hy, hrx, hrz, hg⟩ := h s hs
  exact traceSurf_mirY s w hy hrx hrz hg rays

noncomputable def exAsphereY : RSurf ℝ :=
  { kind := .standard, cs := ⟨0.4, 0, 1, 0, 0.07, 0⟩, geom := .evenAsphere 30 (-1) 1e-10 100 [1e-4, -2e-7],
    n1 := 1, n2 := 1.5, k1 := 0, refl := false, aperture := some (8, 0), coating := none }

example (w : ℝ) (rays : List (Ray ℝ)) :
    traceLens w [exAsphereY, exSphere, exImage] (rays.map mirY) =
      (traceLens w [exAsphereY, exSphere, exImage] rays).map (List.map mirY) := by
  apply traceLens_mirY
  intro s hs
  simp only [List.mem_cons, List.not_mem_nil, or_false] at hs
  rcases hs with rfl | rfl | rfl
  · exact ⟨rfl, rfl, rfl, Or.inr (Or.inr ⟨_, _, _, _, _, rfl⟩)⟩
  · exact ⟨rfl, rfl, rfl, Or.inr (Or.inl ⟨_, _, rfl⟩)⟩
  · exact ⟨rfl, rfl, rfl, Or.inl rfl⟩
