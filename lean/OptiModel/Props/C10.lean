import OptiModel.Model.Zernike
import OptiModel.Gen.ZernikeTables
import OptiModel.Proofs.ZernikeIdx
import OptiModel.Proofs.ZernikeTab
import OptiModel.Proofs.Zernike
import OptiModel.Proofs.ZernikeFit
/-!
# C10  Zernike families are correctly indexed, normalised, and recovered by fitting

`Gen.Zernike.standardTable / fringeTable / nollTable` are the `.indices` lists as produced by the
code under verification (regenerated from `/repo` by `gen/gen_zernike_tables.py` on every run of
`./check C10`).  The index theorems below are statements about those literals, re-checked by the
kernel (`decide +kernel`) after every regeneration; a change of the Python index generation that
alters the lists breaks them.

Model: `Model/Zernike.lean`; helper lemmas: `Proofs/ZernikeIdx.lean` (discrete), `Proofs/ZernikeTab.lean`
(exact tables), `Proofs/Zernike.lean` (integrals), `Proofs/ZernikeFit.lean` (linearity, least squares).

Not formalised (named partial in the claim):
* the polar change of variables from the iterated integral `∫₀^{2π}∫₀¹ … r dr dφ` of
  `orthonormal_polar` to the area integral over the unit disk;
* `R_n^m(1) = 1` and radial orthogonality for *all* n (general binomial identities): proved here for
  every valid index with `n ≤ 19`, which contains every index the three families can produce;
* that a least-squares minimiser satisfies the normal equations (converse of `lsq_normal_is_min`) and
  that scipy's `least_squares` returns the minimiser (checked numerically by the harness);
* the last clause of the property (the Zernike decomposition of a lens wavefront reproduces the sampled
  OPD up to the truncation residual): no theorem, numerical only (`ZernikeOPD` on the bundled lenses).

Sections 1–3 are statements about the model and the regenerated tables.  In section 4 the theorems
`lsq_normal_is_min`, `fit_recovers`, `fit_recovers_min`, `fit_spec_linear` are linear algebra about an
*arbitrary* matrix; section 5 instantiates them on the model's `poly` with the first `N` indices
(`fit_recovers_model`, `fit_linear_model`) and shows the full-rank hypothesis satisfiable by a genuine
3-term design matrix (`tilt_design_injective`).  "Sufficiently many well-spread points" of the property
enters only as that rank hypothesis; no theorem says which point sets have full rank.
-/
namespace C10
open Model.Zern Gen.Zernike

/-! ## 1. Index tables -/

/-! ### the model reproduces the code's lists (kernel-checked correspondence of `_generate_indices`) -/

theorem standard_table_model : standardTable = standardIndices := by decide +kernel
theorem fringe_table_model : fringeTable = fringeIndices := by decide +kernel
theorem noll_table_model : nollTable = nollIndices := by decide +kernel

/-! ### general facts about the published single-index rules -/

/-- OSA/ANSI `j = (n(n+2)+m)/2` is injective on valid `(n,m)` -/
theorem osa_rule_injective {n m n' m' : Int} (h : validNM n m) (h' : validNM n' m')
    (e : osaIndex n m = osaIndex n' m') : n = n' ∧ m = m' := by
  have r := ZernikeIdx.osa_row h
  have r' := ZernikeIdx.osa_row h'
  have hn : n = n' := ZernikeIdx.row_unique (g := fun n => n * (n + 1) / 2) ZernikeIdx.tri_mono h.1 h'.1
    r.1 r.2.1 (e ▸ r'.1) (e ▸ r'.2.1)
  subst hn
  have := h.2.2.2
  have := h'.2.2.2
  exact ⟨rfl, by omega⟩

/-- Noll's index is injective on valid `(n,m)` -/
theorem noll_rule_injective {n m n' m' : Int} (h : validNM n m) (h' : validNM n' m')
    (e : nollNumber n m = nollNumber n' m') : n = n' ∧ m = m' := by
  have r := ZernikeIdx.noll_row h
  have r' := ZernikeIdx.noll_row h'
  have hn : n = n' :=
    ZernikeIdx.row_unique (g := fun n => n * (n + 1) / 2) ZernikeIdx.tri_mono h.1 h'.1 r.1 r.2 (e ▸ r'.1) (e ▸ r'.2)
  subst hn
  obtain ⟨-, -, -, h3⟩ := h
  obtain ⟨-, -, -, h3'⟩ := h'
  unfold nollNumber at e
  clear r r'
  generalize n * (n + 1) / 2 = t at e
  refine ⟨rfl, ?_⟩
  split_ifs at e <;> omega

/-- the Fringe number is injective on valid `(n,m)` -/
theorem fringe_rule_injective {n m n' m' : Int} (h : validNM n m) (h' : validNM n' m')
    (e : fringeNumber n m = fringeNumber n' m') : n = n' ∧ m = m' := by
  obtain ⟨s, s0, hs, -, f, lo, hi⟩ := ZernikeIdx.fringe_row h
  obtain ⟨s', s0', hs', -, f', lo', hi'⟩ := ZernikeIdx.fringe_row h'
  obtain rfl : s = s' :=
    ZernikeIdx.row_unique (g := fun s => s ^ 2) ZernikeIdx.sq_mono s0 s0' lo hi (e ▸ lo') (e ▸ hi')
  rw [f, f'] at e
  clear lo hi lo' hi' f f'
  generalize (1 + s) ^ 2 = t at e
  split_ifs at e <;> omega

/-- OSA index below 120 ⇔ `n < 15` (the code's `range(15)`) -/
theorem osa_first_120 {n m : Int} (h : validNM n m) : osaIndex n m < 120 ↔ n < 15 :=
  have r := ZernikeIdx.osa_row h
  Int.lt_iff_add_one_le.trans (ZernikeIdx.tri_row_le_120 h.1 r.1 r.2.1)

/-- Noll index at most 120 ⇔ `n < 15` (the code's `range(15)`) -/
theorem noll_first_120 {n m : Int} (h : validNM n m) : nollNumber n m ≤ 120 ↔ n < 15 :=
  have r := ZernikeIdx.noll_row h
  ZernikeIdx.tri_row_le_120 h.1 r.1 r.2

/-- every pair with Fringe number ≤ 120 has `n < 20`: the code's `range(20)` loses nothing -/
theorem fringe_range20_sufficient {n m : Int} (h : validNM n m) (hj : fringeNumber n m ≤ 120) : n < 20 := by
  obtain ⟨s, -, hs, -, f, lo, -⟩ := ZernikeIdx.fringe_row h
  obtain ⟨h0, h1, h2, h3⟩ := h
  by_contra hc
  -- `s ≥ 10`; `s ≥ 11` would give a number above `11²`, and `s = 10` forces `(n, m) = (20, 0)`, number 121
  obtain rfl : s = 10 := by
    by_contra hne
    have := ZernikeIdx.sq_mono (a := 11) (by norm_num) (show 11 ≤ s by omega)
    omega
  rw [f] at hj
  split_ifs at hj <;> omega

/-- the code's float expression for the Fringe number equals the published rule on valid indices -/
theorem fringe_code_number {n m : Int} (h : validNM n m) : fringeNumberCode n m = fringeNumber n m := by
  obtain ⟨s, -, hs, hms, f, -, -⟩ := ZernikeIdx.fringe_row h
  have hi : 0 ≤ 1 - isign m ∧ (1 - isign m) / 2 = if m < 0 then 1 else 0 := by
    unfold isign; split_ifs <;> omega
  unfold fringeNumberCode
  -- four times the float value is `4(1+s)² − 8|m| + 2(1 − sign m)`, and `(1+s)² ≥ 2s ≥ 2|m|`
  rw [f, show 2 + n + (m.natAbs:Int) = 2 * (1 + s) by omega,
    show (2 * (1 + s)) ^ 2 = 4 * (1 + s) ^ 2 by ring, ← hi.2]
  have hp : (1 + s) ^ 2 = s ^ 2 + 2 * s + 1 := by ring
  have := sq_nonneg s
  generalize (1 + s) ^ 2 = q at *
  generalize 1 - isign m = c at *
  rw [Int.tdiv_eq_ediv_of_nonneg (by omega)]; omega

/-- the hypothesis `validNM` of the theorems above is met, also with negative `m` -/
example : validNM 4 (-2) := by decide

/-- the code's `if/elif` chain for Noll's `c` equals the published rule, for all integers -/
theorem noll_code_number (n m : Int) : nollNumberCode n m = nollNumber n m := by
  unfold nollNumberCode nollNumber
  rw [ZernikeIdx.nollC_eq]

/-- the four branches of the chain are exhaustive (no stale `c`) -/
theorem noll_branches_exhaustive (n m : Int) :
    (0 < m ∧ n % 4 ≤ 1) ∨ (m < 0 ∧ 2 ≤ n % 4) ∨ (0 ≤ m ∧ 2 ≤ n % 4) ∨ (m ≤ 0 ∧ n % 4 ≤ 1) :=
  ZernikeIdx.noll_branches_exhaustive n m

/-! ### Standard (OSA/ANSI): the k-th entry (k = 0 … 119) is the valid pair with OSA index k -/

theorem standard_indices :
    standardTable.length = 120 ∧ (∀ p ∈ standardTable, validNM p.1 p.2) ∧
    standardTable.map (fun p => osaIndex p.1 p.2) = (List.range 120).map Int.ofNat := by decide +kernel

/-- the same list, enumerated by inverting the rule -/
theorem standard_indices_enumerated : standardTable = (List.range 120).map osaRule := by decide +kernel

theorem standard_indices_nodup : standardTable.Nodup :=
  ZernikeIdx.nodup_of_numbers (fun _ _ => Int.ofNat.inj) standard_indices.2.2

/-- exactly the first 120: every valid pair with OSA index < 120 is in the list -/
theorem standard_indices_complete {n m : Int} (h : validNM n m) (hj : osaIndex n m < 120) :
    (n, m) ∈ standardTable := by
  have r := (ZernikeIdx.osa_row h).1
  have := ZernikeIdx.tri_mono (a := 0) le_rfl h.1
  exact ZernikeIdx.mem_of_number (a := 0) osa_rule_injective standard_indices.2.1 standard_indices.2.2 h
    (by omega) hj

/-- `standard_indices_complete` with bounded quantifiers: `n < 15`, and `m = b − 14` runs through `−14 … 14` -/
theorem standard_complete_fin : ∀ n : Nat, n < 15 → ∀ b : Nat, b < 29 →
    validNM (n:Int) ((b:Int) - 14) → ((n:Int), (b:Int) - 14) ∈ standardTable :=
  fun _ hn _ _ h => standard_indices_complete h ((osa_first_120 h).mpr (by omega))

/-! ### Noll: the k-th entry (k = 0 … 119) is the valid pair with Noll index k+1 -/

theorem noll_indices :
    nollTable.length = 120 ∧ (∀ p ∈ nollTable, validNM p.1 p.2) ∧
    nollTable.map (fun p => nollNumber p.1 p.2) = (List.range 120).map (fun k => Int.ofNat (k + 1)) := by
  decide +kernel

/-- the same list, enumerated by Noll's rule as published (row n, |m| ascending, even j ↔ cosine) -/
theorem noll_indices_enumerated : nollTable = (List.range 120).map (fun k => nollRule (k + 1)) := by
  decide +kernel

theorem noll_indices_nodup : nollTable.Nodup :=
  ZernikeIdx.nodup_of_numbers (fun _ _ h => Nat.succ.inj (Int.ofNat.inj h)) noll_indices.2.2

theorem noll_indices_complete {n m : Int} (h : validNM n m) (hj : nollNumber n m ≤ 120) :
    (n, m) ∈ nollTable := by
  have r := (ZernikeIdx.noll_row h).1
  have := ZernikeIdx.tri_mono (a := 0) le_rfl h.1
  exact ZernikeIdx.mem_of_number (a := 1) noll_rule_injective noll_indices.2.1 noll_indices.2.2 h
    (by omega) (by omega)

/-- `noll_indices_complete` with bounded quantifiers: `n < 15`, and `m = b − 14` runs through `−14 … 14` -/
theorem noll_complete_fin : ∀ n : Nat, n < 15 → ∀ b : Nat, b < 29 →
    validNM (n:Int) ((b:Int) - 14) → ((n:Int), (b:Int) - 14) ∈ nollTable :=
  fun _ hn _ _ h => noll_indices_complete h ((noll_first_120 h).mpr (by omega))

/-! ### Fringe: the k-th entry (k = 0 … 119) is the valid pair with Fringe number k+1 -/

theorem fringe_indices :
    fringeTable.length = 120 ∧ (∀ p ∈ fringeTable, validNM p.1 p.2) ∧
    fringeTable.map (fun p => fringeNumber p.1 p.2) = (List.range 120).map (fun k => Int.ofNat (k + 1)) := by
  decide +kernel

theorem fringe_indices_enumerated : fringeTable = (List.range 120).map (fun k => fringeRule (k + 1)) := by
  decide +kernel

theorem fringe_indices_nodup : fringeTable.Nodup :=
  ZernikeIdx.nodup_of_numbers (fun _ _ h => Nat.succ.inj (Int.ofNat.inj h)) fringe_indices.2.2

theorem fringe_indices_complete {n m : Int} (h : validNM n m) (hj : fringeNumber n m ≤ 120) :
    (n, m) ∈ fringeTable := by
  obtain ⟨s, -, -, -, -, lo, -⟩ := ZernikeIdx.fringe_row h
  have := sq_nonneg s
  exact ZernikeIdx.mem_of_number (a := 1) fringe_rule_injective fringe_indices.2.1 fringe_indices.2.2 h
    (by omega) (by omega)

/-- `fringe_indices_complete` with bounded quantifiers: `n < 20`, and `m = b − 19` runs through `−19 … 19` -/
theorem fringe_complete_fin : ∀ n : Nat, n < 20 → ∀ b : Nat, b < 39 →
    (validNM (n:Int) ((b:Int) - 19) ∧ fringeNumber (n:Int) ((b:Int) - 19) ≤ 120) →
    ((n:Int), (b:Int) - 19) ∈ fringeTable :=
  fun _ _ _ _ h => fringe_indices_complete h.1 h.2

/-- every index any family can produce is valid with `n ≤ 19` (the range of the radial theorems) -/
theorem tables_supported : ∀ p ∈ standardTable ++ nollTable ++ fringeTable, validNM p.1 p.2 ∧ p.1 ≤ 19 := by
  decide +kernel

/-! ## 2. Radial polynomials -/

/-- over ℝ the model's `_radial_term` is the polynomial given by the rational coefficient list -/
theorem radial_is_polynomial (n m : Int) (r : ℝ) :
    radialTerm n m r = ZernikeR.evalR (radialCoeffs n m) r := ZernikeR.radialTerm_real n m r

/-- the code's float division `a / b` is exact: the coefficient is an integer below 2^53 (n ≤ 19) -/
theorem radial_coefficients_integral : ∀ m : Nat, m < 20 → ∀ n : Nat, n < 20 → (m ≤ n ∧ (n - m) % 2 = 0) →
    ∀ k : Nat, k < sMax n m → (coeffFrac n m k).2 ∣ (coeffFrac n m k).1 ∧
      (coeffFrac n m k).1 / (coeffFrac n m k).2 < 2^53 := ZernikeTab.coeff_integral_table

/-- `R_n^m(1) = 1` for every valid index with n ≤ 19 -/
theorem radial_at_one {n m : Int} (h : validNM n m) (hn : n ≤ 19) : radialTerm n m (1:ℝ) = 1 :=
  ZernikeR.radial_at_one h hn

/-- unit radial value at the pupil edge for every polynomial of every family -/
theorem radial_at_one_all_families :
    ∀ p ∈ standardTable ++ nollTable ++ fringeTable, radialTerm p.1 p.2 (1:ℝ) = 1 := by
  intro p hp
  obtain ⟨hv, hn⟩ := tables_supported p hp
  exact radial_at_one hv hn

/-- the coefficient-list inner product *is* the weighted integral (through Mathlib's `integral_pow`) -/
theorem innerR_is_integral (p q : List (Nat × ℚ)) :
    ∫ r in (0:ℝ)..1, ZernikeR.evalR p r * ZernikeR.evalR q r * r = ((innerR p q : ℚ) : ℝ) :=
  ZernikeR.integral_evalR p q

/-- `∫₀¹ R_n^m R_n'^m r dr = δ_{nn'}/(2n+2)` for all valid indices with n, n' ≤ 19 -/
theorem radial_orthogonality {n n' m : Int} (h : validNM n m) (h' : validNM n' m) (hn : n ≤ 19) (hn' : n' ≤ 19) :
    ∫ r in (0:ℝ)..1, radialTerm n m r * radialTerm n' m r * r =
      if n = n' then 1 / (2 * (n:ℝ) + 2) else 0 := ZernikeR.radial_orthogonality h h' hn hn'

example : validNM 6 2 ∧ validNM 4 2 ∧ (6:Int) ≤ 19 := by decide

/-! ## 3. Azimuthal terms, norm constants, orthonormality -/

/-- `∫₀^{2π} A_m A_m' dφ = δ_{mm'} · (2π if m = 0 else π)` where `A_m = cos mφ` (m ≥ 0), `sin mφ` (m < 0) -/
theorem azimuthal_orthogonality (m m' : Int) :
    ∫ φ in (0:ℝ)..2*Real.pi, azimuthalTerm m φ * azimuthalTerm m' φ =
      if m = m' then (if m = 0 then 2*Real.pi else Real.pi) else 0 := ZernikeR.azimuthal_orthogonality m m'

/-- Standard: `N² · 1/(2n+2) · (2π or π) = π` -/
theorem norm_constants_standard {n : Int} (m : Int) (hn : 0 ≤ n) :
    (normConstant .standard n m : ℝ)^2 * (1 / (2 * (n:ℝ) + 2)) * (if m = 0 then 2*Real.pi else Real.pi) = Real.pi :=
  ZernikeR.norm_constants (Or.inl rfl) m hn

/-- Noll: `N² · 1/(2n+2) · (2π or π) = π` -/
theorem norm_constants_noll {n : Int} (m : Int) (hn : 0 ≤ n) :
    (normConstant .noll n m : ℝ)^2 * (1 / (2 * (n:ℝ) + 2)) * (if m = 0 then 2*Real.pi else Real.pi) = Real.pi :=
  ZernikeR.norm_constants (Or.inr rfl) m hn

/-- Fringe polynomials carry no normalisation -/
theorem norm_constants_fringe (n m : Int) : (normConstant .fringe n m : ℝ) = 1 := ZernikeR.norm_fringe n m

/-- the polar iterated integral of a product of two terms separates into norms × radial × azimuthal -/
theorem terms_separate (f : Family) (n m n' m' : Int) :
    ∫ φ in (0:ℝ)..2*Real.pi, ∫ r in (0:ℝ)..1, getTerm f 1 n m r φ * getTerm f 1 n' m' r φ * r =
      (normConstant f n m * normConstant f n' m') *
      (∫ r in (0:ℝ)..1, radialTerm n m r * radialTerm n' m' r * r) *
      (∫ φ in (0:ℝ)..2*Real.pi, azimuthalTerm m φ * azimuthalTerm m' φ) := by
  have key : ∀ φ : ℝ, ∫ r in (0:ℝ)..1, getTerm f 1 n m r φ * getTerm f 1 n' m' r φ * r =
      ((normConstant f n m * normConstant f n' m') *
        (∫ r in (0:ℝ)..1, radialTerm n m r * radialTerm n' m' r * r)) * (azimuthalTerm m φ * azimuthalTerm m' φ) := by
    intro φ
    rw [← intervalIntegral.integral_const_mul, ← intervalIntegral.integral_mul_const]
    congr 1; funext r
    rw [ZernikeR.getTerm_real, ZernikeR.getTerm_real]; ring
  simp_rw [key]
  rw [intervalIntegral.integral_const_mul]

/-- Orthonormality of the Standard and Noll polynomials over the unit disk, in polar form:
`∫₀^{2π} ∫₀¹ Z_n^m Z_n'^m' r dr dφ = π · δ` (i.e. `(1/π)∫∫ = δ`), for all valid indices with n, n' ≤ 19. -/
theorem orthonormal_polar (f : Family) (hf : f = .standard ∨ f = .noll) {n m n' m' : Int}
    (h : validNM n m) (h' : validNM n' m') (hn : n ≤ 19) (hn' : n' ≤ 19) :
    ∫ φ in (0:ℝ)..2*Real.pi, ∫ r in (0:ℝ)..1, getTerm f 1 n m r φ * getTerm f 1 n' m' r φ * r =
      if n = n' ∧ m = m' then Real.pi else 0 := by
  rw [terms_separate, azimuthal_orthogonality]
  by_cases hm : m = m'
  · subst hm
    rw [radial_orthogonality h h' hn hn']
    by_cases hnn : n = n'
    · subst hnn
      simp only [and_self, if_true]
      rw [← sq]
      exact ZernikeR.norm_constants hf m h.1
    · simp [hnn]
  · simp [hm]

/-- Fringe polynomials are orthogonal (not normalised): the same integral vanishes for distinct indices -/
theorem fringe_orthogonal_polar {n m n' m' : Int}
    (h : validNM n m) (h' : validNM n' m') (hn : n ≤ 19) (hn' : n' ≤ 19) (hne : ¬ (n = n' ∧ m = m')) :
    ∫ φ in (0:ℝ)..2*Real.pi, ∫ r in (0:ℝ)..1,
      getTerm .fringe 1 n m r φ * getTerm .fringe 1 n' m' r φ * r = 0 := by
  rw [terms_separate, azimuthal_orthogonality]
  by_cases hm : m = m'
  · subst hm
    rw [radial_orthogonality h h' hn hn']
    have hnn : n ≠ n' := fun e => hne ⟨e, rfl⟩
    simp [hnn]
  · simp [hm]

/-! ## 4. Evaluation is linear; least-squares specification of `ZernikeFit` -/

/-- `poly` is linear in the coefficient vector (coefficient lists of equal length) -/
theorem poly_linear (f : Family) (c d : List ℝ) (a b : ℝ) (h : c.length = d.length) (r φ : ℝ) :
    poly f (List.zipWith (fun x y => a * x + b * y) c d) r φ = a * poly f c r φ + b * poly f d r φ :=
  ZernikeFit.polyOn_linear f (indices f) c d a b h r φ

/-- `poly` at the sample points = design matrix (unit-coefficient terms) applied to the coefficients -/
theorem poly_eq_design {M N : ℕ} (f : Family) (idx : Fin N → Int × Int) (pts : Fin M → ℝ × ℝ)
    (c : Fin N → ℝ) (i : Fin M) :
    polyOn f (List.ofFn idx) (List.ofFn c) (pts i).1 (pts i).2 = (ZernikeFit.design f idx pts).mulVec c i :=
  ZernikeFit.poly_eq_design f idx pts c i

/-- a solution of the normal equations `AᵀA x = Aᵀ z` minimises the sum of squared residuals -/
theorem lsq_normal_is_min {M N : ℕ} (A : Matrix (Fin M) (Fin N) ℝ) (x : Fin N → ℝ) (z : Fin M → ℝ)
    (hne : A.transpose.mulVec (A.mulVec x) = A.transpose.mulVec z) (y : Fin N → ℝ) :
    dotProduct (A.mulVec x - z) (A.mulVec x - z) ≤ dotProduct (A.mulVec y - z) (A.mulVec y - z) :=
  ZernikeFit.lsq_normal_is_min A x z hne y

/-- exact data `z = A c`, design matrix of full column rank (`A.mulVec` injective): the solution of the
normal equations is the generating coefficient vector -/
theorem fit_recovers {M N : ℕ} (A : Matrix (Fin M) (Fin N) ℝ) (hA : Function.Injective A.mulVec)
    (x c : Fin N → ℝ) (hne : A.transpose.mulVec (A.mulVec x) = A.transpose.mulVec (A.mulVec c)) : x = c := by
  -- `Aᵀ A (x - c) = 0`, so `‖A (x - c)‖² = (x - c) ⬝ Aᵀ A (x - c) = 0`
  have h1 : A.transpose.mulVec (A.mulVec (x - c)) = 0 := by
    rw [Matrix.mulVec_sub, Matrix.mulVec_sub, hne, sub_self]
  have h2 := congrArg (fun v => dotProduct (x - c) v) h1
  simp only [dotProduct_zero] at h2
  rw [Matrix.dotProduct_mulVec, Matrix.vecMul_transpose] at h2
  have h3 := dotProduct_self_eq_zero.mp h2
  rw [Matrix.mulVec_sub] at h3
  exact hA (sub_eq_zero.mp h3)

/-- the same for any minimiser of the sum of squared residuals -/
theorem fit_recovers_min {M N : ℕ} (A : Matrix (Fin M) (Fin N) ℝ) (hA : Function.Injective A.mulVec)
    (x c : Fin N → ℝ)
    (hmin : ∀ y, dotProduct (A.mulVec x - A.mulVec c) (A.mulVec x - A.mulVec c) ≤
      dotProduct (A.mulVec y - A.mulVec c) (A.mulVec y - A.mulVec c)) : x = c := by
  have h := hmin c
  simp only [sub_self, dotProduct_zero] at h
  have h0 : 0 ≤ dotProduct (A.mulVec x - A.mulVec c) (A.mulVec x - A.mulVec c) :=
    Finset.sum_nonneg fun i _ => mul_self_nonneg _
  exact hA (sub_eq_zero.mp (dotProduct_self_eq_zero.mp (le_antisymm h h0)))

/-- the fit is linear in the data: normal-equation solutions combine linearly (and are unique under
full column rank by `fit_recovers`) -/
theorem fit_spec_linear {M N : ℕ} (A : Matrix (Fin M) (Fin N) ℝ) (x₁ x₂ : Fin N → ℝ) (z₁ z₂ : Fin M → ℝ)
    (a b : ℝ) (h₁ : A.transpose.mulVec (A.mulVec x₁) = A.transpose.mulVec z₁)
    (h₂ : A.transpose.mulVec (A.mulVec x₂) = A.transpose.mulVec z₂) :
    A.transpose.mulVec (A.mulVec (a • x₁ + b • x₂)) = A.transpose.mulVec (a • z₁ + b • z₂) := by
  simp only [Matrix.mulVec_add, Matrix.mulVec_smul, h₁, h₂]

/-- the rank hypothesis is satisfiable: the 1×1 design matrix of piston at one sample point -/
example : Function.Injective (Matrix.mulVec (fun (_ : Fin 1) (_ : Fin 1) => (1:ℝ))) := by
  intro u v h
  funext j
  have := congrFun h 0
  simp [Matrix.mulVec, dotProduct] at this
  have hj : j = 0 := Subsingleton.elim _ _
  rw [hj]; exact this

/-! ## 5. The fit clauses stated on the model's `poly` (not on an abstract matrix)

The theorems of section 4 are about an arbitrary matrix `A`.  Here they are instantiated on the model:
`ZernikeFit(x, y, z, type, N)` minimises `Σ_i (poly(c)(r_i, φ_i) − z_i)²` over coefficient vectors of
length `N`, `poly` using the first `N` indices of the family. -/

/-- the first `N` indices of a family (`terms` pairs coefficient `k` with `indices[k]`) -/
def firstIdx (f : Family) (N : ℕ) (j : Fin N) : Int × Int := (indices f).getD j (0, 0)

theorem indices_length (f : Family) : (indices f).length = 120 := by
  cases f
  exacts [(congrArg _ standard_table_model).symm.trans standard_indices.1,
    (congrArg _ fringe_table_model).symm.trans fringe_indices.1,
    (congrArg _ noll_table_model).symm.trans noll_indices.1]

theorem take_eq_ofFn {β : Type} (l : List β) (d : β) (N : ℕ) (hN : N ≤ l.length) :
    l.take N = List.ofFn (fun j : Fin N => l.getD j d) := by
  apply List.ext_getElem
  · simp [hN]
  · intro i h1 h2
    have hi : i < N := by simpa using h2
    have hil : i < l.length := by omega
    simp [List.getD_eq_getElem?_getD, hil]

/-- a coefficient vector of length `N ≤ 120` meets exactly the first `N` indices -/
theorem poly_first (f : Family) {N : ℕ} (hN : N ≤ 120) (c : Fin N → ℝ) (r φ : ℝ) :
    poly f (List.ofFn c) r φ = polyOn f (List.ofFn (firstIdx f N)) (List.ofFn c) r φ := by
  have hl : N ≤ (indices f).length := by rw [indices_length]; exact hN
  unfold poly polyOn termsOn firstIdx
  rw [← take_eq_ofFn (indices f) (0, 0) N hl, List.zipWith_eq_zipWith_take_min]
  simp only [List.length_ofFn, hl, inf_of_le_left]
  rw [List.take_of_length_le (by simp : (List.ofFn c).length ≤ N)]

/-- `poly` of `N` coefficients at the sample points is the design matrix of the first `N` terms -/
theorem poly_eq_design_first (f : Family) {M N : ℕ} (hN : N ≤ 120) (pts : Fin M → ℝ × ℝ) (c : Fin N → ℝ)
    (i : Fin M) :
    poly f (List.ofFn c) (pts i).1 (pts i).2 = (ZernikeFit.design f (firstIdx f N) pts).mulVec c i := by
  rw [poly_first f hN, poly_eq_design]

/-- fitting exact data recovers the coefficients (the property's clause, on the model): if the data
are `z_i = poly(c)(r_i, φ_i)` for a vector `c` of `N ≤ 120` coefficients, the sample points make the
design matrix of the first `N` terms of full column rank, and `x` minimises the sum of squared
residuals `Σ_i (poly(x)(r_i, φ_i) − z_i)²` (what `least_squares` is asked for), then `x = c`. -/
theorem fit_recovers_model (f : Family) {M N : ℕ} (hN : N ≤ 120) (pts : Fin M → ℝ × ℝ) (c x : Fin N → ℝ)
    (hA : Function.Injective (ZernikeFit.design f (firstIdx f N) pts).mulVec)
    (hmin : ∀ y : Fin N → ℝ,
      ∑ i, (poly f (List.ofFn x) (pts i).1 (pts i).2 - poly f (List.ofFn c) (pts i).1 (pts i).2) ^ 2 ≤
      ∑ i, (poly f (List.ofFn y) (pts i).1 (pts i).2 - poly f (List.ofFn c) (pts i).1 (pts i).2) ^ 2) :
    x = c := by
  apply fit_recovers_min _ hA x c
  intro y
  simp only [ZernikeFit.residual_design, ← poly_eq_design, ← poly_first f hN]
  exact hmin y

/-- the fit is linear in the data (on the model): if `x₁`, `x₂` are least-squares fits (solutions of
the normal equations of the design matrix of the first `N` terms) of data `z₁`, `z₂`, then `a x₁ + b x₂`
is a least-squares fit of `a z₁ + b z₂`: it minimises `Σ_i (poly(y)(r_i, φ_i) − (a z₁ + b z₂)_i)²`. -/
theorem fit_linear_model (f : Family) {M N : ℕ} (hN : N ≤ 120) (pts : Fin M → ℝ × ℝ)
    (x₁ x₂ : Fin N → ℝ) (z₁ z₂ : Fin M → ℝ) (a b : ℝ)
    (h₁ : (ZernikeFit.design f (firstIdx f N) pts).transpose.mulVec
            ((ZernikeFit.design f (firstIdx f N) pts).mulVec x₁) =
          (ZernikeFit.design f (firstIdx f N) pts).transpose.mulVec z₁)
    (h₂ : (ZernikeFit.design f (firstIdx f N) pts).transpose.mulVec
            ((ZernikeFit.design f (firstIdx f N) pts).mulVec x₂) =
          (ZernikeFit.design f (firstIdx f N) pts).transpose.mulVec z₂) (y : Fin N → ℝ) :
    ∑ i, (poly f (List.ofFn (a • x₁ + b • x₂)) (pts i).1 (pts i).2 - (a • z₁ + b • z₂) i) ^ 2 ≤
    ∑ i, (poly f (List.ofFn y) (pts i).1 (pts i).2 - (a • z₁ + b • z₂) i) ^ 2 := by
  have hmin := lsq_normal_is_min _ _ _ (fit_spec_linear _ x₁ x₂ z₁ z₂ a b h₁ h₂) y
  simp only [ZernikeFit.residual_design, ← poly_first f hN] at hmin
  exact hmin

/-! ### the rank hypothesis is satisfiable by a genuine Zernike design matrix

Fringe, `N = 3` (piston, x-tilt, y-tilt), three pupil points `(r, φ) = (0, 0), (1, 0), (1, π/2)`: the
design matrix is `[[1, 0, 0], [1, 1, 0], [1, 0, −1]]` (note the `−1`: the code's sine terms are
`sin(mφ)` with negative `m`). -/

theorem radial_low (r : ℝ) :
    radialTerm 0 0 r = 1 ∧ radialTerm 1 1 r = r ∧ radialTerm 1 (-1) r = r := by
  have h : radialCoeffs 0 0 = [(0, 1)] ∧ radialCoeffs 1 1 = [(1, 1)] ∧ radialCoeffs 1 (-1) = [(1, 1)] := by
    decide +kernel
  simp [ZernikeR.radialTerm_real, h, ZernikeR.evalR]

noncomputable def tiltPts : Fin 3 → ℝ × ℝ := ![(0, 0), (1, 0), (1, Real.pi / 2)]

theorem fringe_first3 : firstIdx .fringe 3 = ![(0, 0), (1, 1), (1, -1)] := by
  funext j
  unfold firstIdx
  show fringeIndices.getD j (0, 0) = _
  rw [← fringe_table_model]
  fin_cases j <;> rfl

theorem tilt_design_rows (u : Fin 3 → ℝ) :
    (ZernikeFit.design .fringe (firstIdx .fringe 3) tiltPts).mulVec u =
      ![u 0, u 0 + u 1, u 0 - u 2] := by
  funext i
  rw [fringe_first3]
  simp only [Matrix.mulVec, dotProduct, Fin.sum_univ_three, ZernikeFit.design]
  fin_cases i <;>
    (simp [tiltPts, ZernikeR.getTerm_real, ZernikeR.norm_fringe, radial_low, ZernikeR.azimuthalTerm_real]
     try ring)

theorem tilt_design_injective :
    Function.Injective (ZernikeFit.design .fringe (firstIdx .fringe 3) tiltPts).mulVec := by
  intro u v h
  rw [tilt_design_rows, tilt_design_rows] at h
  have h0 : u 0 = v 0 := congrFun h 0
  have h1 : u 0 + u 1 = v 0 + v 1 := congrFun h 1
  have h2 : u 0 - u 2 = v 0 - v 2 := congrFun h 2
  funext j
  fin_cases j
  · exact h0
  · show u 1 = v 1; linarith
  · show u 2 = v 2; linarith

/-- non-vacuity of `fit_recovers_model`: all hypotheses hold for the three-term Fringe fit on `tiltPts`
with `x = c` (the generating vector is a minimiser: its residual is zero) -/
example (c : Fin 3 → ℝ) :
    Function.Injective (ZernikeFit.design .fringe (firstIdx .fringe 3) tiltPts).mulVec ∧
    ∀ y : Fin 3 → ℝ,
      ∑ i, (poly .fringe (List.ofFn c) (tiltPts i).1 (tiltPts i).2 -
            poly .fringe (List.ofFn c) (tiltPts i).1 (tiltPts i).2) ^ 2 ≤
      ∑ i, (poly .fringe (List.ofFn y) (tiltPts i).1 (tiltPts i).2 -
            poly .fringe (List.ofFn c) (tiltPts i).1 (tiltPts i).2) ^ 2 :=
  ⟨tilt_design_injective, fun y => by
    simp only [sub_self, ne_eq, OfNat.ofNat_ne_zero, not_false_eq_true, zero_pow, Finset.sum_const_zero]
    exact Finset.sum_nonneg fun i _ => sq_nonneg _⟩

end C10
