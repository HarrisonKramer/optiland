import OptiModel.Model.Real
import OptiModel.Proofs.NumReal
import OptiModel.Proofs.Polar
import OptiModel.Proofs.TraceLaws
import Mathlib.Tactic.Ring
import Mathlib.Tactic.Positivity
import Mathlib.Tactic.Linarith
import Mathlib.Tactic.LinearCombination
/-!
# C16  Ray intensity is never created and is removed exactly as specified

Theorems over ℝ about the intensity path of `Model/Real.lean` (`Ray.propagate` with its
Beer–Lambert factor, `clip`, `interact` with `SimpleCoating`, `traceSurf`, `traceLens`) — the
model that the correspondence run ties to `real_rays.py`, `physical_apertures.py`, `coatings.py`,
`standard_surface.py`.

Specification side: the three factors named by the property,
`atten k λ t = exp(−(4πk/λ)·t·10³)`, `inside ap x y ∈ {0,1}`, `coatFactor s ∈ {T, R, 1}`.
-/
namespace C16
open Model

/-! ### specification: the three factors -/

/-- Beer–Lambert factor over a geometric length `t` (mm) at wavelength `w` (µm), extinction `k` -/
noncomputable def atten (k w t : ℝ) : ℝ := Real.exp (-(4 * Real.pi * k / w) * t * 1000)

open Classical in
/-- indicator of the clear annulus `r_min² ≤ x² + y² ≤ r_max²` (1 when there is no aperture) -/
noncomputable def inside (ap : Option (ℝ × ℝ)) (x y : ℝ) : ℝ :=
  match ap with
  | none => 1
  | some (rmax, rmin) =>
    if rmax * rmax < x * x + y * y ∨ x * x + y * y < rmin * rmin then 0 else 1

/-- the coating factor: `R` at a mirror, `T` at a refracting surface, 1 without coating and at
the image surface -/
def coatFactor (s : RSurf ℝ) : ℝ :=
  match s.kind with
  | .image => 1
  | _ =>
    match s.coating with
    | none => 1
    | some (T, R) => if s.refl then R else T

/-- the per-ray body of `traceSurf` (ray already in the surface frame, `t` = the distance
returned for it); the same function as `TraceLaws.stepRay` (by `rfl`), from which the batch form
`traceSurf_body` and the length lemmas are taken -/
noncomputable def stepRay (s : RSurf ℝ) (w : ℝ) (r : Ray ℝ) (t : ℝ) : Ray ℝ :=
  s.cs.globalize (interact s (clip s.aperture
    { r.propagate t s.k1 w with opd := Num.add (r.propagate t s.k1 w).opd (Num.abs (Num.mul t s.n1)) }))

/-- `traceSurf` is `stepRay` mapped over (localised ray, its distance) -/
theorem traceSurf_body (s : RSurf ℝ) (w : ℝ) (rays : List (Ray ℝ)) (hk : s.kind ≠ .object) :
    traceSurf s w rays =
      ((rays.map s.cs.localize).zip (s.geom.distance (rays.map s.cs.localize))).map
        (fun rt => stepRay s w rt.1 rt.2) :=
  TraceLaws.traceSurf_body s w rays hk

theorem traceSurf_object (s : RSurf ℝ) (w : ℝ) (rays : List (Ray ℝ)) (hk : s.kind = .object) :
    traceSurf s w rays = rays :=
  TraceLaws.traceSurf_object s w rays hk

/-! ### what does not touch the intensity -/

theorem ite_rotateX_i (b : Bool) (r : Ray ℝ) (a : ℝ) : (if b then r.rotateX a else r).i = r.i := by
  split <;> rfl
theorem ite_rotateY_i (b : Bool) (r : Ray ℝ) (a : ℝ) : (if b then r.rotateY a else r).i = r.i := by
  split <;> rfl
theorem ite_rotateZ_i (b : Bool) (r : Ray ℝ) (a : ℝ) : (if b then r.rotateZ a else r).i = r.i := by
  split <;> rfl

theorem localize_i (c : Cs ℝ) (r : Ray ℝ) : (c.localize r).i = r.i := by
  simp only [Cs.localize, ite_rotateZ_i, ite_rotateY_i, ite_rotateX_i]
  rfl

theorem globalize_i (c : Cs ℝ) (r : Ray ℝ) : (c.globalize r).i = r.i := by
  show (if truthy c.rx then _ else _ : Ray ℝ).i = _
  simp only [ite_rotateZ_i, ite_rotateY_i, ite_rotateX_i]

theorem refract_i (r : Ray ℝ) (nx ny nz n1 n2 : ℝ) : (r.refract nx ny nz n1 n2).i = r.i := rfl
theorem reflect_i (r : Ray ℝ) (nx ny nz : ℝ) : (r.reflect nx ny nz).i = r.i := rfl

/-! ### the three mechanisms -/

/-- Beer–Lambert: `propagate` multiplies the intensity by `exp(−(4πk/λ)·t·10³)` -/
theorem propagate_i (r : Ray ℝ) (t k w : ℝ) : (r.propagate t k w).i = r.i * atten k w t := by
  rw [RayReal.propagate_eq]
  rfl

theorem propagate_x (r : Ray ℝ) (t k w : ℝ) : (r.propagate t k w).x = r.x + t * r.L := rfl
theorem propagate_y (r : Ray ℝ) (t k w : ℝ) : (r.propagate t k w).y = r.y + t * r.M := rfl

/-- `RadialAperture.clip`: the intensity is multiplied by the annulus indicator, nothing else -/
theorem clip_i (ap : Option (ℝ × ℝ)) (r : Ray ℝ) : (clip ap r).i = r.i * inside ap r.x r.y := by
  cases ap with
  | none => exact (mul_one _).symm
  | some p =>
    obtain ⟨rmax, rmin⟩ := p
    rw [RayReal.clip_some]
    simp only [inside, apply_ite Ray.i, mul_ite, mul_zero, mul_one]

/-- `SimpleCoating` through `_interact`: factor `R` at a mirror, `T` otherwise, 1 without -/
theorem interact_i (s : RSurf ℝ) (r : Ray ℝ) : (interact s r).i = r.i * coatFactor s := by
  unfold interact coatFactor
  generalize s.geom.normal r = nrm
  obtain ⟨nx, ny, nz⟩ := nrm
  cases s.kind <;> cases s.refl <;> cases s.coating with
    | none => simp [refract_i, reflect_i]
    | some p => obtain ⟨T, R⟩ := p; simp [refract_i, reflect_i]; try rfl

/-- **intensity_step**: through one surface the new intensity is
`i · exp(−(4πk/λ)·t·10³) · [hit point inside the aperture] · (T | R | 1)` and nothing else
(`r` is the ray in the surface frame, `t` any distance). -/
theorem intensity_step (s : RSurf ℝ) (w : ℝ) (r : Ray ℝ) (t : ℝ) :
    (stepRay s w r t).i =
      r.i * atten s.k1 w t * inside s.aperture (r.x + t * r.L) (r.y + t * r.M) * coatFactor s := by
  unfold stepRay
  rw [globalize_i, interact_i, clip_i]
  show (r.propagate t s.k1 w).i * inside s.aperture (r.propagate t s.k1 w).x (r.propagate t s.k1 w).y *
      coatFactor s = _
  rw [propagate_i, propagate_x, propagate_y]

/-- a ray landing outside the aperture is dark behind the surface -/
theorem outside_aperture_zero (s : RSurf ℝ) (w : ℝ) (r : Ray ℝ) (t rmax rmin : ℝ)
    (hap : s.aperture = some (rmax, rmin))
    (hout : rmax * rmax < (r.x + t * r.L) * (r.x + t * r.L) + (r.y + t * r.M) * (r.y + t * r.M) ∨
            (r.x + t * r.L) * (r.x + t * r.L) + (r.y + t * r.M) * (r.y + t * r.M) < rmin * rmin) :
    (stepRay s w r t).i = 0 := by
  rw [intensity_step, hap]
  simp [inside, hout]

/-- a ray landing inside the aperture (or no aperture) of an uncoated surface in a medium with
`k = 0` keeps its intensity exactly -/
theorem clear_path_keeps_intensity (s : RSurf ℝ) (w : ℝ) (r : Ray ℝ) (t : ℝ)
    (hk : s.k1 = 0) (hap : s.aperture = none) (hco : s.coating = none) :
    (stepRay s w r t).i = r.i := by
  rw [intensity_step, hk, hap]
  have : coatFactor s = 1 := by unfold coatFactor; rw [hco]; cases s.kind <;> rfl
  simp [atten, inside, this]

/-! ### ranges of the factors -/

theorem atten_pos (k w t : ℝ) : 0 < atten k w t := Real.exp_pos _

theorem atten_arg_pos (k w t : ℝ) (hk : 0 < k) (hw : 0 < w) (ht : 0 < t) :
    0 < 4 * Real.pi * k / w * t * 1000 := by
  have := Real.pi_pos; positivity

theorem atten_le_one (k w t : ℝ) (hk : 0 ≤ k) (hw : 0 < w) (ht : 0 ≤ t) : atten k w t ≤ 1 := by
  unfold atten
  rw [Real.exp_le_one_iff]
  have : 0 ≤ 4 * Real.pi * k / w * t * 1000 := by have := Real.pi_pos; positivity
  linarith

theorem inside_cases (ap : Option (ℝ × ℝ)) (x y : ℝ) : inside ap x y = 0 ∨ inside ap x y = 1 := by
  unfold inside
  cases ap with
  | none => right; rfl
  | some p =>
    obtain ⟨a, b⟩ := p
    by_cases h : a * a < x * x + y * y ∨ x * x + y * y < b * b <;> simp [h]

/-- a lit ray is extinguished by the annulus indicator exactly outside the annulus -/
theorem mul_inside_eq_zero_iff (i rmax rmin x y : ℝ) (hi : i ≠ 0) :
    i * inside (some (rmax, rmin)) x y = 0 ↔ (rmax * rmax < x * x + y * y ∨ x * x + y * y < rmin * rmin) := by
  unfold inside
  simp only
  by_cases h : rmax * rmax < x * x + y * y ∨ x * x + y * y < rmin * rmin
  · rw [if_pos h, mul_zero]; exact iff_of_true rfl h
  · rw [if_neg h, mul_one]; exact iff_of_false hi h

/-- a passive surface: extinction of the medium in front `≥ 0`, coating `0 ≤ T, R ≤ 1` -/
def Passive (s : RSurf ℝ) : Prop :=
  0 ≤ s.k1 ∧ ∀ T R, s.coating = some (T, R) → 0 ≤ T ∧ T ≤ 1 ∧ 0 ≤ R ∧ R ≤ 1

theorem passive_of_coating (s : RSurf ℝ) (T R : ℝ) (hk : 0 ≤ s.k1) (hc : s.coating = some (T, R))
    (hT : 0 ≤ T ∧ T ≤ 1 ∧ 0 ≤ R ∧ R ≤ 1) : Passive s :=
  ⟨hk, fun T' R' h => by rw [hc, Option.some.injEq, Prod.mk.injEq] at h; rw [← h.1, ← h.2]; exact hT⟩

theorem coatFactor_range (s : RSurf ℝ) (hp : Passive s) : 0 ≤ coatFactor s ∧ coatFactor s ≤ 1 := by
  unfold coatFactor
  cases hco : s.coating with
  | none => cases s.kind <;> simp
  | some p =>
    obtain ⟨T, R⟩ := p
    have h := hp.2 T R hco
    cases s.kind <;> cases s.refl <;> simp <;> first | exact ⟨h.1, h.2.1⟩ | exact ⟨h.2.2.1, h.2.2.2⟩

/-- the total factor of one passive step with `t ≥ 0` lies in `[0,1]` -/
theorem step_factor_range (s : RSurf ℝ) (w t x y : ℝ) (hp : Passive s) (hw : 0 < w) (ht : 0 ≤ t) :
    0 ≤ atten s.k1 w t * inside s.aperture x y * coatFactor s ∧
    atten s.k1 w t * inside s.aperture x y * coatFactor s ≤ 1 := by
  have ha0 := (atten_pos s.k1 w t).le
  have ha1 := atten_le_one s.k1 w t hp.1 hw ht
  obtain ⟨hc0, hc1⟩ := coatFactor_range s hp
  rcases inside_cases s.aperture x y with h | h
  · rw [h, mul_zero, zero_mul]; exact ⟨le_refl _, zero_le_one⟩
  · rw [h, mul_one]; exact ⟨mul_nonneg ha0 hc0, mul_le_one₀ ha1 hc0 hc1⟩

/-- one passive step: `0 ≤ i' ≤ i` -/
theorem step_monotone (s : RSurf ℝ) (w : ℝ) (r : Ray ℝ) (t : ℝ) (hp : Passive s) (hw : 0 < w)
    (ht : 0 ≤ t) (hi : 0 ≤ r.i) : 0 ≤ (stepRay s w r t).i ∧ (stepRay s w r t).i ≤ r.i := by
  obtain ⟨h0, h1⟩ := step_factor_range s w t (r.x + t * r.L) (r.y + t * r.M) hp hw ht
  rw [intensity_step, mul_assoc, mul_assoc, ← mul_assoc (atten _ _ _)]
  exact ⟨mul_nonneg hi h0, mul_le_of_le_one_right hi h1⟩

/-- one step, any surface, any `t`: a dark ray stays dark -/
theorem step_dark (s : RSurf ℝ) (w : ℝ) (r : Ray ℝ) (t : ℝ) (hi : r.i = 0) : (stepRay s w r t).i = 0 := by
  rw [intensity_step, hi]; simp

/-! ### lifting through the batch (`List.zip` / `List.map`) -/

theorem nrSweep_length (g : Geom ℝ) (rays : List (Ray ℝ)) (pts : List (ℝ × ℝ × ℝ))
    (h : pts.length = rays.length) : (nrSweep g rays pts).1.length = rays.length :=
  TraceLaws.nrSweep_length g rays pts h

theorem nrLoop_length (g : Geom ℝ) (rays : List (Ray ℝ)) (tol : ℝ) :
    ∀ (n : Nat) (pts : List (ℝ × ℝ × ℝ)), pts.length = rays.length →
      (nrLoop g rays tol n pts).length = rays.length :=
  TraceLaws.nrLoop_length g rays tol

theorem nrDistance_length (g : Geom ℝ) (R tol : ℝ) (mi : Nat) (rays : List (Ray ℝ)) :
    (nrDistance g R tol mi rays).length = rays.length :=
  TraceLaws.nrDistance_length g R tol mi rays

/-- every geometry returns one distance per ray -/
theorem distance_length (g : Geom ℝ) (rays : List (Ray ℝ)) : (g.distance rays).length = rays.length :=
  TraceLaws.distance_length g rays

/-- the batch trace keeps the number (and order) of rays -/
theorem traceSurf_length (s : RSurf ℝ) (w : ℝ) (rays : List (Ray ℝ)) :
    (traceSurf s w rays).length = rays.length := by
  by_cases hk : s.kind = .object
  · rw [traceSurf_object s w rays hk]
  · rw [traceSurf_body s w rays hk]; simp [distance_length]

/-- a relation between a ray and what one surface makes of it, whatever distance of the batch it is
given, holds position-wise between the batch and its trace through the surface -/
theorem traceSurf_forall₂ (Rel : Ray ℝ → Ray ℝ → Prop) (s : RSurf ℝ) (w : ℝ) (rays : List (Ray ℝ))
    (hobj : s.kind = .object → ∀ r ∈ rays, Rel r r)
    (hstep : s.kind ≠ .object → ∀ r ∈ rays, ∀ t ∈ s.geom.distance (rays.map s.cs.localize),
      Rel r (stepRay s w (s.cs.localize r) t)) :
    List.Forall₂ Rel rays (traceSurf s w rays) := by
  by_cases hk : s.kind = .object
  · rw [traceSurf_object s w rays hk]
    exact List.forall₂_same.mpr (hobj hk)
  · have hl : rays.length ≤ (s.geom.distance (rays.map s.cs.localize)).length := by
      rw [distance_length, List.length_map]
    have hstep := hstep hk
    rw [traceSurf_body s w rays hk, List.zip_map_left, List.map_map]
    generalize s.geom.distance (rays.map s.cs.localize) = ts at *
    -- both lists are images of `rays.zip ts`, the batch itself under `Prod.fst`
    have h : List.Forall₂ Rel ((rays.zip ts).map Prod.fst)
        ((rays.zip ts).map ((fun rt => stepRay s w rt.1 rt.2) ∘ Prod.map s.cs.localize id)) := by
      rw [List.forall₂_map_left_iff, List.forall₂_map_right_iff, List.forall₂_same]
      exact fun z hz => hstep z.1 (List.of_mem_zip hz).1 z.2 (List.of_mem_zip hz).2
    rwa [List.map_fst_zip hl] at h

/-- **traceSurf_intensity** (batch form of `intensity_step`): position by position, the intensity
behind a non-object surface is the intensity in front times the three factors, evaluated with that
ray's own distance and hit point in the surface frame. -/
theorem traceSurf_intensity (s : RSurf ℝ) (w : ℝ) (rays : List (Ray ℝ)) (hk : s.kind ≠ .object) :
    List.Forall₂
      (fun (rt : Ray ℝ × ℝ) (r' : Ray ℝ) =>
        r'.i = rt.1.i * atten s.k1 w rt.2 *
          inside s.aperture ((s.cs.localize rt.1).x + rt.2 * (s.cs.localize rt.1).L)
                            ((s.cs.localize rt.1).y + rt.2 * (s.cs.localize rt.1).M) * coatFactor s)
      (rays.zip (s.geom.distance (rays.map s.cs.localize))) (traceSurf s w rays) := by
  rw [traceSurf_body s w rays hk, List.zip_map_left, List.map_map, List.forall₂_map_right_iff,
    List.forall₂_same]
  intro rt _
  show (stepRay s w (s.cs.localize rt.1) rt.2).i = _
  rw [intensity_step, localize_i]

/-- an object surface hands the batch on unchanged -/
theorem traceSurf_object_intensity (s : RSurf ℝ) (w : ℝ) (rays : List (Ray ℝ)) (hk : s.kind = .object) :
    List.Forall₂ (fun r r' => r'.i = r.i) rays (traceSurf s w rays) := by
  rw [traceSurf_object s w rays hk]
  exact List.forall₂_same.mpr (fun _ _ => rfl)

/-! ### along every ray, for every lens -/

/-- `Along P rays recs`: for every ray position, `P i_prev i_next` holds between the launch batch
and the first record and between every two consecutive per-surface records (`Forall₂` also says
that every record has as many rays as the launch batch) -/
def Along (P : ℝ → ℝ → Prop) : List (Ray ℝ) → List (List (Ray ℝ)) → Prop
  | _, [] => True
  | prev, cur :: rest => List.Forall₂ (fun a b => P a.i b.i) prev cur ∧ Along P cur rest

/-- every distance the lens returns for these rays is `≥ 0` (the geometric length `d` of the
property; a predicate on lens and rays because `t` comes out of `Geom.distance`) -/
def DistNonneg (w : ℝ) : List (RSurf ℝ) → List (Ray ℝ) → Prop
  | [], _ => True
  | s :: ss, rays =>
    (s.kind ≠ .object → ∀ t ∈ s.geom.distance (rays.map s.cs.localize), 0 ≤ t) ∧
      DistNonneg w ss (traceSurf s w rays)

def InUnit (rays : List (Ray ℝ)) : Prop := ∀ r ∈ rays, 0 ≤ r.i ∧ r.i ≤ 1

/-- one surface on a batch: `0 ≤ i' ≤ i` position-wise -/
theorem traceSurf_monotone (s : RSurf ℝ) (w : ℝ) (rays : List (Ray ℝ)) (hp : Passive s) (hw : 0 < w)
    (ht : s.kind ≠ .object → ∀ t ∈ s.geom.distance (rays.map s.cs.localize), 0 ≤ t)
    (hi : ∀ r ∈ rays, 0 ≤ r.i) :
    List.Forall₂ (fun a b => 0 ≤ b.i ∧ b.i ≤ a.i) rays (traceSurf s w rays) := by
  refine traceSurf_forall₂ _ s w rays (fun _ r hr => ⟨hi r hr, le_refl _⟩) (fun hk r hr t htm => ?_)
  have := step_monotone s w (s.cs.localize r) t hp hw (ht hk t htm) (by rw [localize_i]; exact hi r hr)
  rwa [localize_i] at this

theorem forall₂_imp_right {β : Type} {R : β → β → Prop} {Q : β → Prop} :
    ∀ {l l' : List β}, List.Forall₂ R l l' → (∀ a b, a ∈ l → R a b → Q b) → ∀ b ∈ l', Q b
  | _, _, .nil, _, b, hb => by simp at hb
  | _, _, .cons (a := a) (b := b0) (l₁ := l) (l₂ := l') h t, hq, b, hb => by
    rcases List.mem_cons.mp hb with e | e
    · rw [e]; exact hq a b0 (by simp) h
    · exact forall₂_imp_right t (fun a' b' ha' => hq a' b' (by simp [ha'])) b e

/-- **intensity_monotone**: along every ray, through every passive lens, the intensity is
non-negative and never increases from one record to the next. -/
theorem intensity_monotone (w : ℝ) (hw : 0 < w) : ∀ (ss : List (RSurf ℝ)) (rays : List (Ray ℝ)),
    (∀ s ∈ ss, Passive s) → DistNonneg w ss rays → (∀ r ∈ rays, 0 ≤ r.i) →
    Along (fun i i' => 0 ≤ i' ∧ i' ≤ i) rays (traceLens w ss rays)
  | [], _, _, _, _ => by simp [traceLens, Along]
  | s :: ss, rays, hp, hd, hi => by
    have h1 := traceSurf_monotone s w rays (hp s (by simp)) hw hd.1 hi
    refine ⟨h1, intensity_monotone w hw ss _ (fun t ht => hp t (by simp [ht])) hd.2 ?_⟩
    exact forall₂_imp_right h1 (fun _ _ _ h => h.1)

theorem forall₂_trans' {β : Type} {R : β → β → Prop} (htr : ∀ a b c, R a b → R b c → R a c) :
    ∀ {l1 l2 l3 : List β}, List.Forall₂ R l1 l2 → List.Forall₂ R l2 l3 → List.Forall₂ R l1 l3
  | _, _, _, .nil, .nil => .nil
  | _, _, _, .cons h t, .cons h' t' => .cons (htr _ _ _ h h') (forall₂_trans' htr t t')

/-- a transitive relation that holds between consecutive records holds between the launch batch
and every record -/
theorem along_all {P : ℝ → ℝ → Prop} (htr : ∀ a b c, P a b → P b c → P a c) :
    ∀ (recs : List (List (Ray ℝ))) (rays : List (Ray ℝ)), Along P rays recs →
      ∀ rc ∈ recs, List.Forall₂ (fun a b => P a.i b.i) rays rc
  | [], _, _, _, h => by simp at h
  | cur :: rest, rays, hA, rc, h => by
    rcases List.mem_cons.mp h with e | e
    · rw [e]; exact hA.1
    · exact forall₂_trans' (fun a b c => htr a.i b.i c.i) hA.1 (along_all htr rest cur hA.2 rc e)

/-- **every record is below the launch intensity**: at every surface of a passive lens, ray by
ray, `0 ≤ i_surface ≤ i_launch` -/
theorem intensity_le_launch (w : ℝ) (hw : 0 < w) (ss : List (RSurf ℝ)) (rays : List (Ray ℝ))
    (hp : ∀ s ∈ ss, Passive s) (hd : DistNonneg w ss rays) (hi : ∀ r ∈ rays, 0 ≤ r.i) :
    ∀ rc ∈ traceLens w ss rays, List.Forall₂ (fun a b => 0 ≤ b.i ∧ b.i ≤ a.i) rays rc :=
  along_all (P := fun i i' => 0 ≤ i' ∧ i' ≤ i) (fun _ _ _ h1 h2 => ⟨h2.1, le_trans h2.2 h1.2⟩) _ _
    (intensity_monotone w hw ss rays hp hd hi)

/-- **intensity_in_unit_interval**: if the launched intensities lie in `[0,1]`, so does every
recorded intensity at every surface. -/
theorem intensity_in_unit_interval (w : ℝ) (hw : 0 < w) : ∀ (ss : List (RSurf ℝ)) (rays : List (Ray ℝ)),
    (∀ s ∈ ss, Passive s) → DistNonneg w ss rays → InUnit rays →
    ∀ recs ∈ traceLens w ss rays, InUnit recs :=
  fun ss rays hp hd hi recs hr =>
    forall₂_imp_right (intensity_le_launch w hw ss rays hp hd (fun r hr => (hi r hr).1) recs hr)
      (fun a _ ha h => ⟨h.1, h.2.trans (hi a ha).2⟩)

/-- one surface on a batch, no hypotheses at all: zero stays zero -/
theorem traceSurf_dark (s : RSurf ℝ) (w : ℝ) (rays : List (Ray ℝ)) :
    List.Forall₂ (fun a b => a.i = 0 → b.i = 0) rays (traceSurf s w rays) :=
  traceSurf_forall₂ _ s w rays (fun _ _ _ => id)
    (fun _ r _ t _ h => step_dark s w (s.cs.localize r) t (by rw [localize_i]; exact h))

/-- **dark_stays_dark**: for every lens (no hypothesis on `k`, `T`, `R`, distances) a ray whose
intensity is 0 at one record has intensity 0 at the next, hence at all later ones. -/
theorem dark_stays_dark (w : ℝ) : ∀ (ss : List (RSurf ℝ)) (rays : List (Ray ℝ)),
    Along (fun i i' => i = 0 → i' = 0) rays (traceLens w ss rays)
  | [], _ => by simp [traceLens, Along]
  | s :: ss, rays => ⟨traceSurf_dark s w rays, dark_stays_dark w ss _⟩

/-! ### the record is the ray -/

/-- the batch `SurfaceGroup.trace` returns -/
noncomputable def finalRays (w : ℝ) : List (RSurf ℝ) → List (Ray ℝ) → List (Ray ℝ)
  | [], rays => rays
  | s :: ss, rays => finalRays w ss (traceSurf s w rays)

/-- **recorded_intensity_is_ray_intensity**: each per-surface record *is* the batch handed to the
next surface, and the last record is the batch returned by the trace (so `rays.i` equals
`surface_group.intensity[-1]` and the write-back in `Optic.trace` changes nothing).
(`finalRays` is defined in this file and `traceLens` records, by definition, the batch it
passes on, so this is a property of how the model is written; `Model.Fx.groupTraceR` returns
`(traceLens …).getLastD rays` directly.  The clause "intensities reported by analyses are those of
the traced rays" is not the subject of any theorem; it is checked by the conformance run only.) -/
theorem recorded_intensity_is_ray_intensity (w : ℝ) : ∀ (ss : List (RSurf ℝ)) (rays : List (Ray ℝ)),
    ss ≠ [] → (traceLens w ss rays).getLast? = some (finalRays w ss rays)
  | [], _, h => absurd rfl h
  | [s], rays, _ => by simp [traceLens, finalRays]
  | s :: s' :: ss, rays, _ => by
    have ih := recorded_intensity_is_ray_intensity w (s' :: ss) (traceSurf s w rays) (by simp)
    simp only [traceLens, finalRays] at ih ⊢
    rw [List.getLast?_cons_cons]
    exact ih

theorem record_is_next_input (w : ℝ) (s : RSurf ℝ) (ss : List (RSurf ℝ)) (rays : List (Ray ℝ)) :
    traceLens w (s :: ss) rays = traceSurf s w rays :: traceLens w ss (traceSurf s w rays) := rfl

/-! ### the distance hypothesis is satisfiable: planes and Newton–Raphson shapes -/

/-- over ℝ.  Where the code returns `nan` (a plane behind the ray: `-z/N < 0`) the model over ℝ has
the junk value `0/0 = 0`, and at `N = 0` it has `-z/0 = 0`: in those two cases this inequality says
nothing about the code (see `GenuineHit`). -/
theorem masked_nonneg (t : ℝ) : 0 ≤ RayReal.masked t := by
  unfold RayReal.masked
  split
  · exact le_refl _
  · exact not_lt.mp ‹_›

theorem planeDistance_nonneg (r : Ray ℝ) : 0 ≤ planeDistance r := by
  rw [RayReal.planeDistance_eq]
  exact masked_nonneg _

theorem distance_nonneg_plane (rays : List (Ray ℝ)) : ∀ t ∈ (Geom.plane : Geom ℝ).distance rays, 0 ≤ t := by
  intro t ht
  simp only [Geom.distance, List.mem_map] at ht
  obtain ⟨r, _, e⟩ := ht
  rw [← e]; exact planeDistance_nonneg r

theorem maskNeg_nonneg (t v : ℝ) (hv : 0 ≤ v) : 0 ≤ maskNeg t v := by
  unfold maskNeg
  num_real
  split
  · exact hv
  · linarith

/-- the quadratic branch of `StandardGeometry.distance` (`a ≠ 0`) masks negative roots (to `inf` in
the code, to the junk value 0 over ℝ), so what it returns is never negative; the linear branch
`a = 0` returns `-c/b` unmasked — this is the one place where a negative distance can come from -/
theorem selectRoot_nonneg (a b c z N : ℝ) (ha : a ≠ 0) : 0 ≤ selectRoot a b c z N := by
  rw [RayReal.selectRoot_eq]
  simp only [if_neg ha]
  split
  · exact masked_nonneg _
  · exact masked_nonneg _

/-- every distance a geometry returns *in the model over ℝ* is `≥ 0`, except possibly from the linear
branch of the conic (`a = L² + M² + (1+k)N² = 0`: a paraboloid met by an axis-parallel ray).
Caution: for rays that miss the surface this is true for the wrong reason.  The code returns
`nan` (negative discriminant, plane behind the ray, Newton–Raphson not converged) or `inf` (both
roots masked) there, and the intensity becomes `nan` (or `0·…`); over ℝ these are the junk values
`Real.sqrt (negative) = 0`, `0/0 = 0`, `Num.inf = 0`, which are `≥ 0`.  `GenuineHit` below names the
rays for which the ℝ value is the one the code computes. -/
theorem distance_nonneg (g : Geom ℝ) (rays : List (Ray ℝ))
    (hstd : ∀ R k, g = .standard R k → ∀ r ∈ rays, (conicABC R k r).1 ≠ 0) :
    ∀ t ∈ g.distance rays, 0 ≤ t := by
  intro t ht
  cases g
  case plane => exact distance_nonneg_plane rays t ht
  case standard R k =>
    simp only [Geom.distance, List.mem_map] at ht
    obtain ⟨r, hr, e⟩ := ht
    rw [← e]
    unfold stdDistance
    have := hstd R k rfl r hr
    generalize conicABC R k r = abc at this
    obtain ⟨a, b, c⟩ := abc
    exact selectRoot_nonneg a b c _ _ this
  -- the Newton–Raphson shapes return a `sqrt`
  all_goals
    simp only [Geom.distance, nrDistance, List.mem_map] at ht
    obtain ⟨pr, _, e⟩ := ht
    rw [← e]; exact Real.sqrt_nonneg _

/-- a lens made of plane surfaces meets `DistNonneg` for every batch -/
theorem distNonneg_planes (w : ℝ) : ∀ (ss : List (RSurf ℝ)) (rays : List (Ray ℝ)),
    (∀ s ∈ ss, s.geom = .plane) → DistNonneg w ss rays
  | [], _, _ => trivial
  | s :: ss, rays, h => by
    refine ⟨fun _ => ?_, distNonneg_planes w ss _ (fun t ht => h t (by simp [ht]))⟩
    rw [h s (by simp)]; exact distance_nonneg_plane _

/-- the rays never take the linear branch of a conic (`a = 0`) anywhere in the lens -/
def NoLinearBranch (w : ℝ) : List (RSurf ℝ) → List (Ray ℝ) → Prop
  | [], _ => True
  | s :: ss, rays =>
    (∀ R k, s.geom = .standard R k → ∀ r ∈ rays.map s.cs.localize, (conicABC R k r).1 ≠ 0) ∧
      NoLinearBranch w ss (traceSurf s w rays)

/-- `DistNonneg` holds *in the model over ℝ* for every lens and batch that avoid the conic's linear
branch (`L² + M² + (1+k)N² = 0`, where the code returns `-c/b` without masking negative values).
This includes rays that miss a surface, for which the statement rests on junk values (see
`distance_nonneg`); the version restricted to rays the code traces without `nan`/`inf` is
`distNonneg_of_genuine`. -/
theorem distNonneg_of_noLinearBranch (w : ℝ) : ∀ (ss : List (RSurf ℝ)) (rays : List (Ray ℝ)),
    NoLinearBranch w ss rays → DistNonneg w ss rays
  | [], _, _ => trivial
  | s :: ss, _, h =>
    ⟨fun _ => distance_nonneg s.geom _ h.1, distNonneg_of_noLinearBranch w ss _ h.2⟩

/-- the identity frame -/
noncomputable def cs0 : Cs ℝ := ⟨0, 0, 0, 0, 0, 0⟩

theorem localize_cs0 (r : Ray ℝ) : cs0.localize r = r := by
  simp only [cs0, RayReal.localize_eq, neg_zero, RayReal.rotateX_zero, RayReal.rotateY_zero, RayReal.rotateZ_zero,
    RayReal.translate_eq, add_zero]

/-! ### non-vacuity of the whole-lens theorems -/

/-- an absorbing, apertured (with obscuration), coated plane surface -/
noncomputable def exSurf : RSurf ℝ :=
  ⟨.standard, ⟨0, 0, 10, 0, 0, 0⟩, .plane, 3/2, 1, 1/100000, false, some (5, 1), some (1/2, 1/4)⟩
/-- its mirror twin -/
noncomputable def exMirror : RSurf ℝ :=
  ⟨.standard, ⟨0, 0, 20, 0, 0, 0⟩, .plane, 1, 1, 0, true, none, some (1/2, 1/4)⟩

/-- the hypotheses of the whole-lens theorems are satisfiable by a lens with absorption, an
annular aperture, a coating and a mirror, and a batch of two rays (one lit, one dark) -/
example : (∀ s ∈ [exSurf, exMirror], Passive s) ∧
    DistNonneg (11/20) [exSurf, exMirror] [⟨0, 2, 0, 0, 0, 1, 1, 0⟩, ⟨0, 0, 0, 0, 0, 1, 0, 0⟩] ∧
    InUnit [⟨0, 2, 0, 0, 0, 1, 1, 0⟩, ⟨0, 0, 0, 0, 0, 1, 0, 0⟩] := by
  refine ⟨?_, distNonneg_planes _ _ _ (by simp [exSurf, exMirror]), ?_⟩
  · intro s hs
    simp only [List.mem_cons, List.not_mem_nil, or_false] at hs
    rcases hs with rfl | rfl
    · exact passive_of_coating exSurf (1/2) (1/4) (by norm_num [exSurf]) rfl (by norm_num)
    · exact passive_of_coating exMirror (1/2) (1/4) (le_refl _) rfl (by norm_num)
  · intro r hr
    simp only [List.mem_cons, List.not_mem_nil, or_false] at hr
    rcases hr with e | e <;> rw [e] <;> norm_num

/-- and the step law is not the trivial `0 = 0`: the factor of the lit ray at `exSurf` is
`exp(−(4π·10⁻⁵/0.55)·10·10³)·1·½ ≠ 0` -/
example : (stepRay exSurf (11/20) ⟨0, 2, -10, 0, 0, 1, 1, 0⟩ 10).i =
    Real.exp (-(4 * Real.pi * (1/100000) / (11/20)) * 10 * 1000) * (1/2) := by
  rw [intensity_step]
  have : inside exSurf.aperture ((0:ℝ) + 10 * 0) (2 + 10 * 0) = 1 := by
    simp only [exSurf, inside]; norm_num
  rw [this]
  simp [exSurf, coatFactor, atten]

/-! ### rays the code traces without `nan` / `inf`

`DistNonneg` is a hypothesis about the distances of the model over ℝ.  Where the float code produces
`nan` or `inf` (ray misses the surface) the ℝ model has junk values that happen to be `≥ 0`, so
`distNonneg_of_noLinearBranch` also "covers" such rays, for which `intensity_monotone` says nothing
about the code.  `GenuineHit` singles out the closed-form intersections in which no masked, undefined
or divided-by-zero value is used: there the ℝ expression is the one the code evaluates. -/

/-- the ray (in the surface frame) meets a plane in front of it, or a conic with `a ≠ 0`, a
non-negative discriminant and two non-negative roots (no root is masked to `inf`, so the root
selection compares the two genuine candidates); Newton–Raphson shapes: no condition (their distance
is a `sqrt` of a sum of squares; convergence is not addressed) -/
def GenuineHit (g : Geom ℝ) (r : Ray ℝ) : Prop :=
  match g with
  | .plane => r.N ≠ 0 ∧ 0 ≤ -r.z / r.N
  | .standard R k =>
    (conicABC R k r).1 ≠ 0 ∧
    0 ≤ (conicABC R k r).2.1 ^ 2 - 4 * (conicABC R k r).1 * (conicABC R k r).2.2 ∧
    0 ≤ (-(conicABC R k r).2.1 -
          Real.sqrt ((conicABC R k r).2.1 ^ 2 - 4 * (conicABC R k r).1 * (conicABC R k r).2.2)) /
        (2 * (conicABC R k r).1) ∧
    0 ≤ (-(conicABC R k r).2.1 +
          Real.sqrt ((conicABC R k r).2.1 ^ 2 - 4 * (conicABC R k r).1 * (conicABC R k r).2.2)) /
        (2 * (conicABC R k r).1)
  | _ => True

/-- on a genuine hit the plane distance is the unmasked `-z/N` -/
theorem planeDistance_genuine (r : Ray ℝ) (h : GenuineHit .plane r) : planeDistance r = -r.z / r.N := by
  rw [RayReal.planeDistance_eq, RayReal.masked_of_nonneg h.2]

/-- on a genuine hit the conic distance is one of the two unmasked roots of the quadratic -/
theorem stdDistance_genuine (R k : ℝ) (r : Ray ℝ) (h : GenuineHit (.standard R k) r) :
    stdDistance R k r = (-(conicABC R k r).2.1 +
        Real.sqrt ((conicABC R k r).2.1 ^ 2 - 4 * (conicABC R k r).1 * (conicABC R k r).2.2)) /
        (2 * (conicABC R k r).1) ∨
    stdDistance R k r = (-(conicABC R k r).2.1 -
        Real.sqrt ((conicABC R k r).2.1 ^ 2 - 4 * (conicABC R k r).1 * (conicABC R k r).2.2)) /
        (2 * (conicABC R k r).1) := by
  obtain ⟨ha, _, h2, h1⟩ := h
  rw [RayReal.stdDistance_eq, RayReal.selectRoot_eq]
  generalize conicABC R k r = abc at ha h1 h2 ⊢
  obtain ⟨a, b, c⟩ := abc
  simp only [pow_two] at ha h1 h2 ⊢
  simp only [if_neg ha, RayReal.masked_of_nonneg h1, RayReal.masked_of_nonneg h2]
  split
  · exact Or.inl rfl
  · exact Or.inr rfl

/-- every ray of the batch makes a genuine hit at every surface of the lens -/
def GenuineLens (w : ℝ) : List (RSurf ℝ) → List (Ray ℝ) → Prop
  | [], _ => True
  | s :: ss, rays =>
    (s.kind ≠ .object → ∀ r ∈ rays.map s.cs.localize, GenuineHit s.geom r) ∧
      GenuineLens w ss (traceSurf s w rays)

theorem distance_nonneg_of_genuine (g : Geom ℝ) (rays : List (Ray ℝ)) (h : ∀ r ∈ rays, GenuineHit g r) :
    ∀ t ∈ g.distance rays, 0 ≤ t := by
  apply distance_nonneg
  intro R k hg r hr
  have := h r hr
  rw [hg] at this
  exact this.1

/-- `DistNonneg` for lenses and batches on which the ℝ model computes what the code computes -/
theorem distNonneg_of_genuine (w : ℝ) : ∀ (ss : List (RSurf ℝ)) (rays : List (Ray ℝ)),
    GenuineLens w ss rays → DistNonneg w ss rays
  | [], _, _ => trivial
  | s :: ss, _, h =>
    ⟨fun hk => distance_nonneg_of_genuine s.geom _ (h.1 hk), distNonneg_of_genuine w ss _ h.2⟩

/-- **intensity_monotone / intensity_in_unit_interval on genuinely traced rays**: the form of the two
whole-lens theorems whose hypotheses exclude every `nan`/`inf` branch of the closed-form geometries -/
theorem intensity_monotone_genuine (w : ℝ) (hw : 0 < w) (ss : List (RSurf ℝ)) (rays : List (Ray ℝ))
    (hp : ∀ s ∈ ss, Passive s) (hg : GenuineLens w ss rays) (hi : InUnit rays) :
    Along (fun i i' => 0 ≤ i' ∧ i' ≤ i) rays (traceLens w ss rays) ∧
    ∀ recs ∈ traceLens w ss rays, InUnit recs :=
  ⟨intensity_monotone w hw ss rays hp (distNonneg_of_genuine w ss rays hg) (fun r hr => (hi r hr).1),
   intensity_in_unit_interval w hw ss rays hp (distNonneg_of_genuine w ss rays hg) hi⟩

/-- an absorbing, apertured, coated *spherical* surface (R = 50) at `z = 0` -/
noncomputable def exSphere : RSurf ℝ :=
  ⟨.standard, ⟨0, 0, 0, 0, 0, 0⟩, .standard 50 0, 3/2, 1, 1/100000, false, some (5, 1), some (1/2, 1/4)⟩

/-- non-vacuity with a curved surface: the ray from `(0, 2, −10)` along `+z` makes a genuine hit on the
sphere (`a = 1`, `b = −120`, `c = 1104`, discriminant `9984`, both roots positive) -/
example : GenuineLens (11/20) [exSphere] [⟨0, 2, -10, 0, 0, 1, 1, 0⟩] ∧ Passive exSphere := by
  have habc : conicABC 50 0 (⟨0, 2, -10, 0, 0, 1, 1, 0⟩ : Ray ℝ) = (1, -120, 1104) := by
    simp only [conicABC]
    num_real
    norm_num
  have hs0 : 0 ≤ Real.sqrt 9984 := Real.sqrt_nonneg _
  have hs1 : Real.sqrt 9984 ≤ 120 := Real.sqrt_le_iff.mpr ⟨by norm_num, by norm_num⟩
  refine ⟨⟨fun _ r hr => ?_, trivial⟩,
    passive_of_coating exSphere (1/2) (1/4) (by norm_num [exSphere]) rfl (by norm_num)⟩
  rw [List.mem_singleton.mp hr, show exSphere.cs = cs0 from rfl, localize_cs0]
  show GenuineHit (.standard 50 0) _
  simp only [GenuineHit, habc, show ((-120:ℝ)) ^ 2 - 4 * 1 * 1104 = 9984 by norm_num]
  exact ⟨one_ne_zero, by norm_num, div_nonneg (by linarith) (by norm_num),
    div_nonneg (by linarith) (by norm_num)⟩

/-! ### the aperture test is made in the surface's local frame -/

/-- **blocked iff the radius of the (local) point lies outside `[r_min, r_max]`**: for a lit ray,
`RadialAperture.clip` zeroes the intensity exactly when `√(x²+y²) ∉ [r_min, r_max]` -/
theorem clip_blocked_iff_radius (rmax rmin : ℝ) (r : Ray ℝ) (h0 : 0 ≤ rmin) (h1 : 0 ≤ rmax)
    (hi : r.i ≠ 0) :
    (clip (some (rmax, rmin)) r).i = 0 ↔
      ¬ (rmin ≤ Real.sqrt (r.x * r.x + r.y * r.y) ∧ Real.sqrt (r.x * r.x + r.y * r.y) ≤ rmax) := by
  have hS := Real.sqrt_nonneg (r.x * r.x + r.y * r.y)
  have hSS := Real.mul_self_sqrt (add_nonneg (mul_self_nonneg r.x) (mul_self_nonneg r.y))
  generalize Real.sqrt (r.x * r.x + r.y * r.y) = S at hS hSS ⊢
  rw [clip_i, mul_inside_eq_zero_iff _ _ _ _ _ hi, ← hSS, not_and_or, not_le, not_le, or_comm,
    mul_self_lt_mul_self_iff h1 hS, mul_self_lt_mul_self_iff hS h0]

example : ∃ (rmax rmin : ℝ) (r : Ray ℝ), 0 ≤ rmin ∧ 0 ≤ rmax ∧ r.i ≠ 0 :=
  ⟨5, 1, ⟨3, 0, 0, 0, 0, 1, 1, 0⟩, by norm_num, by norm_num, by norm_num⟩

/-- **blocked iff the LOCAL hit point is outside the annulus** (whole step): for a lit ray at a
surface whose coating does not itself extinguish the ray, the intensity behind the surface is 0
exactly when the hit point *in the surface frame* (`r` is the localised ray) is outside. -/
theorem stepRay_blocked_iff_local (s : RSurf ℝ) (w : ℝ) (r : Ray ℝ) (t rmax rmin : ℝ)
    (hap : s.aperture = some (rmax, rmin)) (hi : r.i ≠ 0) (hc : coatFactor s ≠ 0) :
    (stepRay s w r t).i = 0 ↔
      (rmax * rmax < (r.x + t * r.L) * (r.x + t * r.L) + (r.y + t * r.M) * (r.y + t * r.M) ∨
       (r.x + t * r.L) * (r.x + t * r.L) + (r.y + t * r.M) * (r.y + t * r.M) < rmin * rmin) := by
  rw [intensity_step, hap, mul_eq_zero, or_iff_left hc,
    mul_inside_eq_zero_iff _ _ _ _ _ (mul_ne_zero hi (atten_pos s.k1 w t).ne')]

example : exSurf.aperture = some (5, 1) ∧ (⟨0, 2, -10, 0, 0, 1, 1, 0⟩ : Ray ℝ).i ≠ 0 ∧
    coatFactor exSurf ≠ 0 := by
  refine ⟨rfl, by norm_num, ?_⟩
  simp [exSurf, coatFactor]

/-- the intensities behind a surface depend on its frame and on the batch only through the localised
rays: two surfaces that differ in the frame alone give the same intensities on batches with the same
local rays -/
theorem traceSurf_i_congr (s : RSurf ℝ) (c : Cs ℝ) (w : ℝ) (rays rays' : List (Ray ℝ)) (hk : s.kind ≠ .object)
    (hloc : rays'.map c.localize = rays.map s.cs.localize) :
    (traceSurf { s with cs := c } w rays').map (·.i) = (traceSurf s w rays).map (·.i) := by
  rw [traceSurf_body s w rays hk, traceSurf_body { s with cs := c } w _ hk]
  show List.map (·.i) (List.map (fun rt => stepRay { s with cs := c } w rt.1 rt.2)
    ((rays'.map c.localize).zip (s.geom.distance (rays'.map c.localize)))) = _
  rw [hloc, List.map_map, List.map_map]
  apply List.map_congr_left
  intro rt _
  show (stepRay { s with cs := c } w rt.1 rt.2).i = (stepRay s w rt.1 rt.2).i
  rw [intensity_step, intensity_step]
  rfl

/-- **covariance (general decentre and tilt)**: the intensities behind a surface with frame `cs`
are those behind the same surface placed at the identity frame and met by the rays expressed in
`cs` — the decision depends on (frame, ray) only through the localised ray, so moving surface and
rays together by any rigid motion that `cs` expresses changes no decision. -/
theorem traceSurf_local_frame (s : RSurf ℝ) (w : ℝ) (rays : List (Ray ℝ)) (hk : s.kind ≠ .object) :
    (traceSurf s w rays).map (·.i) =
      (traceSurf { s with cs := cs0 } w (rays.map s.cs.localize)).map (·.i) :=
  (traceSurf_i_congr s cs0 w rays (rays.map s.cs.localize) hk
    (by rw [List.map_map]; exact List.map_congr_left fun _ _ => localize_cs0 _)).symm

/-- the rotation part of `localize` -/
noncomputable def rotPart (rx ry rz : ℝ) (r : Ray ℝ) : Ray ℝ :=
  let r := if truthy rx then r.rotateX (Num.neg rx) else r
  let r := if truthy ry then r.rotateY (Num.neg ry) else r
  if truthy rz then r.rotateZ (Num.neg rz) else r

theorem localize_eq_rotPart (c : Cs ℝ) (r : Ray ℝ) :
    c.localize r = rotPart c.rx c.ry c.rz (r.translate (Num.neg c.x) (Num.neg c.y) (Num.neg c.z)) := rfl

/-- decentring the surface (in x, y and z) together with the ray gives the same local ray -/
theorem localize_decentre_covariant (c : Cs ℝ) (r : Ray ℝ) (dx dy dz : ℝ) :
    Cs.localize ⟨c.x + dx, c.y + dy, c.z + dz, c.rx, c.ry, c.rz⟩ (r.translate dx dy dz) =
      c.localize r := by
  have e : (r.translate dx dy dz).translate (Num.neg (c.x + dx)) (Num.neg (c.y + dy)) (Num.neg (c.z + dz)) =
      r.translate (Num.neg c.x) (Num.neg c.y) (Num.neg c.z) := by
    obtain ⟨x, y, z, L, M, N, i, o⟩ := r
    simp only [Ray.translate]
    num_real
    congr 1 <;> ring
  exact congrArg (rotPart c.rx c.ry c.rz) e

/-- the surface moved by `(dx,dy,dz)` -/
noncomputable def decentre (s : RSurf ℝ) (dx dy dz : ℝ) : RSurf ℝ :=
  { s with cs := ⟨s.cs.x + dx, s.cs.y + dy, s.cs.z + dz, s.cs.rx, s.cs.ry, s.cs.rz⟩ }

/-- **covariance under decentre**: a surface decentred by `(dx,dy,dz)` and met by the batch
shifted by the same vector gives, ray by ray, the intensities of the undecentred configuration
(so a ray is blocked by the decentred aperture iff its pre-image is blocked by the centred one) -/
theorem traceSurf_decentre_covariant (s : RSurf ℝ) (w : ℝ) (rays : List (Ray ℝ)) (dx dy dz : ℝ) :
    (traceSurf (decentre s dx dy dz) w (rays.map (fun r => r.translate dx dy dz))).map (·.i) =
      (traceSurf s w rays).map (·.i) := by
  by_cases hk : s.kind = .object
  · have hk' : (decentre s dx dy dz).kind = .object := hk
    rw [traceSurf_object s w rays hk, traceSurf_object (decentre s dx dy dz) w _ hk', List.map_map]
    rfl
  · refine traceSurf_i_congr s _ w rays _ hk ?_
    rw [List.map_map]
    exact List.map_congr_left fun a _ => localize_decentre_covariant s.cs a dx dy dz

/-- **covariance under a tilt about the surface axis**: a radial aperture does not see a rotation
of the local point about z -/
theorem clip_rotateZ_i (ap : Option (ℝ × ℝ)) (r : Ray ℝ) (a : ℝ) :
    (clip ap (r.rotateZ a)).i = (clip ap r).i := by
  rw [clip_i, clip_i]
  have e : (r.rotateZ a).x * (r.rotateZ a).x + (r.rotateZ a).y * (r.rotateZ a).y =
      r.x * r.x + r.y * r.y := by
    simp only [Ray.rotateZ]
    num_real
    linear_combination (r.x * r.x + r.y * r.y) * Real.sin_sq_add_cos_sq a
  cases ap with
  | none => rfl
  | some p =>
    obtain ⟨rmax, rmin⟩ := p
    simp only [inside]
    rw [e]
    rfl

/-- a plane surface decentred by 10 mm in x with a clear radius of 5 mm -/
noncomputable def exDecentred : RSurf ℝ :=
  ⟨.standard, ⟨10, 0, 0, 0, 0, 0⟩, .plane, 1, 1, 0, false, some (5, 0), none⟩

/-- **witness: testing the GLOBAL point differs on a decentred surface.**  The ray through the
centre of the decentred surface (global hit point `(10, 0)`, local hit point `(0, 0)`) passes with
intensity 1, whereas the aperture indicator evaluated at the global point is 0. -/
theorem global_test_differs_witness :
    (traceSurf exDecentred (11/20) [⟨10, 0, -1, 0, 0, 1, 1, 0⟩]).map (·.i) = [1] ∧
    inside exDecentred.aperture 10 0 = 0 := by
  have hloc : exDecentred.cs.localize ⟨10, 0, -1, 0, 0, 1, 1, 0⟩ = (⟨0, 0, -1, 0, 0, 1, 1, 0⟩ : Ray ℝ) := by
    simp only [exDecentred, RayReal.localize_eq, neg_zero, RayReal.rotateX_zero, RayReal.rotateY_zero,
      RayReal.rotateZ_zero, RayReal.translate_eq]
    norm_num
  have hpd : planeDistance (⟨0, 0, -1, 0, 0, 1, 1, 0⟩ : Ray ℝ) = 1 := by
    rw [RayReal.planeDistance_eq, RayReal.masked_of_nonneg (by norm_num)]
    norm_num
  constructor
  · rw [traceSurf_body _ _ _ (by simp [exDecentred])]
    have hg : exDecentred.geom = .plane := rfl
    simp only [List.map_cons, List.map_nil, hloc, hg, Geom.distance, hpd, List.zip_cons_cons,
      List.zip_nil_right, intensity_step]
    simp [exDecentred, atten, inside, coatFactor]
  · simp only [exDecentred, inside]
    norm_num

/-! ### pure obscurations and unlimited apertures -/

open scoped Num in
/-- **pure obscuration, any carrier**: on a carrier in which nothing exceeds `inf·inf` (IEEE:
`inf < a` is false for every `a`, NaN included) `clip` with `r_max = inf` is the bare test
`radius² < r_min²` — there is no early return for an infinite `r_max`. -/
theorem clip_pure_obscuration_generic {α : Type} [Num α]
    (hinf : ∀ a : α, Num.lt ((Num.inf : α) * Num.inf) a = false) (rmin : α) (r : Ray α) :
    clip (some (Num.inf, rmin)) r =
      if Num.lt (r.x * r.x + r.y * r.y) (rmin * rmin) then { r with i := 0 } else r := by
  unfold clip
  simp only [hinf, Bool.false_or]

/-- **pure obscuration over ℝ** (`r_max` beyond the ray: `ℝ` has no `inf`): a lit ray is blocked
exactly when its local radius is `< r_min` -/
theorem obscuration_blocks_iff (rmax rmin : ℝ) (r : Ray ℝ)
    (hbig : r.x * r.x + r.y * r.y ≤ rmax * rmax) (hi : r.i ≠ 0) :
    (clip (some (rmax, rmin)) r).i = 0 ↔ r.x * r.x + r.y * r.y < rmin * rmin := by
  rw [clip_i, mul_inside_eq_zero_iff _ _ _ _ _ hi, or_iff_right (not_lt.mpr hbig)]

example : ∃ (rmax rmin : ℝ) (r : Ray ℝ), r.x * r.x + r.y * r.y ≤ rmax * rmax ∧ r.i ≠ 0 ∧
    r.x * r.x + r.y * r.y < rmin * rmin :=
  ⟨1000, 2, ⟨1, 0, 0, 0, 0, 1, 1, 0⟩, by norm_num, by norm_num, by norm_num⟩

/-- whole step through a pure obscuration -/
theorem stepRay_pure_obscuration (s : RSurf ℝ) (w : ℝ) (r : Ray ℝ) (t rmax rmin : ℝ)
    (hap : s.aperture = some (rmax, rmin)) (hi : r.i ≠ 0) (hc : coatFactor s ≠ 0)
    (hbig : (r.x + t * r.L) * (r.x + t * r.L) + (r.y + t * r.M) * (r.y + t * r.M) ≤ rmax * rmax) :
    (stepRay s w r t).i = 0 ↔
      (r.x + t * r.L) * (r.x + t * r.L) + (r.y + t * r.M) * (r.y + t * r.M) < rmin * rmin := by
  rw [stepRay_blocked_iff_local s w r t rmax rmin hap hi hc]
  constructor
  · intro h; rcases h with h | h
    · linarith
    · exact h
  · exact Or.inr

/-- **`r_min = 0`, `r_max` unlimited blocks nothing**: the ray comes back unchanged -/
theorem open_aperture_blocks_nothing (rmax : ℝ) (r : Ray ℝ)
    (hbig : r.x * r.x + r.y * r.y ≤ rmax * rmax) : clip (some (rmax, 0)) r = r := by
  rw [RayReal.clip_some, if_neg]
  rintro (h | h)
  · linarith
  · linarith [mul_self_nonneg r.x, mul_self_nonneg r.y]

example : (3:ℝ) * 3 + 4 * 4 ≤ 1000 * 1000 := by norm_num

/-! ### coatings act whether or not the media differ -/

/-- between equal media (`n₁ = n₂ ≠ 0`) `RealRays.refract` returns the ray itself, whatever the
normal (no unit-length assumption is needed) -/
theorem refract_equal_media_undeviated (r : Ray ℝ) (nx ny nz n : ℝ) (hn : n ≠ 0) :
    r.refract nx ny nz n n = r := by
  rw [RayReal.refract_eq, div_self hn]
  simp only [RayReal.bendCoef_one, one_mul, zero_mul, add_zero]

/-- **a SimpleCoating on a surface between equal media still acts**: the ray leaves undeviated
with intensity `T · i` (not `i`) -/
theorem interact_equal_media_coating (s : RSurf ℝ) (r : Ray ℝ) (T R : ℝ) (hk : s.kind = .standard)
    (hr : s.refl = false) (hco : s.coating = some (T, R)) (hn : s.n1 = s.n2) (hn0 : s.n2 ≠ 0) :
    interact s r = { r with i := r.i * T } := by
  unfold interact
  rw [hk, hr, hco, hn]
  simp only
  generalize s.geom.normal r = nrm
  obtain ⟨nx, ny, nz⟩ := nrm
  simp only [Bool.false_eq_true, if_false, refract_equal_media_undeviated r nx ny nz _ hn0]

/-- an air-to-air coated dummy surface -/
noncomputable def exDummy : RSurf ℝ :=
  ⟨.standard, ⟨0, 0, 0, 0, 0, 0⟩, .plane, 1, 1, 0, false, none, some (4/5, 1/5)⟩

example : exDummy.kind = .standard ∧ exDummy.refl = false ∧ exDummy.coating = some (4/5, 1/5) ∧
    exDummy.n1 = exDummy.n2 ∧ exDummy.n2 ≠ 0 := by
  refine ⟨rfl, rfl, rfl, rfl, ?_⟩
  simp [exDummy]

/-- **coating factor for any pair of media**: behind a coated refracting surface the intensity is
`i · atten · inside · T`, with no condition on `n₁`, `n₂` -/
theorem stepRay_coating_any_media (s : RSurf ℝ) (w : ℝ) (r : Ray ℝ) (t T R : ℝ)
    (hk : s.kind ≠ .image) (hr : s.refl = false) (hco : s.coating = some (T, R)) :
    (stepRay s w r t).i =
      r.i * atten s.k1 w t * inside s.aperture (r.x + t * r.L) (r.y + t * r.M) * T := by
  rw [intensity_step]
  have : coatFactor s = T := by
    unfold coatFactor
    rw [hco, hr]
    cases h : s.kind with
    | image => exact absurd h hk
    | object => rfl
    | standard => rfl
  rw [this]

/-- **the refractive indices do not enter the intensity at all** -/
theorem stepRay_i_indep_index (s : RSurf ℝ) (w : ℝ) (r : Ray ℝ) (t a b : ℝ) :
    (stepRay { s with n1 := a, n2 := b } w r t).i = (stepRay s w r t).i := by
  rw [intensity_step, intensity_step]
  rfl

/-! ### Beer–Lambert with the vacuum wavelength -/

/-- **the attenuation is `exp(−4πk·d/λ)` with `d = 10³·t` (mm → µm) and `λ` the vacuum
wavelength**: the refractive index is not an argument of `propagate` -/
theorem propagate_vacuum_wavelength (r : Ray ℝ) (t k w : ℝ) :
    (r.propagate t k w).i = r.i * Real.exp (-(4 * Real.pi * k * (1000 * t) / w)) := by
  rw [propagate_i]
  unfold atten
  congr 2
  ring

/-- using the wavelength in the medium `λ/n` instead would give a different attenuation whenever
`n ≠ 1` in an absorbing medium -/
theorem atten_medium_wavelength_differs (k w t n : ℝ) (hk : 0 < k) (hw : 0 < w) (ht : 0 < t)
    (hn : 0 < n) (hn1 : n ≠ 1) : atten k (w / n) t ≠ atten k w t := by
  unfold atten
  intro h
  have h' := Real.exp_injective h
  rw [div_div_eq_mul_div, mul_comm _ n, mul_div_assoc] at h'
  have hC : (n - 1) * (4 * Real.pi * k / w * t * 1000) = 0 := by linear_combination (-1 : ℝ) * h'
  exact (mul_eq_zero.mp hC).elim (fun h1 => hn1 (sub_eq_zero.mp h1)) (atten_arg_pos k w t hk hw ht).ne'

example : (0:ℝ) < 1/100000 ∧ (0:ℝ) < 11/20 ∧ (0:ℝ) < 10 ∧ (0:ℝ) < 3/2 ∧ (3/2:ℝ) ≠ 1 := by norm_num

/-- Beer–Lambert composes: two consecutive lengths in the same medium attenuate as their sum -/
theorem atten_add (k w t1 t2 : ℝ) : atten k w (t1 + t2) = atten k w t1 * atten k w t2 := by
  unfold atten
  rw [← Real.exp_add]
  congr 1
  ring

/-- in an absorbing medium every positive length strictly attenuates -/
theorem atten_lt_one (k w t : ℝ) (hk : 0 < k) (hw : 0 < w) (ht : 0 < t) : atten k w t < 1 := by
  unfold atten
  rw [Real.exp_lt_one_iff]
  linarith [atten_arg_pos k w t hk hw ht]

/-! ### darkness along the whole history -/

/-- **darkness is absorbing**: for every lens whatsoever, a ray launched (or arriving) with
intensity 0 has intensity 0 in every later record -/
theorem dark_forever (w : ℝ) (ss : List (RSurf ℝ)) (rays : List (Ray ℝ)) :
    ∀ rc ∈ traceLens w ss rays, List.Forall₂ (fun a b => a.i = 0 → b.i = 0) rays rc :=
  along_all (P := fun i i' => i = 0 → i' = 0) (fun _ _ _ h1 h2 h => h2 (h1 h)) _ _
    (dark_stays_dark w ss rays)

/-- once a ray is dark at surface `s`, it is dark at every record of the rest of the lens
(`dark_forever` applied to the tail of the history) -/
theorem dark_after_surface (w : ℝ) (s : RSurf ℝ) (ss : List (RSurf ℝ)) (rays : List (Ray ℝ)) :
    ∀ rc ∈ traceLens w ss (traceSurf s w rays),
      List.Forall₂ (fun a b => a.i = 0 → b.i = 0) (traceSurf s w rays) rc :=
  dark_forever w ss (traceSurf s w rays)


/-- **the rays returned by the trace are below the launch intensities**: `0 ≤ rays.i ≤ i_launch`
ray by ray for the batch `SurfaceGroup.trace` hands back (hypotheses: those of
`intensity_monotone`, satisfiable by the `exSurf`/`exMirror` example above) -/
theorem final_intensity_le_launch (w : ℝ) (hw : 0 < w) : ∀ (ss : List (RSurf ℝ)) (rays : List (Ray ℝ)),
    (∀ s ∈ ss, Passive s) → DistNonneg w ss rays → (∀ r ∈ rays, 0 ≤ r.i) →
    List.Forall₂ (fun a b => 0 ≤ b.i ∧ b.i ≤ a.i) rays (finalRays w ss rays)
  | [], _, _, _, hi => List.forall₂_same.mpr (fun r hr => ⟨hi r hr, le_refl _⟩)
  | s :: ss, rays, hp, hd, hi =>
    intensity_le_launch w hw (s :: ss) rays hp hd hi _
      (List.mem_of_getLast? (recorded_intensity_is_ray_intensity w (s :: ss) rays (List.cons_ne_nil _ _)))

/-! ### the polarization update is the identity for an undeviated ray -/

section polar
open Model.Polar PolarLemmas

theorem cross_self_vnorm (k : V3 ℝ) : vnorm (cross k k) = 0 := vnorm_cross_self k

/-- **`PolarizedRays.update` between equal media**: for an undeviated unit direction `k` (not along
x̂, where `_get_3d_electric_field` raises) the code takes its fallback frame `s = k × x̂` and the
surface matrix `o_out @ o_in` is exactly the identity -/
theorem surfaceMatrix_undeviated (k : V3 ℝ) (hk : dot k k = 1) (hx : k.y ≠ 0 ∨ k.z ≠ 0) :
    surfaceMatrix k k = M3.one := by
  have hF : FrameOK k k := ⟨hk, hk, fun _ => hx, Or.inl (cross_self_vnorm k)⟩
  obtain ⟨hs, hs0, _⟩ := sVector_spec k k hF
  rw [surfaceMatrix_eq]
  unfold frameMatrix
  rw [ofCols_eq]
  exact frame_cols _ k hs hk hs0

/-- hence `rays.p` (real: a `SimpleCoating` supplies no Jones matrix) is left unchanged by the
update at a surface between equal media, where `refract_equal_media_undeviated` gives `k₁ = k₀`.
`_partial`: stated for a real `p` (no Jones matrix met before); for a complex `p` the same holds
through `cmul` by the identity, not proved here. -/
theorem polarization_update_identity_undeviated_partial (M : M3 ℝ) (k : V3 ℝ) (hk : dot k k = 1)
    (hx : k.y ≠ 0 ∨ k.z ≠ 0) : update (.real M) ⟨k, k, none⟩ = .real M := by
  simp only [update, polSurface, PMat.mul]
  rw [surfaceMatrix_undeviated k hk hx, one_mul']

example : dot (⟨0, 3/5, 4/5⟩ : V3 ℝ) ⟨0, 3/5, 4/5⟩ = 1 ∧ ((3/5 : ℝ) ≠ 0 ∨ (4/5 : ℝ) ≠ 0) := by
  refine ⟨?_, Or.inl (by norm_num)⟩
  unfold dot
  num_real
  norm_num

end polar

end C16
