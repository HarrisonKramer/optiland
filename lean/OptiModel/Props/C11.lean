import OptiModel.Model.Psf
import OptiModel.Model.Parax
import OptiModel.Proofs.NumReal
import OptiModel.Proofs.Dft
import OptiModel.Proofs.PsfBridge
import Mathlib.Tactic.FieldSimp
import Mathlib.Tactic.Ring
import Mathlib.Tactic.Linarith
import Mathlib.Tactic.Positivity
import Mathlib.Tactic.LinearCombination
import Mathlib.Tactic.NormNum
import Mathlib.Analysis.SpecialFunctions.Trigonometric.Bounds
/-!
# C11  PSF, Strehl ratio and MTF are correctly normalised transforms of the pupil

Theorems about `Model/Psf.lean` at the carrier ℝ.  Complex numbers of the model are pairs; `toC`
reads a pair as an element of ℂ.  `E N m = exp(-2πi m/N)`; `dft2R N x k1 k2 = Σ_{j1,j2<N}
x j1 j2 · E N (j1 k1 + j2 k2)` (`dft2R_eq_sum`) is the defining sum of `np.fft.fft2`.
`supportCount n P` is the number of non-zero pupil samples, `amp mean mask I` the real amplitude
`intensity / mean` inside the mask.

Both PSF arrays of the model are `psfTabG n gp pad` for a side `gp` and an offset `pad` with
`pad + n ≤ gp`; what holds for every such array is proved once in `Proofs/PsfBridge.lean` and read
off here for `psfGrid` (side `paddedSize n g`) and for `psfSpec` (side `g`).

`psfSpec` (`psfTabSpec`, `meanSpec`, `strehlSpec g`, `sliceStartSpec g`, `freqStepSpec`) is `/repo`;
`psfGrid` (`psfTab`) is the symmetric-padding variant (F-C11-2), and the other `…Code` functions are the
variants of the findings F17 (`strehl_code_unaberrated`, `strehl_code_exceeds_one`), F9
(`cutoff_frequency_code`, `cutoff_frequency_code_iff`) and F-C11-2 (`strehl_code_reads_off_centre`,
`mtf_code_slices_shifted`); "the tree" in the docstrings of the `…Code` theorems is that variant.  The
clauses stated for `psfGrid` are stated for `psfSpec` as well (`psfSpec_*`, `mtf_pipeline`,
`mtf_zero_from_cutoff`, `strehl_le_one_psfSpec`).

Not theorems (numerical in the harness): the closed form `(2/π)(φ − cos φ sin φ)` for the sampled
circular pupil (an approximation statement), `np.fft.fft2` = the defining sum, the scatter of the
ray list into the raster (`ranks`) and the binning of `np.histogram`.
-/
namespace C11
open Finset Model.Psf DftMath PsfBridge
open scoped Real

instance paddedSize_neZero (n g : ℕ) [NeZero n] : NeZero (paddedSize n g) :=
  ⟨Nat.ne_of_gt (Nat.lt_of_lt_of_le (NeZero.pos n) (Nat.le_add_right _ _))⟩

theorem pad_fits (n g : ℕ) : padWidth n g + n ≤ paddedSize n g := by unfold paddedSize; omega

theorem spec_fits (n g : ℕ) (hg : n ≤ g) : padWidth n g + n ≤ g := by unfold padWidth; omega

theorem neZero_of_le (n g : ℕ) [NeZero n] (hg : n ≤ g) : NeZero g :=
  ⟨Nat.ne_of_gt (Nat.lt_of_lt_of_le (NeZero.pos n) hg)⟩

/-- even `grid_size − num_rays`: the symmetric padding fills the grid -/
theorem paddedSize_even (n g : ℕ) (hg : n ≤ g) (heven : (g - n) % 2 = 0) : paddedSize n g = g := by
  unfold paddedSize padWidth; omega

/-! ### the PSF is a non-negative, normalised squared modulus of the DFT of the padded pupil -/

/-- every pixel is `|DFT₂(pad P)[k]|² · 100 / norm`, `k` the `fftshift`-ed index, with the DFT written
out as the defining double sum -/
theorem psf_is_sq_modulus (n g : ℕ) [NeZero n] (P : ℕ → ℕ → Cx ℝ) (norm : ℝ) (r c : ℕ)
    (hr : r < paddedSize n g) (hc : c < paddedSize n g) :
    psfGrid n g P norm r c =
      Complex.normSq (∑ j1 ∈ range (paddedSize n g), ∑ j2 ∈ range (paddedSize n g),
        toC (padFn n (padWidth n g) P j1 j2) *
          E (paddedSize n g) ((j1 * shiftIdx (paddedSize n g) r + j2 * shiftIdx (paddedSize n g) c : ℕ) : ℤ))
      / norm * 100 := by
  rw [← dft2R_eq_sum]
  exact psfTabG_entry n _ _ P norm r c hr hc

theorem psf_nonneg (n g : ℕ) [NeZero n] (P : ℕ → ℕ → Cx ℝ) (norm : ℝ) (hn : 0 < norm) (r c : ℕ)
    (hr : r < paddedSize n g) (hc : c < paddedSize n g) : 0 ≤ psfGrid n g P norm r c :=
  psfTabG_nonneg n _ _ P norm hn r c hr hc

/-! ### the normalisation is the peak of the unaberrated pupil -/

/-- `max |DFT₂(1_{P≠0})|² = (#support)²` -/
theorem norm_is_unaberrated_peak (n : ℕ) [NeZero n] (P : ℕ → ℕ → Cx ℝ) :
    normFactor n P = supportCount n P ^ 2 := normFactor_eq n P

/-- … and that maximum is attained at zero frequency (triangle inequality) -/
theorem nominal_peak_at_dc (n : ℕ) (P : ℕ → ℕ → Cx ℝ) (k1 k2 : ℕ) :
    Complex.normSq (dft2R n (nomC P) k1 k2) ≤ supportCount n P ^ 2 ∧
    Complex.normSq (dft2R n (nomC P) 0 0) = supportCount n P ^ 2 := nomC_peak n P k1 k2

/-- with the property's normalisation (`Σ amplitude = #support`) the unaberrated pupil (`W = 0`)
gives a central value of exactly 100 and no pixel above 100 -/
theorem unaberrated_peak_is_100 (n g : ℕ) [NeZero n] (mean : ℝ) (mask : ℕ → ℕ → Bool) (I : ℕ → ℕ → ℝ)
    (P : ℕ → ℕ → Cx ℝ) (hP : P = pupil mean mask I fun _ _ => 0)
    (hA : ∀ r c, r < n → c < n → 0 ≤ amp mean mask I r c)
    (hsum : ∑ r ∈ range n, ∑ c ∈ range n, amp mean mask I r c = supportCount n P)
    (hS : 0 < supportCount n P) :
    psfGrid n g P (normFactor n P) (paddedSize n g / 2) (paddedSize n g / 2) = 100 ∧
    ∀ r c, r < paddedSize n g → c < paddedSize n g → psfGrid n g P (normFactor n P) r c ≤ 100 :=
  psfTabG_unaberrated_peak n _ _ (pad_fits n g) mean mask I P hP hA hsum hS

/-! ### Parseval: the energy of the PSF does not depend on the phase -/

/-- 2-D Parseval for the separable transform (from the polarised 1-D identity
`DftMath.parsevalR_inner`, which is DESIGN appendix A.6 moved from `ZMod N` to `range N`) -/
theorem parseval2 (N : ℕ) [NeZero N] (x : ℕ → ℕ → ℂ) :
    ∑ k1 ∈ range N, ∑ k2 ∈ range N, Complex.normSq (dft2R N x k1 k2)
      = (N : ℝ) ^ 2 * ∑ j1 ∈ range N, ∑ j2 ∈ range N, Complex.normSq (x j1 j2) := parseval2R N x

/-- total of the PSF = `G² · Σ|P|² · 100 / norm` -/
theorem psf_energy (n g : ℕ) [NeZero n] (P : ℕ → ℕ → Cx ℝ) (norm : ℝ) :
    ∑ r ∈ range (paddedSize n g), ∑ c ∈ range (paddedSize n g), psfGrid n g P norm r c
      = (paddedSize n g : ℝ) ^ 2 * (∑ i ∈ range n, ∑ j ∈ range n, Complex.normSq (toC (P i j))) / norm * 100 :=
  psfTabG_sum n _ _ (pad_fits n g) P norm

/-- same amplitudes, any two phase maps: same total energy (normalisation included) -/
theorem energy_independent_of_phase (n g : ℕ) [NeZero n] (mean : ℝ) (mask : ℕ → ℕ → Bool)
    (I W W' : ℕ → ℕ → ℝ) :
    ∑ r ∈ range (paddedSize n g), ∑ c ∈ range (paddedSize n g),
        psfGrid n g (pupil mean mask I W) (normFactor n (pupil mean mask I W)) r c
      = ∑ r ∈ range (paddedSize n g), ∑ c ∈ range (paddedSize n g),
        psfGrid n g (pupil mean mask I W') (normFactor n (pupil mean mask I W')) r c :=
  (psfTabG_sum_pupil n _ _ (pad_fits n g) mean mask I W).trans
    (psfTabG_sum_pupil n _ _ (pad_fits n g) mean mask I W').symm

/-! ### Strehl ratio -/

/-- central value / 100 of the array that was transformed, for amplitudes `A ≥ 0` with
`Σ A = #support`: never above one.  (Holds for the tree's array as well as for the
`grid_size × grid_size` array of the specification: see `strehl_le_one_spec`.) -/
theorem strehl_le_one_central (n gp pad : ℕ) [NeZero n] [NeZero gp] (hfit : pad + n ≤ gp)
    (mean : ℝ) (mask : ℕ → ℕ → Bool) (I W : ℕ → ℕ → ℝ)
    (hA : ∀ r c, r < n → c < n → 0 ≤ amp mean mask I r c)
    (hsum : ∑ r ∈ range n, ∑ c ∈ range n, amp mean mask I r c = supportCount n (pupil mean mask I W))
    (hS : 0 < supportCount n (pupil mean mask I W)) :
    strehlSpec gp (look2 Num.zero (psfTabG n gp pad (pupil mean mask I W)
      (normFactor n (pupil mean mask I W)))) ≤ 1 := by
  have hc : gp / 2 < gp := Nat.div_lt_self (NeZero.pos gp) (by norm_num)
  unfold strehlSpec
  rw [strehlAt_eq, div_le_one (by norm_num)]
  exact psfTabG_pupil_le n gp pad hfit mean mask I W hA hsum hS _ _ hc hc

/-- the property's Strehl clause for the specification (`grid_size²` array, amplitude normalised
over the transmitted samples) -/
theorem strehl_le_one_spec (n g : ℕ) [NeZero n] (hg : n ≤ g)
    (mean : ℝ) (mask : ℕ → ℕ → Bool) (I W : ℕ → ℕ → ℝ)
    (hA : ∀ r c, r < n → c < n → 0 ≤ amp mean mask I r c)
    (hsum : ∑ r ∈ range n, ∑ c ∈ range n, amp mean mask I r c = supportCount n (pupil mean mask I W))
    (hS : 0 < supportCount n (pupil mean mask I W)) :
    strehlSpec g (look2 Num.zero (psfTabSpec n g (pupil mean mask I W)
      (normFactor n (pupil mean mask I W)))) ≤ 1 := by
  have : NeZero g := neZero_of_le n g hg
  exact strehl_le_one_central n g (padWidth n g) (spec_fits n g hg) mean mask I W hA hsum hS

/-- `amplitude = intensity / np.mean(intensity)`: the amplitudes add up to the number of *all*
samples … -/
theorem meanCode_normalises (inten : ℕ → ℝ) (m : ℕ) (h : rsum inten m ≠ 0) :
    ∑ i ∈ range m, inten i / meanCode inten m = m := by
  have hm : (m : ℝ) ≠ 0 := by
    rintro h0
    rw [Nat.cast_eq_zero.mp h0] at h
    exact h rfl
  rw [← sum_div, ← rsum_eq, meanCode_eq, div_div_eq_mul_div, mul_div_cancel_left₀ _ h]

/-- … whereas dividing by the mean over the transmitted samples makes them add up to `#support` -/
theorem meanSpec_normalises (inten : ℕ → ℝ) (m : ℕ) (h : rsum inten m ≠ 0)
    (hc : countNonzero inten m ≠ 0) :
    ∑ i ∈ range m, inten i / meanSpec inten m = countNonzero inten m := by
  rw [← sum_div, ← rsum_eq, meanSpec_eq, div_div_eq_mul_div, mul_div_cancel_left₀ _ h]

/-- what the tree computes for an unaberrated pupil (`W = 0`, even `grid_size − num_rays`):
`(Σ A / #support)²`; with the code's normalisation `Σ A = #mask` this is `(#mask / #support)²` -/
theorem strehl_code_unaberrated (n g : ℕ) [NeZero n] (hg : n ≤ g) (heven : (g - n) % 2 = 0)
    (mean : ℝ) (mask : ℕ → ℕ → Bool) (I : ℕ → ℕ → ℝ)
    (P : ℕ → ℕ → Cx ℝ) (hP : P = pupil mean mask I fun _ _ => 0)
    (hS : 0 < supportCount n P) :
    strehlCode g (psfGrid n g P (normFactor n P))
      = ((∑ r ∈ range n, ∑ c ∈ range n, amp mean mask I r c) / supportCount n P) ^ 2 := by
  subst hP
  have hc := psfTabG_centre_zero_phase n (paddedSize n g) (padWidth n g) (pad_fits n g) mean mask I
    (normFactor n (pupil mean mask I fun _ _ => 0))
  rw [paddedSize_even n g hg heven] at hc
  unfold strehlCode psfGrid psfTab
  rw [strehlAt_eq, paddedSize_even n g hg heven, hc, normFactor_eq, mul_div_cancel_right₀ _ (by norm_num),
    div_pow]

/-- NEGATION WITNESS for the clause Strehl ≤ 1 (`strehl_le_one_spec`) under the normalisation of `meanCode` (F17): a 2×2 pupil, one transmitted sample of
intensity 1, three blocked ones, no aberration; `mean = np.mean(intensity) = 1/4`; the tree's
Strehl ratio is 16. -/
theorem strehl_code_exceeds_one :
    ∃ (n g : ℕ) (mask : ℕ → ℕ → Bool) (I W : ℕ → ℕ → ℝ) (mean : ℝ),
      (∀ r c, 0 ≤ I r c) ∧
      mean = (∑ r ∈ range n, ∑ c ∈ range n, if mask r c then I r c else 0) /
             (∑ r ∈ range n, ∑ c ∈ range n, if mask r c then (1 : ℝ) else 0) ∧
      1 < strehlCode g (psfGrid n g (pupil mean mask I W) (normFactor n (pupil mean mask I W))) := by
  refine ⟨2, 2, fun _ _ => true, fun r c => if r = 0 ∧ c = 0 then 1 else 0, fun _ _ => 0, 1 / 4, ?_, ?_, ?_⟩
  · intro r c
    show 0 ≤ (if r = 0 ∧ c = 0 then (1 : ℝ) else 0)
    split_ifs <;> norm_num
  · simp [sum_range_succ]; norm_num
  · have hS : supportCount 2 (pupil (1 / 4) (fun _ _ => true)
        (fun r c => if r = 0 ∧ c = 0 then (1 : ℝ) else 0) fun _ _ => 0) = 1 := by
      rw [supportCount_pupil]
      simp [sum_range_succ, amp]
    have h := strehl_code_unaberrated 2 2 (le_refl _) (by norm_num) (1 / 4) (fun _ _ => true)
      (fun r c => if r = 0 ∧ c = 0 then (1 : ℝ) else 0) _ rfl (by rw [hS]; norm_num)
    rw [h, hS]
    simp [sum_range_succ, amp]

/-- odd `num_rays`, even `grid_size`: the transformed array has side `grid_size − 1`, its
zero-frequency pixel is `grid_size/2 − 1`, and `strehl_ratio` reads pixel `grid_size/2` -/
theorem strehl_code_reads_off_centre (n g : ℕ) (hg : n ≤ g) (hn : n % 2 = 1) (hge : g % 2 = 0) :
    paddedSize n g = g - 1 ∧ paddedSize n g / 2 + 1 = g / 2 ∧
    ∀ psf : ℕ → ℕ → ℝ, strehlCode g psf = strehlAt (paddedSize n g / 2 + 1) psf := by
  have h1 : paddedSize n g = g - 1 := by unfold paddedSize padWidth; omega
  have h2 : paddedSize n g / 2 + 1 = g / 2 := by rw [h1]; omega
  exact ⟨h1, h2, fun psf => by unfold strehlCode; rw [h2]⟩

/-! ### FFT MTF -/

/-- MTF = |FFT₂(psf)| divided by its zero-frequency value `Σ psf` (slices started at the
zero-frequency index of the transformed array) -/
theorem mtf_is_normalised_modulus (gp : ℕ) [NeZero gp] (psf : ℕ → ℕ → ℝ)
    (hp : ∀ r c, r < gp → c < gp → 0 ≤ psf r c) (k : ℕ) (hk : k < gp - gp / 2) :
    look Num.zero (mtfSlices gp (sliceStartSpec gp) psf).1 k
        = otfAbs gp psf (gp / 2 + k) (gp / 2) / total gp psf ∧
    look Num.zero (mtfSlices gp (sliceStartSpec gp) psf).2 k
        = otfAbs gp psf (gp / 2) (gp / 2 + k) / total gp psf :=
  mtfSlices_eq gp psf hp k hk

/-- every curve starts at one (`|Σ p e^{iθ}| ≤ Σ p` makes the first entry the maximum) -/
theorem mtf_dc_one (gp : ℕ) [NeZero gp] (psf : ℕ → ℕ → ℝ)
    (hp : ∀ r c, r < gp → c < gp → 0 ≤ psf r c) (ht : 0 < total gp psf) :
    look Num.zero (mtfSlices gp (sliceStartSpec gp) psf).1 0 = 1 ∧
    look Num.zero (mtfSlices gp (sliceStartSpec gp) psf).2 0 = 1 := by
  have h := mtfSlices_eq gp psf hp 0 (Nat.sub_pos_of_lt (Nat.div_lt_self (NeZero.pos gp) (by norm_num)))
  unfold sliceStartSpec
  rw [h.1, h.2, Nat.add_zero, otfAbs_centre gp psf hp]
  exact ⟨div_self ht.ne', div_self ht.ne'⟩

/-- … and stays within [0, 1] -/
theorem mtf_in_unit_interval (gp : ℕ) [NeZero gp] (psf : ℕ → ℕ → ℝ)
    (hp : ∀ r c, r < gp → c < gp → 0 ≤ psf r c) (ht : 0 < total gp psf) (k : ℕ) (hk : k < gp - gp / 2) :
    (0 ≤ look Num.zero (mtfSlices gp (sliceStartSpec gp) psf).1 k ∧
      look Num.zero (mtfSlices gp (sliceStartSpec gp) psf).1 k ≤ 1) ∧
    (0 ≤ look Num.zero (mtfSlices gp (sliceStartSpec gp) psf).2 k ∧
      look Num.zero (mtfSlices gp (sliceStartSpec gp) psf).2 k ≤ 1) := by
  have h := mtfSlices_eq gp psf hp k hk
  unfold sliceStartSpec
  rw [h.1, h.2]
  exact ⟨⟨div_nonneg (otfAbs_nonneg _ _ _ _) ht.le, (div_le_one ht).mpr (otfAbs_le gp psf hp _ _)⟩,
         ⟨div_nonneg (otfAbs_nonneg _ _ _ _) ht.le, (div_le_one ht).mpr (otfAbs_le gp psf hp _ _)⟩⟩

/-- the tree's slices (`data[grid_size//2:, …]`) are those of the specification whenever
`grid_size − num_rays` is even … -/
theorem mtf_code_slices_even (n g : ℕ) (hg : n ≤ g) (heven : (g - n) % 2 = 0) :
    sliceStartCode g = sliceStartSpec (paddedSize n g) := by
  rw [paddedSize_even n g hg heven]
  rfl

/-- … and start one bin *after* zero frequency when `num_rays` is odd and `grid_size` even -/
theorem mtf_code_slices_shifted (n g : ℕ) (hg : n ≤ g) (hn : n % 2 = 1) (hge : g % 2 = 0) :
    sliceStartCode g = sliceStartSpec (paddedSize n g) + 1 :=
  (strehl_code_reads_off_centre n g hg hn hge).2.1.symm

/-! ### no MTF exceeds the diffraction-limited one -/

/-- discrete Wiener–Khinchin: `DFT₂(|DFT₂ x|²) = N² ·` circular autocorrelation of `x` -/
theorem wiener_khinchin (N : ℕ) [NeZero N] (x : ℕ → ℕ → ℂ) (s1 s2 : ℕ) :
    dft2R N (fun k1 k2 => ((Complex.normSq (dft2R N x k1 k2) : ℝ) : ℂ)) s1 s2
      = (N : ℂ) ^ 2 * ∑ j1 ∈ range N, ∑ j2 ∈ range N,
          x j1 j2 * (starRingEnd ℂ) (x ((j1 + s1) % N) ((j2 + s2) % N)) := wiener_khinchin2 N x s1 s2

/-- every sample of both normalised MTF slices of a pupil `P` is bounded by the corresponding
sample for the zero-phase pupil `P0 = |P|` (the diffraction-limited system with the same
transmission), same normalisation -/
theorem mtf_le_diffraction_limited (n gp pad : ℕ) [NeZero gp] (hfit : pad + n ≤ gp)
    (P P0 : ℕ → ℕ → Cx ℝ) (h0 : ∀ i j, toC (P0 i j) = ((‖toC (P i j)‖ : ℝ) : ℂ))
    (norm : ℝ) (hn : 0 < norm)
    (hE : 0 < total gp (look2 Num.zero (psfTabG n gp pad P norm)))
    (k : ℕ) (hk : k < gp - gp / 2) :
    look Num.zero (mtfSlices gp (sliceStartSpec gp) (look2 Num.zero (psfTabG n gp pad P norm))).1 k
      ≤ look Num.zero (mtfSlices gp (sliceStartSpec gp) (look2 Num.zero (psfTabG n gp pad P0 norm))).1 k ∧
    look Num.zero (mtfSlices gp (sliceStartSpec gp) (look2 Num.zero (psfTabG n gp pad P norm))).2 k
      ≤ look Num.zero (mtfSlices gp (sliceStartSpec gp) (look2 Num.zero (psfTabG n gp pad P0 norm))).2 k := by
  have hP := mtfSlices_eq gp _ (fun r c hr hc => psfTabG_nonneg n gp pad P norm hn r c hr hc) k hk
  have hP0 := mtfSlices_eq gp _ (fun r c hr hc => psfTabG_nonneg n gp pad P0 norm hn r c hr hc) k hk
  unfold sliceStartSpec
  rw [hP.1, hP.2, hP0.1, hP0.2, total_zero_phase n gp pad hfit P P0 h0 norm]
  have key := fun r c => div_le_div_of_nonneg_right (otfAbs_le_zero_phase n gp pad P P0 h0 norm r c) hE.le
  exact ⟨key _ _, key _ _⟩

/-- the zero-phase pupil of the model: same intensities, `W = 0`, amplitudes `≥ 0` -/
theorem zero_phase_pupil (mean : ℝ) (mask : ℕ → ℕ → Bool) (I W : ℕ → ℕ → ℝ)
    (hA : ∀ r c, 0 ≤ amp mean mask I r c) (i j : ℕ) :
    toC (pupil mean mask I (fun _ _ => 0) i j) = ((‖toC (pupil mean mask I W i j)‖ : ℝ) : ℂ) := by
  rw [toC_pupil_zero_phase, norm_pupil, abs_of_nonneg (hA i j)]

/-! ### frequency axis and cut-off -/

/-- specification: sample `num_rays` of a slice is the cut-off `1/(λ·10⁻³·FNO)` cycles/mm -/
theorem cutoff_frequency (n : ℕ) (hn : n ≠ 0) (wl fno : ℝ) (hw : wl ≠ 0) (hf : fno ≠ 0) :
    freqAxis (freqStepSpec n wl fno) n = maxFreq wl fno := by
  have hn' : (n : ℝ) ≠ 0 := Nat.cast_ne_zero.mpr hn
  rw [freqAxis_eq, freqStepSpec_eq, maxFreq_eq]
  field_simp

/-- both steps differ by the factor `grid_size/1000` at every sample -/
theorem freq_step_ratio (n g : ℕ) (hn : n ≠ 0) (wl fno : ℝ) (hw : wl ≠ 0) (hf : fno ≠ 0) :
    freqStepCode n g wl fno = (g : ℝ) / 1000 * freqStepSpec n wl fno := by
  have hn' : (n : ℝ) ≠ 0 := Nat.cast_ne_zero.mpr hn
  have h : freqStepCode n g wl fno = g / n / (wl * fno) := by
    unfold freqStepCode
    rw [NumReal.ofNat_eq, NumReal.ofNat_eq]
  rw [h, freqStepSpec_eq]
  field_simp

/-- the tree (F9): the frequency attached to sample `num_rays` is `grid_size/1000` times the cut-off -/
theorem cutoff_frequency_code (n g : ℕ) (hn : n ≠ 0) (wl fno : ℝ) (hw : wl ≠ 0) (hf : fno ≠ 0) :
    freqAxis (freqStepCode n g wl fno) n = (g : ℝ) / 1000 * maxFreq wl fno := by
  rw [← cutoff_frequency n hn wl fno hw hf, freqAxis_eq, freqAxis_eq, freq_step_ratio n g hn wl fno hw hf,
    mul_left_comm]

/-- hence the tree's axis is right exactly for `grid_size = 1000` -/
theorem cutoff_frequency_code_iff (n g : ℕ) (hn : n ≠ 0) (wl fno : ℝ) (hw : 0 < wl) (hf : 0 < fno) :
    freqAxis (freqStepCode n g wl fno) n = maxFreq wl fno ↔ g = 1000 := by
  have hm : maxFreq wl fno ≠ 0 := by
    rw [maxFreq_eq]
    positivity
  rw [cutoff_frequency_code n g hn wl fno hw.ne' hf.ne', mul_eq_right₀ hm,
    div_eq_one_iff_eq (by norm_num : (1000 : ℝ) ≠ 0)]
  exact_mod_cast Iff.rfl

/-! ### geometric MTF -/

/-- one frequency of `GeometricMTF._compute_field_data` is the modulus of the Fourier transform of
the line spread (histogram counts `A_j` at the bin centres `x_j`) divided by its total -/
theorem geometric_mtf_is_line_spread_ft (A xc : ℕ → ℝ) (dx : ℝ) (nb : ℕ) (v : ℝ)
    (hdx : dx ≠ 0) (hA : 0 < ∑ j ∈ range nb, A j) :
    geoMtfAt A xc dx nb v
      = ‖∑ j ∈ range nb, (A j : ℂ) * Complex.exp (((2 * π * v * xc j : ℝ) : ℂ) * Complex.I)‖
        / ∑ j ∈ range nb, A j := by
  have hz : (∑ j ∈ range nb, (A j : ℂ) * Complex.exp (((2 * π * v * xc j : ℝ) : ℂ) * Complex.I))
      = ⟨∑ j ∈ range nb, A j * Real.cos (2 * π * v * xc j), ∑ j ∈ range nb, A j * Real.sin (2 * π * v * xc j)⟩ := by
    apply Complex.ext
    · simp only [Complex.re_sum, Complex.re_ofReal_mul, Complex.exp_ofReal_mul_I_re]
    · simp only [Complex.im_sum, Complex.im_ofReal_mul, Complex.exp_ofReal_mul_I_im]
  -- the common factor `dx` cancels and the total `S > 0` leaves the square root
  have key : ∀ C Sn S : ℝ, 0 < S → Real.sqrt (C * dx / (S * dx) * (C * dx / (S * dx))
      + Sn * dx / (S * dx) * (Sn * dx / (S * dx))) = Real.sqrt (C * C + Sn * Sn) / S := by
    intro C Sn S hS
    rw [mul_div_mul_right _ _ hdx, mul_div_mul_right _ _ hdx, div_mul_div_comm, div_mul_div_comm, ← add_div,
      Real.sqrt_div' _ (mul_self_nonneg S), Real.sqrt_mul_self hS.le]
  unfold geoMtfAt
  simp only [rsum_eq]
  num_real
  rw [← sum_mul, ← sum_mul, ← sum_mul, key _ _ _ hA, hz, Complex.norm_def, Complex.normSq_mk]

/-- the unscaled geometric MTF never exceeds one (triangle inequality), so the scaled one never
exceeds the diffraction-limit factor it is multiplied with -/
theorem geometric_mtf_le_diff_limit (A xc : ℕ → ℝ) (dx : ℝ) (nb : ℕ) (v scale : ℝ)
    (hdx : dx ≠ 0) (hnn : ∀ j, j < nb → 0 ≤ A j) (hA : 0 < ∑ j ∈ range nb, A j) (hs : 0 ≤ scale) :
    geoMtfAt A xc dx nb v * scale ≤ scale := by
  rw [geometric_mtf_is_line_spread_ft A xc dx nb v hdx hA]
  refine mul_le_of_le_one_left hs ((div_le_one hA).mpr ((norm_sum_le _ _).trans_eq ?_))
  exact sum_congr rfl fun j hj => by
    rw [norm_mul, Complex.norm_exp_ofReal_mul_I, mul_one, Complex.norm_real, Real.norm_eq_abs,
      abs_of_nonneg (hnn j (mem_range.mp hj))]

/-- at zero frequency the geometric MTF is one -/
theorem geometric_mtf_dc_one (A xc : ℕ → ℝ) (dx : ℝ) (nb : ℕ)
    (hdx : dx ≠ 0) (hA : 0 < ∑ j ∈ range nb, A j) : geoMtfAt A xc dx nb 0 = 1 := by
  rw [geometric_mtf_is_line_spread_ft A xc dx nb 0 hdx hA]
  simp only [mul_zero, zero_mul, Complex.ofReal_zero, Complex.exp_zero, mul_one]
  rw [← Complex.ofReal_sum, Complex.norm_real, Real.norm_eq_abs, abs_of_pos hA, div_self (ne_of_gt hA)]

/-- the diffraction-limit formula `(2/π)(φ − cos φ sin φ)`, `φ = arccos(ν/ν_c)`, is 1 at zero
frequency and 0 at the cut-off -/
theorem diff_limit_endpoints : diffLimit (0 : ℝ) = 1 ∧ diffLimit (1 : ℝ) = 0 := by
  rw [diffLimit_eq, diffLimit_eq, Real.arccos_zero, Real.cos_pi_div_two, Real.arccos_one, Real.cos_zero,
    Real.sin_zero, zero_mul, sub_zero, mul_zero, sub_zero, mul_zero, div_mul_div_comm, mul_comm,
    div_self (mul_ne_zero Real.pi_ne_zero two_ne_zero)]
  exact ⟨rfl, rfl⟩

/-- non-vacuity of the hypotheses used above: a 2-bin line spread -/
example : ∃ (A : ℕ → ℝ) (nb : ℕ), (∀ j, j < nb → 0 ≤ A j) ∧ 0 < ∑ j ∈ range nb, A j :=
  ⟨fun _ => 1, 2, fun _ _ => by norm_num, by simp⟩

/-- non-vacuity: a PSF with positive total -/
example : ∃ (gp : ℕ) (psf : ℕ → ℕ → ℝ), (∀ r c, r < gp → c < gp → 0 ≤ psf r c) ∧ 0 < total gp psf :=
  ⟨1, fun _ _ => 1, fun _ _ _ _ => by norm_num, by simp [total]⟩

/-- non-vacuity of the amplitude hypotheses (`A ≥ 0`, `Σ A = #support > 0`): a one-sample pupil -/
example : ∃ (n : ℕ) (mean : ℝ) (mask : ℕ → ℕ → Bool) (I W : ℕ → ℕ → ℝ),
    (∀ r c, r < n → c < n → 0 ≤ amp mean mask I r c) ∧
    (∑ r ∈ range n, ∑ c ∈ range n, amp mean mask I r c = supportCount n (pupil mean mask I W)) ∧
    0 < supportCount n (pupil mean mask I W) := by
  refine ⟨1, 1, fun _ _ => true, fun _ _ => 1, fun _ _ => 0, ?_, ?_, ?_⟩
  · intro r c _ _; simp [amp]
  · rw [supportCount_pupil]; simp [amp]
  · rw [supportCount_pupil]; simp [amp]

/-! ### the `grid_size × grid_size` PSF (`psfTabSpec`): `/repo`

`/repo` pads to exactly `grid_size` (`pad`, `pad_end`), so it is `psfTabSpec`, `strehlSpec g`,
`sliceStartSpec g`; `psfGrid` above pads symmetrically to side `paddedSize n g`.  For even
`grid_size − num_rays` the two arrays coincide (`psfSpec_eq_psfGrid`); for odd differences the theorems about
`psfGrid` say nothing about `/repo`.  Here the clauses are stated for every parity, and the MTF clauses are
composed with the PSF (no free hypothesis on the PSF array is left). -/

/-- entry (r, c) of the `grid_size × grid_size` PSF -/
noncomputable def psfSpec (n g : ℕ) (P : ℕ → ℕ → Cx ℝ) (norm : ℝ) (r c : ℕ) : ℝ :=
  look2 Num.zero (psfTabSpec n g P norm) r c

theorem psfSpec_fun (n g : ℕ) (P : ℕ → ℕ → Cx ℝ) (norm : ℝ) :
    psfSpec n g P norm = look2 Num.zero (psfTabG n g (padWidth n g) P norm) := rfl

/-- even `grid_size − num_rays`: the two arrays are the same -/
theorem psfSpec_eq_psfGrid (n g : ℕ) (hg : n ≤ g) (heven : (g - n) % 2 = 0) (P : ℕ → ℕ → Cx ℝ) (norm : ℝ) :
    psfSpec n g P norm = psfGrid n g P norm := by
  funext r c
  unfold psfSpec psfGrid psfTab psfTabSpec
  rw [paddedSize_even n g hg heven]

/-- every pixel is `|DFT₂(pad P)[k]|² · 100 / norm`, defining double sum, side `grid_size` -/
theorem psfSpec_is_sq_modulus (n g : ℕ) [NeZero n] (hg : n ≤ g) (P : ℕ → ℕ → Cx ℝ) (norm : ℝ) (r c : ℕ)
    (hr : r < g) (hc : c < g) :
    psfSpec n g P norm r c =
      Complex.normSq (∑ j1 ∈ range g, ∑ j2 ∈ range g,
        toC (padFn n (padWidth n g) P j1 j2) * E g ((j1 * shiftIdx g r + j2 * shiftIdx g c : ℕ) : ℤ))
      / norm * 100 := by
  have : NeZero g := neZero_of_le n g hg
  rw [← dft2R_eq_sum]
  exact psfTabG_entry n _ _ P norm r c hr hc

theorem psfSpec_nonneg (n g : ℕ) [NeZero n] (hg : n ≤ g) (P : ℕ → ℕ → Cx ℝ) (norm : ℝ) (hn : 0 < norm) (r c : ℕ)
    (hr : r < g) (hc : c < g) : 0 ≤ psfSpec n g P norm r c := by
  have : NeZero g := neZero_of_le n g hg
  exact psfTabG_nonneg n g (padWidth n g) P norm hn r c hr hc

/-- total of the PSF = `G² · Σ|P|² · 100 / norm` (2-D Parseval) -/
theorem psfSpec_energy (n g : ℕ) [NeZero n] (hg : n ≤ g) (P : ℕ → ℕ → Cx ℝ) (norm : ℝ) :
    ∑ r ∈ range g, ∑ c ∈ range g, psfSpec n g P norm r c
      = (g : ℝ) ^ 2 * (∑ i ∈ range n, ∑ j ∈ range n, Complex.normSq (toC (P i j))) / norm * 100 := by
  have : NeZero g := neZero_of_le n g hg
  exact psfTabG_sum n g (padWidth n g) (spec_fits n g hg) P norm

/-- same amplitudes, any two phase maps: same total energy -/
theorem psfSpec_energy_independent_of_phase (n g : ℕ) [NeZero n] (hg : n ≤ g) (mean : ℝ) (mask : ℕ → ℕ → Bool)
    (I W W' : ℕ → ℕ → ℝ) :
    ∑ r ∈ range g, ∑ c ∈ range g, psfSpec n g (pupil mean mask I W) (normFactor n (pupil mean mask I W)) r c
      = ∑ r ∈ range g, ∑ c ∈ range g,
          psfSpec n g (pupil mean mask I W') (normFactor n (pupil mean mask I W')) r c := by
  have : NeZero g := neZero_of_le n g hg
  exact (psfTabG_sum_pupil n g _ (spec_fits n g hg) mean mask I W).trans
    (psfTabG_sum_pupil n g _ (spec_fits n g hg) mean mask I W').symm

/-- the unaberrated pupil peaks at exactly 100, at pixel `(grid_size//2, grid_size//2)`, no pixel above -/
theorem psfSpec_unaberrated_peak_is_100 (n g : ℕ) [NeZero n] (hg : n ≤ g) (mean : ℝ) (mask : ℕ → ℕ → Bool)
    (I : ℕ → ℕ → ℝ) (P : ℕ → ℕ → Cx ℝ) (hP : P = pupil mean mask I fun _ _ => 0)
    (hA : ∀ r c, r < n → c < n → 0 ≤ amp mean mask I r c)
    (hsum : ∑ r ∈ range n, ∑ c ∈ range n, amp mean mask I r c = supportCount n P)
    (hS : 0 < supportCount n P) :
    psfSpec n g P (normFactor n P) (g / 2) (g / 2) = 100 ∧
    ∀ r c, r < g → c < g → psfSpec n g P (normFactor n P) r c ≤ 100 := by
  have : NeZero g := neZero_of_le n g hg
  exact psfTabG_unaberrated_peak n g _ (spec_fits n g hg) mean mask I P hP hA hsum hS

/-- a pupil with at least one transmitted sample has a PSF of positive total energy
(the hypothesis `0 < total` of the MTF theorems is not an extra assumption) -/
theorem psfSpec_total_pos (n g : ℕ) [NeZero n] (hg : n ≤ g) (mean : ℝ) (mask : ℕ → ℕ → Bool) (I W : ℕ → ℕ → ℝ)
    (hS : 0 < supportCount n (pupil mean mask I W)) :
    0 < total g (psfSpec n g (pupil mean mask I W) (normFactor n (pupil mean mask I W))) := by
  have : NeZero g := neZero_of_le n g hg
  exact psfTabG_total_pos n g _ (spec_fits n g hg) _ hS

/-- MTF clauses, end to end (`FFTPSF` → `FFTMTF._generate_mtf_data`, every parity of
`grid_size − num_rays`): for a pupil `P` with non-negative amplitudes and at least one transmitted
sample, both MTF curves start at one, and every sample lies in `[0, 1]` and does not exceed the
sample of the unaberrated (zero-phase) pupil `P0` of the same transmission, run through the same
pipeline (its own `_get_normalization` included). -/
theorem mtf_pipeline (n g : ℕ) [NeZero n] (hg : n ≤ g) (mean : ℝ) (mask : ℕ → ℕ → Bool) (I W : ℕ → ℕ → ℝ)
    (hA : ∀ r c, 0 ≤ amp mean mask I r c) (hS : 0 < supportCount n (pupil mean mask I W))
    (P P0 : ℕ → ℕ → Cx ℝ) (hP : P = pupil mean mask I W) (hP0 : P0 = pupil mean mask I fun _ _ => 0)
    (M M0 : Array ℝ × Array ℝ)
    (hM : M = mtfSlices g (sliceStartSpec g) (psfSpec n g P (normFactor n P)))
    (hM0 : M0 = mtfSlices g (sliceStartSpec g) (psfSpec n g P0 (normFactor n P0))) :
    (look Num.zero M.1 0 = 1 ∧ look Num.zero M.2 0 = 1) ∧
    ∀ k, k < g - g / 2 →
      (0 ≤ look Num.zero M.1 k ∧ look Num.zero M.1 k ≤ look Num.zero M0.1 k ∧ look Num.zero M0.1 k ≤ 1) ∧
      (0 ≤ look Num.zero M.2 k ∧ look Num.zero M.2 k ≤ look Num.zero M0.2 k ∧ look Num.zero M0.2 k ≤ 1) := by
  have : NeZero g := neZero_of_le n g hg
  subst hP hP0 hM hM0
  -- the support, hence the normalisation, does not depend on the phase
  have hS0 : supportCount n (pupil mean mask I fun _ _ => 0) = supportCount n (pupil mean mask I W) := by
    rw [supportCount_pupil, supportCount_pupil]
  rw [normFactor_eq n (pupil mean mask I fun _ _ => 0), hS0, ← normFactor_eq]
  have hNpos : 0 < normFactor n (pupil mean mask I W) := by rw [normFactor_eq]; exact pow_pos hS 2
  have hnn := fun Q => psfSpec_nonneg n g hg Q (normFactor n (pupil mean mask I W)) hNpos
  have ht := psfSpec_total_pos n g hg mean mask I W hS
  have ht0 := psfSpec_total_pos n g hg mean mask I (fun _ _ => 0) (by rw [hS0]; exact hS)
  rw [normFactor_eq n (pupil mean mask I fun _ _ => 0), hS0, ← normFactor_eq] at ht0
  refine ⟨mtf_dc_one g _ (hnn _) ht, fun k hk => ?_⟩
  have hin := mtf_in_unit_interval g _ (hnn _) ht k hk
  have hin0 := mtf_in_unit_interval g _ (hnn _) ht0 k hk
  have hle := mtf_le_diffraction_limited n g (padWidth n g) (spec_fits n g hg) (pupil mean mask I W) _
    (zero_phase_pupil mean mask I W hA) _ hNpos ht k hk
  exact ⟨⟨hin.1.1, hle.1, hin0.1.2⟩, ⟨hin.2.1, hle.2, hin0.2.2⟩⟩

/-! #### the MTF data vanish from sample `num_rays` on -/

/-- a padded pupil row/column index shifted circularly by `k` with `n ≤ k ≤ gp − n` leaves the support -/
theorem shifted_out_of_support (n gp pad j k : ℕ) (hfit : pad + n ≤ gp) (hj : pad ≤ j ∧ j < pad + n)
    (hk : n ≤ k) (hk2 : k + n ≤ gp) : ¬ (pad ≤ (j + k) % gp ∧ (j + k) % gp < pad + n) := by
  by_cases h : j + k < gp
  · rw [Nat.mod_eq_of_lt h]; omega
  · rw [Nat.mod_eq_sub_mod (Nat.le_of_not_lt h), Nat.mod_eq_of_lt (by omega)]; omega

theorem shiftIdx_add (gp k : ℕ) (hk : gp / 2 + k < gp) : shiftIdx gp (gp / 2 + k) = k := by
  unfold shiftIdx
  rw [Nat.add_right_comm, Nat.add_sub_cancel' (Nat.div_le_self gp 2), Nat.add_mod_left,
    Nat.mod_eq_of_lt (lt_of_le_of_lt (Nat.le_add_left k _) hk)]

/-- the circular autocorrelation of the padded pupil vanishes for row (or column) shifts `k` with
`n ≤ k ≤ gp − n` -/
theorem autocorr_zero (n gp pad : ℕ) (hfit : pad + n ≤ gp) (P : ℕ → ℕ → Cx ℝ) (s1 s2 : ℕ)
    (hs : (n ≤ s1 ∧ s1 + n ≤ gp) ∨ (n ≤ s2 ∧ s2 + n ≤ gp)) :
    ∑ j1 ∈ range gp, ∑ j2 ∈ range gp,
      padC n pad P j1 j2 * (starRingEnd ℂ) (padC n pad P ((j1 + s1) % gp) ((j2 + s2) % gp)) = 0 := by
  refine sum_eq_zero fun j1 _ => sum_eq_zero fun j2 _ => ?_
  by_cases h1 : pad ≤ j1 ∧ j1 < pad + n
  · by_cases h2 : pad ≤ j2 ∧ j2 < pad + n
    · -- both factors inside the window: the shifted one is not
      rw [padC_eq n pad P ((j1 + s1) % gp)]
      rcases hs with ⟨ha, hb⟩ | ⟨ha, hb⟩
      · rw [if_neg (shifted_out_of_support n gp pad j1 s1 hfit h1 ha hb), map_zero, mul_zero]
      · rw [if_neg (shifted_out_of_support n gp pad j2 s2 hfit h2 ha hb), ite_self, map_zero, mul_zero]
    · rw [padC_eq n pad P j1 j2, if_neg h2, ite_self, zero_mul]
  · rw [padC_eq n pad P j1 j2, if_neg h1, zero_mul]

/-- sample `num_rays` is the cut-off of the MTF data: the transform of the PSF vanishes at every
row or column frequency index `k` with `num_rays ≤ k ≤ gp − num_rays` (the pupil is `num_rays`
samples wide, so its autocorrelation is zero from that shift on, until it wraps around) -/
theorem otf_zero_beyond_cutoff (n gp pad : ℕ) [NeZero gp] (hfit : pad + n ≤ gp) (P : ℕ → ℕ → Cx ℝ) (norm : ℝ)
    (k : ℕ) (hk : n ≤ k) (hk2 : k + n ≤ gp) (hk3 : gp / 2 + k < gp) :
    otfAbs gp (look2 Num.zero (psfTabG n gp pad P norm)) (gp / 2 + k) (gp / 2) = 0 ∧
    otfAbs gp (look2 Num.zero (psfTabG n gp pad P norm)) (gp / 2) (gp / 2 + k) = 0 := by
  -- Wiener–Khinchin: the transform of `|DFT₂(pad P)|²` is the autocorrelation, which vanishes at such a shift
  have hz : ∀ s1 s2, (n ≤ s1 ∧ s1 + n ≤ gp) ∨ (n ≤ s2 ∧ s2 + n ≤ gp) →
      |100 / norm| * ‖dft2R gp (powerC n gp pad P) s1 s2‖ = 0 := fun s1 s2 hs => by
    rw [show dft2R gp (powerC n gp pad P) s1 s2 = _ from wiener_khinchin2 gp (padC n pad P) s1 s2,
      autocorr_zero n gp pad hfit P s1 s2 hs, mul_zero, norm_zero, mul_zero]
  rw [otfAbs_psf, otfAbs_psf, shiftIdx_add gp k hk3, shiftIdx_centre]
  exact ⟨hz k 0 (Or.inl ⟨hk, hk2⟩), hz 0 k (Or.inr ⟨hk, hk2⟩)⟩

/-- the frequency axis is attached to the right samples (`FFTPSF` → `FFTMTF`, `/repo`): every
sample `k ≥ num_rays` of both MTF curves is zero (as long as `k ≤ grid_size − num_rays`, i.e. for the
whole plotted half-axis when `grid_size ≥ 2·num_rays`), while `cutoff_frequency` says that sample
`num_rays` of the axis is `1/(λ·10⁻³·FNO)`: the curves reach zero exactly at the stated cut-off.
(`cutoff_frequency` alone only relates two hand-written formulas.) -/
theorem mtf_zero_from_cutoff (n g : ℕ) [NeZero n] (hg : n ≤ g) (P : ℕ → ℕ → Cx ℝ) (norm : ℝ) (hn : 0 < norm)
    (k : ℕ) (hk : n ≤ k) (hk2 : k + n ≤ g) (hk3 : k < g - g / 2) :
    look Num.zero (mtfSlices g (sliceStartSpec g) (psfSpec n g P norm)).1 k = 0 ∧
    look Num.zero (mtfSlices g (sliceStartSpec g) (psfSpec n g P norm)).2 k = 0 := by
  have : NeZero g := neZero_of_le n g hg
  have h := mtfSlices_eq g (psfSpec n g P norm) (psfSpec_nonneg n g hg P norm hn) k hk3
  have hz := otf_zero_beyond_cutoff n g (padWidth n g) (spec_fits n g hg) P norm k hk hk2
    (Nat.add_lt_of_lt_sub' hk3)
  rw [← psfSpec_fun] at hz
  unfold sliceStartSpec
  rw [h.1, h.2, hz.1, hz.2, zero_div]
  exact ⟨rfl, rfl⟩

/-- non-vacuity of the index window: the default `num_rays = 128`, `grid_size = 1024`, samples 128 … 511 -/
example : ∀ k, 128 ≤ k → k < 1024 - 1024 / 2 → k + 128 ≤ 1024 := by omega

/-- Strehl clause on `/repo`: `strehl_ratio()` reads pixel `grid_size//2` of the
`grid_size²` array; with the amplitude normalised over the transmitted samples it never exceeds one
(restates `strehl_le_one_spec` for `psfSpec`). -/
theorem strehl_le_one_psfSpec (n g : ℕ) [NeZero n] (hg : n ≤ g)
    (mean : ℝ) (mask : ℕ → ℕ → Bool) (I W : ℕ → ℕ → ℝ)
    (hA : ∀ r c, r < n → c < n → 0 ≤ amp mean mask I r c)
    (hsum : ∑ r ∈ range n, ∑ c ∈ range n, amp mean mask I r c = supportCount n (pupil mean mask I W))
    (hS : 0 < supportCount n (pupil mean mask I W)) :
    strehlCode g (psfSpec n g (pupil mean mask I W) (normFactor n (pupil mean mask I W))) ≤ 1 :=
  strehl_le_one_spec n g hg mean mask I W hA hsum hS

/-- FULL STATEMENT (false on the tree, F17): `strehlCode … ≤ 1` for every pupil normalised as the
code normalises it (`Σ A = #samples in the mask`).  Proved part: pupils without blocked samples
(`A > 0` on the whole mask, so `#support = #mask`) and even `grid_size − num_rays`. -/
theorem strehl_le_one_partial (n g : ℕ) [NeZero n] (hg : n ≤ g) (heven : (g - n) % 2 = 0)
    (mean : ℝ) (mask : ℕ → ℕ → Bool) (I W : ℕ → ℕ → ℝ)
    (hA : ∀ r c, r < n → c < n → 0 ≤ amp mean mask I r c)
    (hcode : ∑ r ∈ range n, ∑ c ∈ range n, amp mean mask I r c
              = ∑ r ∈ range n, ∑ c ∈ range n, if mask r c then (1 : ℝ) else 0)
    (hfull : ∀ r c, r < n → c < n → mask r c = true → amp mean mask I r c ≠ 0)
    (hS : 0 < supportCount n (pupil mean mask I W)) :
    strehlCode g (psfGrid n g (pupil mean mask I W) (normFactor n (pupil mean mask I W))) ≤ 1 := by
  have hsum : ∑ r ∈ range n, ∑ c ∈ range n, amp mean mask I r c = supportCount n (pupil mean mask I W) := by
    rw [hcode, supportCount_pupil]
    refine sum_congr rfl fun r hr => sum_congr rfl fun c hc => ?_
    by_cases hm : mask r c = true
    · rw [if_pos hm, if_pos (hfull r c (mem_range.mp hr) (mem_range.mp hc) hm)]
    · rw [if_neg hm, if_neg (not_not.mpr (show amp mean mask I r c = 0 from if_neg hm))]
  rw [← psfSpec_eq_psfGrid n g hg heven]
  exact strehl_le_one_psfSpec n g hg mean mask I W hA hsum hS

/-- non-vacuity of the amplitude hypotheses on a pupil that is not a single sample: 3×3 raster, the
four corners outside the mask, one blocked sample (intensity 0) inside, amplitudes normalised over
the 4 transmitted samples (`mean = 1/2 = (4 · 1/2)/4`), a non-trivial phase map -/
example : ∃ (n : ℕ) (mean : ℝ) (mask : ℕ → ℕ → Bool) (I W : ℕ → ℕ → ℝ),
    (∀ r c, 0 ≤ amp mean mask I r c) ∧
    (∑ r ∈ range n, ∑ c ∈ range n, amp mean mask I r c = supportCount n (pupil mean mask I W)) ∧
    supportCount n (pupil mean mask I W) = 4 := by
  refine ⟨3, 1 / 2, fun r c => decide (r = 1 ∨ c = 1), fun r c => if r = 1 ∧ c = 1 then 0 else 1 / 2,
    fun r c => (r : ℝ) / 3 - c, ?_, ?_, ?_⟩
  · intro r c
    unfold amp
    dsimp only
    split_ifs <;> norm_num
  · rw [supportCount_pupil]
    simp only [sum_range_succ, sum_range_zero, amp]
    norm_num
  · rw [supportCount_pupil]
    simp only [sum_range_succ, sum_range_zero, amp]
    norm_num

/-! ### working F-number (`FFTMTF._get_fno`) -/

/-- the variant with `p = EPD/XPD` instead of `XPD/EPD` is `workingFno` with the two pupil diameters swapped.
The two values coincide exactly when `m = 0` or `p = ±1`. -/
theorem workingFno_pupil_mag_slip_iff (fno xpd epd m : ℝ) (hf : fno ≠ 0) (hx : xpd ≠ 0) (he : epd ≠ 0) :
    workingFno fno false epd xpd m = workingFno fno false xpd epd m ↔
      m = 0 ∨ xpd = epd ∨ xpd = -epd := by
  -- cancel `fno` and the `1`, clear the denominators: `|m|·xpd² = |m|·epd²`
  rw [workingFno_finite, workingFno_finite, mul_right_inj' hf, add_right_inj, div_div_eq_mul_div,
    div_div_eq_mul_div, div_eq_div_iff he hx, mul_assoc, mul_assoc, mul_eq_mul_left_iff,
    mul_self_eq_mul_self_iff, abs_eq_zero, or_comm]

/-- … hence for positive pupil diameters they differ whenever `p ≠ 1` and `m ≠ 0` -/
theorem workingFno_pupil_mag_slip_differs (fno xpd epd m : ℝ) (hf : fno ≠ 0) (hx : 0 < xpd) (he : 0 < epd)
    (hp : xpd / epd ≠ 1) (hm : m ≠ 0) :
    workingFno fno false epd xpd m ≠ workingFno fno false xpd epd m := by
  intro h
  rcases (workingFno_pupil_mag_slip_iff fno xpd epd m hf hx.ne' he.ne').mp h with h | h | h
  · exact hm h
  · exact hp (by rw [h]; exact div_self he.ne')
  · linarith

example : ∃ fno xpd epd m : ℝ, fno ≠ 0 ∧ 0 < xpd ∧ 0 < epd ∧ xpd / epd ≠ 1 ∧ m ≠ 0 :=
  ⟨4, 3, 2, -1 / 2, by norm_num, by norm_num, by norm_num, by norm_num, by norm_num⟩

/-- `1/(2|u'|) = FNO·|1 − m/p|` for the marginal ray through conjugate pupil planes, whatever the sign
of the magnification: with `p = XPD/EPD = A`, `D = 1/A` and `u' = C·EPD/2 + D·u0` one has
`1 − m/p = C·EPD/(2u')`, and `FNO = 1/(|C|·EPD)`. -/
theorem half_inverse_marginal_slope (A B C D epd xpd u0 u' f : ℝ)
    (hdet : A * D - B * C = 1) (hB : B = 0)
    (hy : xpd / 2 = A * (epd / 2) + B * u0) (hu : u' = C * (epd / 2) + D * u0)
    (hf : f = -1 / C) (hC : C ≠ 0) (he : 0 < epd) (hx : 0 < xpd) (hu' : u' ≠ 0) :
    |f| / epd * |1 - u0 / u' / (xpd / epd)| = 1 / (2 * |u'|) := by
  have hA : xpd / epd = A := by rw [div_eq_iff he.ne']; linear_combination 2 * hy + (2 * u0) * hB
  have hA0 : A ≠ 0 := hA ▸ (div_pos hx he).ne'
  -- `det = 1` with `B = 0` gives `D = 1/A`, so `u' = C·EPD/2 + u0/A`; clear `u'·A` and `2u'`
  have key : 1 - u0 / u' / A = C * epd / (2 * u') := by
    field_simp
    linear_combination (2 * A) * hu + (2 * u0) * hdet + (2 * u0 * C) * hB
  have hC' := abs_ne_zero.mpr hC
  have hu'' := abs_ne_zero.mpr hu'
  rw [hA, key, hf, abs_div, abs_div, abs_mul, abs_mul, abs_neg, abs_one, abs_two, abs_of_pos he]
  field_simp

/-- working F-number = `1/(2|u'|)`, `n = n' = 1`.  `[[A,B],[C,D]]` is the paraxial transfer matrix from
the entrance-pupil plane to the exit-pupil plane (`det = 1`: `C04.ptrace_eq_matrix`, `lagrange_invariant`;
`B = 0`: the planes are conjugate, `C04.XPL_is_stop_conjugate`), `f = -1/C` is `Paraxial.f2`
(`C04.f2_F2_eq_matrix`), the marginal ray is `(EPD/2, u0) ↦ (XPD/2, u')` and `m = u0/u'` is
`Paraxial.magnification` for `n = n' = 1` without mirrors.  HYPOTHESES NEEDED: `m ≤ 0` (real, inverted
image) and `XPD, EPD > 0`.  The general identity is `1/(2|u'|) = FNO·|1 − m/p|`
(`half_inverse_marginal_slope`); the code's `1 + |m|/p` is that value only for `m/p ≤ 0` (see
`workingFno_not_half_inverse_slope_erect`).
No assumption on the position of the image surface is needed.  For the model `Model/Parax.lean`
itself the statement is instantiated in `workingFno_parax_stop_lens_partial` below. -/
theorem workingFno_is_half_inverse_marginal_slope (A B C D epd xpd u0 u' f : ℝ)
    (hdet : A * D - B * C = 1) (hB : B = 0)
    (hy : xpd / 2 = A * (epd / 2) + B * u0) (hu : u' = C * (epd / 2) + D * u0)
    (hf : f = -1 / C) (hC : C ≠ 0) (he : 0 < epd) (hx : 0 < xpd) (hu' : u' ≠ 0)
    (hm : u0 / u' ≤ 0) :
    workingFno (|f| / epd) false xpd epd (u0 / u') = 1 / (2 * |u'|) := by
  rw [← half_inverse_marginal_slope A B C D epd xpd u0 u' f hdet hB hy hu hf hC he hx hu', workingFno_finite,
    abs_of_nonpos hm, neg_div, ← sub_eq_add_neg,
    abs_of_nonneg (sub_nonneg.mpr ((div_nonpos_of_nonpos_of_nonneg hm (div_pos hx he).le).trans zero_le_one))]

example : ∃ A B C D epd xpd u0 u' f : ℝ, A * D - B * C = 1 ∧ B = 0 ∧ xpd / 2 = A * (epd / 2) + B * u0 ∧
    u' = C * (epd / 2) + D * u0 ∧ f = -1 / C ∧ C ≠ 0 ∧ 0 < epd ∧ 0 < xpd ∧ u' ≠ 0 ∧ u0 / u' ≤ 0 ∧ xpd ≠ epd :=
  ⟨2, 0, -1 / 50, 1 / 2, 10, 20, 1 / 20, -3 / 40, 50, by norm_num, rfl, by norm_num, by norm_num, by norm_num,
    by norm_num, by norm_num, by norm_num, by norm_num, by norm_num, by norm_num⟩

/-- NEGATION WITNESS for dropping `m ≤ 0`: a virtual, erect image (`m = 2`, `f = 1`, `p = 1`): `_get_fno`
gives 3 whereas `1/(2|u'|) = 1`.  (No real image, hence no PSF on a detector: outside the property's range;
recorded because `abs(m)` in `_get_fno` silently assumes `m/p ≤ 0`.) -/
theorem workingFno_not_half_inverse_slope_erect :
    ∃ A B C D epd xpd u0 u' f : ℝ, A * D - B * C = 1 ∧ B = 0 ∧ xpd / 2 = A * (epd / 2) + B * u0 ∧
      u' = C * (epd / 2) + D * u0 ∧ f = -1 / C ∧ C ≠ 0 ∧ 0 < epd ∧ 0 < xpd ∧ u' ≠ 0 ∧ 0 < u0 / u' ∧
      workingFno (|f| / epd) false xpd epd (u0 / u') ≠ 1 / (2 * |u'|) := by
  refine ⟨1, 0, -1, 1, 1, 1, 1, 1 / 2, 1, by norm_num, rfl, by norm_num, by norm_num, by norm_num,
    by norm_num, by norm_num, by norm_num, by norm_num, by norm_num, ?_⟩
  rw [workingFno_finite]
  norm_num

/-- the MTF cut-off `1/(λ·Fw)` of `FFTMTF` is `2·|u'|/λ` (λ in mm = `wl/1000`): twice the image-space
numerical aperture of the paraxial marginal ray over the wavelength — an independent definition. -/
theorem cutoff_is_two_NA_over_lambda (A B C D epd xpd u0 u' f wl : ℝ)
    (hdet : A * D - B * C = 1) (hB : B = 0)
    (hy : xpd / 2 = A * (epd / 2) + B * u0) (hu : u' = C * (epd / 2) + D * u0)
    (hf : f = -1 / C) (hC : C ≠ 0) (he : 0 < epd) (hx : 0 < xpd) (hu' : u' ≠ 0)
    (hm : u0 / u' ≤ 0) (hw : wl ≠ 0) :
    maxFreq wl (workingFno (|f| / epd) false xpd epd (u0 / u')) = 2 * |u'| / (wl / 1000) := by
  have : |u'| ≠ 0 := abs_ne_zero.mpr hu'
  rw [workingFno_is_half_inverse_marginal_slope A B C D epd xpd u0 u' f hdet hB hy hu hf hC he hx hu' hm,
    maxFreq_eq]
  field_simp

/-! ### normalisation for ANY mask (obstructed, clipped, vignetted) -/

/-- uniform illumination `i0`; the samples marked `blocked` carry intensity 0 (vignetted rays) -/
noncomputable def uniformI (i0 : ℝ) (blocked : ℕ → ℕ → Bool) (r c : ℕ) : ℝ := if blocked r c then 0 else i0

/-- number of samples inside the mask (= number of TRACED rays) -/
noncomputable def maskCount (n : ℕ) (mask : ℕ → ℕ → Bool) : ℝ :=
  ∑ r ∈ range n, ∑ c ∈ range n, if mask r c = true then 1 else 0

/-- number of transmitted samples -/
noncomputable def transCount (n : ℕ) (mask blocked : ℕ → ℕ → Bool) : ℝ :=
  ∑ r ∈ range n, ∑ c ∈ range n, if (mask r c && !blocked r c) = true then 1 else 0

/-- with `mean = i0` the amplitude is the indicator of the transmitted samples -/
theorem amp_uniform (i0 : ℝ) (hi : i0 ≠ 0) (mask blocked : ℕ → ℕ → Bool) (r c : ℕ) :
    amp i0 mask (uniformI i0 blocked) r c = if (mask r c && !blocked r c) = true then 1 else 0 := by
  unfold amp uniformI
  cases mask r c <;> cases blocked r c <;> simp [hi]

theorem sum_amp_uniform (n : ℕ) (i0 : ℝ) (hi : i0 ≠ 0) (mask blocked : ℕ → ℕ → Bool) :
    ∑ r ∈ range n, ∑ c ∈ range n, amp i0 mask (uniformI i0 blocked) r c = transCount n mask blocked :=
  sum_congr rfl fun r _ => sum_congr rfl fun c _ => amp_uniform i0 hi mask blocked r c

theorem supportCount_uniform (n : ℕ) (i0 : ℝ) (hi : i0 ≠ 0) (mask blocked : ℕ → ℕ → Bool) (W : ℕ → ℕ → ℝ) :
    supportCount n (pupil i0 mask (uniformI i0 blocked) W) = transCount n mask blocked := by
  rw [supportCount_pupil]
  refine sum_congr rfl fun r _ => sum_congr rfl fun c _ => ?_
  rw [amp_uniform i0 hi]
  by_cases h : (mask r c && !blocked r c) = true
  · rw [if_pos h, if_pos (one_ne_zero (α := ℝ))]
  · rw [if_neg h, if_neg (not_not.mpr rfl)]

theorem amp_uniform_nonneg (i0 : ℝ) (hi : i0 ≠ 0) (mask blocked : ℕ → ℕ → Bool) (r c : ℕ) :
    0 ≤ amp i0 mask (uniformI i0 blocked) r c := by
  rw [amp_uniform i0 hi]
  exact ite_nonneg zero_le_one (le_refl _)

theorem transCount_pos (n : ℕ) (mask blocked : ℕ → ℕ → Bool)
    (hT : ∃ r c, r < n ∧ c < n ∧ mask r c = true ∧ blocked r c = false) : 0 < transCount n mask blocked := by
  obtain ⟨r, c, hr, hc, hm, hb⟩ := hT
  refine (sum_sum_pos_iff (fun _ _ => ite_nonneg zero_le_one (le_refl _)) n).mpr
    ⟨r, mem_range.mpr hr, c, mem_range.mpr hc, ?_⟩
  rw [hm, hb]
  exact one_pos

/-- the intensity-mean over the transmitted samples of a uniformly illuminated, partly blocked ray
list is the illumination itself (so `mean = i0` below is `meanSpec`) … -/
theorem rsum_uniform (i0 : ℝ) (hi : i0 ≠ 0) (b : ℕ → Bool) (m : ℕ) :
    rsum (fun i => if b i = true then (0 : ℝ) else i0) m
      = i0 * (countNonzero (fun i => if b i = true then (0 : ℝ) else i0) m : ℕ) := by
  induction m with
  | zero => exact (mul_zero i0).symm.trans (congrArg _ Nat.cast_zero.symm)
  | succ m ih =>
    rw [rsum, countNonzero, ih, Nat.cast_add, mul_add]
    congr 1
    cases b m <;> simp [hi, NumReal.isZero_eq]

/-- uniformly illuminated ray list with blocked rays: the mean over the transmitted rays is the illumination
(so `mean = i0` in the theorems below is `meanSpec`, what `/repo` computes) … -/
theorem meanSpec_uniform (i0 : ℝ) (hi : i0 ≠ 0) (b : ℕ → Bool) (m : ℕ)
    (hc : countNonzero (fun i => if b i = true then (0 : ℝ) else i0) m ≠ 0) :
    meanSpec (fun i => if b i = true then (0 : ℝ) else i0) m = i0 := by
  rw [meanSpec_eq, rsum_uniform i0 hi, mul_div_cancel_right₀ _ (Nat.cast_ne_zero.mpr hc)]

/-- … whereas `np.mean` over all `m` traced rays gives `i0 · T / m` -/
theorem meanCode_uniform (i0 : ℝ) (hi : i0 ≠ 0) (b : ℕ → Bool) (m : ℕ) :
    meanCode (fun i => if b i = true then (0 : ℝ) else i0) m
      = i0 * (countNonzero (fun i => if b i = true then (0 : ℝ) else i0) m : ℕ) / m := by
  rw [meanCode_eq, rsum_uniform i0 hi]

/-- any mask: for a uniformly illuminated pupil with an arbitrary mask (clipped) and arbitrary blocked
samples inside it (obstructed, vignetted), zero phase: `_get_normalization` is `T²`, `T` the number of
transmitted samples, the central pixel of the `grid_size²` PSF is exactly 100 and no pixel exceeds 100.
All hypotheses of `psfSpec_unaberrated_peak_is_100` are discharged; only `T ≥ 1` remains. -/
theorem psfSpec_peak_100_any_mask (n g : ℕ) [NeZero n] (hg : n ≤ g) (i0 : ℝ) (hi : i0 ≠ 0)
    (mask blocked : ℕ → ℕ → Bool) (P : ℕ → ℕ → Cx ℝ)
    (hP : P = pupil i0 mask (uniformI i0 blocked) fun _ _ => 0)
    (hT : ∃ r c, r < n ∧ c < n ∧ mask r c = true ∧ blocked r c = false) :
    normFactor n P = transCount n mask blocked ^ 2 ∧
    psfSpec n g P (normFactor n P) (g / 2) (g / 2) = 100 ∧
    ∀ r c, r < g → c < g → psfSpec n g P (normFactor n P) r c ≤ 100 := by
  have hS : supportCount n P = transCount n mask blocked := by rw [hP]; exact supportCount_uniform n i0 hi _ _ _
  refine ⟨by rw [normFactor_eq, hS], ?_⟩
  exact psfSpec_unaberrated_peak_is_100 n g hg i0 mask (uniformI i0 blocked) P hP
    (fun r c _ _ => amp_uniform_nonneg i0 hi mask blocked r c)
    (by rw [hS]; exact sum_amp_uniform n i0 hi mask blocked)
    (by rw [hS]; exact transCount_pos n mask blocked hT)

/-- sample by sample: a transmitted sample lies inside the mask, with equality of the two indicators
exactly when a sample inside the mask is not blocked -/
theorem trans_le_mask (m b : Bool) :
    ((if (m && !b) = true then (1 : ℝ) else 0) ≤ if m = true then 1 else 0) ∧
    (((if (m && !b) = true then (1 : ℝ) else 0) = if m = true then 1 else 0) ↔ (m = true → b = false)) := by
  cases m <;> cases b <;> simp

theorem transCount_le_maskCount (n : ℕ) (mask blocked : ℕ → ℕ → Bool) :
    transCount n mask blocked ≤ maskCount n mask :=
  sum_le_sum fun r _ => sum_le_sum fun c _ => (trans_le_mask (mask r c) (blocked r c)).1

theorem transCount_eq_maskCount_iff (n : ℕ) (mask blocked : ℕ → ℕ → Bool) :
    transCount n mask blocked = maskCount n mask ↔
      ∀ r c, r < n → c < n → mask r c = true → blocked r c = false := by
  unfold transCount maskCount
  rw [sum_eq_sum_iff_of_le fun r _ => sum_le_sum fun c _ => (trans_le_mask (mask r c) (blocked r c)).1]
  simp_rw [sum_eq_sum_iff_of_le fun c _ => (trans_le_mask (mask _ c) (blocked _ c)).1, mem_range,
    (trans_le_mask _ _).2]
  exact ⟨fun h r c hr hc => h r hr c hc, fun h r hr c hc => h r c hr hc⟩

/-- the variant normalising by the square of the number of TRACED rays (`maskCount`) gives a central
value `100·(T/M)²`, which is the required 100 iff no sample inside the mask is blocked. -/
theorem psfSpec_norm_by_traced_rays (n g : ℕ) [NeZero n] (hg : n ≤ g) (i0 : ℝ) (hi : i0 ≠ 0)
    (mask blocked : ℕ → ℕ → Bool) (P : ℕ → ℕ → Cx ℝ)
    (hP : P = pupil i0 mask (uniformI i0 blocked) fun _ _ => 0)
    (hM : 0 < maskCount n mask) :
    psfSpec n g P (maskCount n mask ^ 2) (g / 2) (g / 2)
      = 100 * (transCount n mask blocked / maskCount n mask) ^ 2 ∧
    (psfSpec n g P (maskCount n mask ^ 2) (g / 2) (g / 2) = 100 ↔
      ∀ r c, r < n → c < n → mask r c = true → blocked r c = false) := by
  have : NeZero g := neZero_of_le n g hg
  have hval : psfSpec n g P (maskCount n mask ^ 2) (g / 2) (g / 2)
      = 100 * (transCount n mask blocked / maskCount n mask) ^ 2 := by
    rw [hP, div_pow, mul_comm, ← sum_amp_uniform n i0 hi]
    exact psfTabG_centre_zero_phase n g _ (spec_fits n g hg) i0 mask _ _
  have hT0 : 0 ≤ transCount n mask blocked / maskCount n mask :=
    div_nonneg (sum_nonneg fun r _ => sum_nonneg fun c _ => ite_nonneg zero_le_one (le_refl _)) hM.le
  refine ⟨hval, ?_⟩
  rw [hval, ← transCount_eq_maskCount_iff, mul_eq_left₀ (by norm_num), pow_eq_one_iff_of_nonneg hT0 two_ne_zero,
    div_eq_one_iff_eq hM.ne']

/-- Strehl ratio for ANY mask / obstruction and ANY wavefront `W`: at most one (triangle inequality on the
DFT centre sample), and exactly one for `W = 0`; no hypothesis on amplitudes left. -/
theorem strehl_any_mask (n g : ℕ) [NeZero n] (hg : n ≤ g) (i0 : ℝ) (hi : i0 ≠ 0)
    (mask blocked : ℕ → ℕ → Bool) (W : ℕ → ℕ → ℝ)
    (hT : ∃ r c, r < n ∧ c < n ∧ mask r c = true ∧ blocked r c = false) :
    strehlCode g (psfSpec n g (pupil i0 mask (uniformI i0 blocked) W)
      (normFactor n (pupil i0 mask (uniformI i0 blocked) W))) ≤ 1 ∧
    strehlCode g (psfSpec n g (pupil i0 mask (uniformI i0 blocked) fun _ _ => 0)
      (normFactor n (pupil i0 mask (uniformI i0 blocked) fun _ _ => 0))) = 1 := by
  constructor
  · exact strehl_le_one_psfSpec n g hg i0 mask (uniformI i0 blocked) W
      (fun r c _ _ => amp_uniform_nonneg i0 hi mask blocked r c)
      (by rw [supportCount_uniform n i0 hi]; exact sum_amp_uniform n i0 hi mask blocked)
      (by rw [supportCount_uniform n i0 hi]; exact transCount_pos n mask blocked hT)
  · have h := (psfSpec_peak_100_any_mask n g hg i0 hi mask blocked _ rfl hT).2.1
    unfold strehlCode
    rw [strehlAt_eq, h, div_self (by norm_num)]

example : ∃ (n : ℕ) (mask blocked : ℕ → ℕ → Bool), (∃ r c, r < n ∧ c < n ∧ mask r c = true ∧ blocked r c = false) ∧
    (∃ r c, r < n ∧ c < n ∧ mask r c = true ∧ blocked r c = true) ∧ (∃ r c, r < n ∧ c < n ∧ mask r c = false) :=
  ⟨3, fun r c => decide (r = 1 ∨ c = 1), fun r c => decide (r = 1 ∧ c = 1),
    ⟨0, 1, by decide⟩, ⟨1, 1, by decide⟩, ⟨0, 0, by decide⟩⟩

/-! ### odd and even grid sizes: index conventions, symmetry of the MTF -/

/-- index conventions for even AND odd `grid_size`: zero frequency sits at `g//2` after `fftshift`; pixel
`g//2 + k` holds frequency `+k`, pixel `g//2 − k` holds `−k` (`= g − k` mod `g`); the slices
`data[g//2:]` have `g − g//2 = ⌈g/2⌉` samples (`g/2` for even, `g//2 + 1` for odd `g`) -/
theorem fftshift_index_convention (g : ℕ) (hg : 0 < g) :
    shiftIdx g (g / 2) = 0 ∧
    (∀ k, g / 2 + k < g → shiftIdx g (g / 2 + k) = k) ∧
    (∀ k, 1 ≤ k → k ≤ g / 2 → shiftIdx g (g / 2 - k) = g - k) ∧
    g - sliceStartSpec g = (g + 1) / 2 ∧
    (g % 2 = 0 → g - sliceStartSpec g = g / 2) ∧ (g % 2 = 1 → g - sliceStartSpec g = g / 2 + 1) := by
  refine ⟨shiftIdx_centre g, fun k hk => shiftIdx_add g k hk, fun k h1 h2 => ?_, ?_, ?_, ?_⟩
  · unfold shiftIdx
    have : g / 2 - k + (g - g / 2) = g - k := by omega
    rw [this]
    exact Nat.mod_eq_of_lt (by omega)
  all_goals
    unfold sliceStartSpec
    omega

/-- symmetry of the MTF: the PSF is real, so `|FFT₂(psf)|` at `−k` equals the value at `+k`, along
rows and along columns, for every parity of the grid: the half-axis that `FFTMTF` keeps loses nothing. -/
theorem mtf_symmetric (gp : ℕ) [NeZero gp] (psf : ℕ → ℕ → ℝ) (k : ℕ) (h1 : 1 ≤ k) (h2 : k ≤ gp / 2)
    (h3 : gp / 2 + k < gp) :
    otfAbs gp psf (gp / 2 - k) (gp / 2) = otfAbs gp psf (gp / 2 + k) (gp / 2) ∧
    otfAbs gp psf (gp / 2) (gp / 2 - k) = otfAbs gp psf (gp / 2) (gp / 2 + k) := by
  obtain ⟨hc, hp, hm, -⟩ := fftshift_index_convention gp (NeZero.pos gp)
  -- the transform of a real array at `−k` is the conjugate of its value at `k`
  have hconj : ∀ k1 k2 k1' k2', (k1 + k1') % gp = 0 → (k2 + k2') % gp = 0 →
      ‖dft2R gp (realC psf) k1' k2'‖ = ‖dft2R gp (realC psf) k1 k2‖ := by
    intro k1 k2 k1' k2' e1 e2
    rw [← Complex.norm_conj (dft2R gp (realC psf) k1 k2), conj_dft2R gp _ k1 k2 k1' k2' e1 e2,
      dft2R_congr gp (fun r c => (starRingEnd ℂ) (realC psf r c)) (realC psf)
        fun r c _ _ => Complex.conj_ofReal _]
  have hk : (k + (gp - k)) % gp = 0 := by
    rw [Nat.add_sub_cancel' (h2.trans (Nat.div_le_self gp 2)), Nat.mod_self]
  unfold otfAbs
  rw [hc, hp k h3, hm k h1 h2]
  exact ⟨hconj k 0 (gp - k) 0 hk (Nat.zero_mod gp), hconj 0 k 0 (gp - k) (Nat.zero_mod gp) hk⟩

example : ∃ gp k : ℕ, 1 ≤ k ∧ k ≤ gp / 2 ∧ gp / 2 + k < gp ∧ gp % 2 = 1 := ⟨65, 32, by omega⟩

/-! ### frequency step and PSF extent; geometric MTF axis and scaling -/

/-- `_get_psf_units` vs. the MTF axis: frequency step × extent of the `grid_size` image = 1
(in cycles/mm × µm: 1000) — the DFT duality `Δν = 1/(G·Δx)` -/
theorem freq_step_times_extent (n g : ℕ) (hn : n ≠ 0) (hg : g ≠ 0) (wl fno : ℝ) (hw : wl ≠ 0) (hf : fno ≠ 0) :
    freqStepSpec n wl fno * psfExtent n g g wl fno = 1000 := by
  have hn' : (n : ℝ) ≠ 0 := Nat.cast_ne_zero.mpr hn
  have hg' : (g : ℝ) ≠ 0 := Nat.cast_ne_zero.mpr hg
  have h : psfExtent n g g wl fno = g * (wl * fno / (g / n)) := by
    unfold psfExtent
    rw [NumReal.ofNat_eq, NumReal.ofNat_eq]
  rw [freqStepSpec_eq, h]
  field_simp

/-- the diffraction-limit factor `(2/π)(φ − cos φ sin φ)` lies in `[0, 1]` on `0 ≤ ν/ν_c ≤ 1` -/
theorem diff_limit_in_unit_interval (ratio : ℝ) (h0 : 0 ≤ ratio) (h1 : ratio ≤ 1) :
    0 ≤ diffLimit ratio ∧ diffLimit ratio ≤ 1 := by
  rw [diffLimit_eq]
  have hpi := Real.pi_pos
  obtain ⟨φ, hφ⟩ : ∃ φ, φ = Real.arccos ratio := ⟨_, rfl⟩
  rw [← hφ]
  have hφ0 : 0 ≤ φ := hφ ▸ Real.arccos_nonneg ratio
  have hφ1 : φ ≤ π / 2 := hφ ▸ Real.arccos_le_pi_div_two.mpr h0
  have hs0 : 0 ≤ Real.sin φ := Real.sin_nonneg_of_nonneg_of_le_pi hφ0 (hφ1.trans (half_le_self hpi.le))
  have hc0 : 0 ≤ Real.cos φ := by
    rw [hφ, Real.cos_arccos (neg_one_lt_zero.le.trans h0) h1]
    exact h0
  -- `0 ≤ cos φ sin φ ≤ sin φ ≤ φ ≤ π/2`
  have hcs : Real.cos φ * Real.sin φ ≤ φ :=
    (mul_le_of_le_one_left hs0 (Real.cos_le_one φ)).trans (Real.sin_le hφ0)
  have hcs0 : 0 ≤ Real.cos φ * Real.sin φ := mul_nonneg hc0 hs0
  have h2pi : 0 ≤ 2 / π := (div_pos two_pos hpi).le
  refine ⟨mul_nonneg h2pi (sub_nonneg.mpr hcs), ?_⟩
  calc 2 / π * (φ - Real.cos φ * Real.sin φ) ≤ 2 / π * (π / 2) :=
        mul_le_mul_of_nonneg_left ((sub_le_self _ hcs0).trans hφ1) h2pi
    _ = 1 := by rw [div_mul_div_comm, mul_comm, div_self (mul_ne_zero hpi.ne' two_ne_zero)]

/-- geometric MTF: `freq = linspace(0, max_freq, num_points)` starts at 0, ends at the cut-off, stays between -/
theorem geo_freq_axis (numPoints : ℕ) (hN : 2 ≤ numPoints) (maxF : ℝ) (hF : 0 ≤ maxF) :
    linspace numPoints (Num.zero : ℝ) maxF 0 = 0 ∧
    linspace numPoints (Num.zero : ℝ) maxF (numPoints - 1) = maxF ∧
    ∀ k, k < numPoints → 0 ≤ linspace numPoints (Num.zero : ℝ) maxF k ∧
      linspace numPoints (Num.zero : ℝ) maxF k ≤ maxF := by
  have hN1 : ¬ numPoints ≤ 1 := Nat.not_le.mpr hN
  refine ⟨?_, linspace_last _ _ _ hN1, linspace_mem numPoints 0 maxF hF hN1⟩
  rw [linspace_interior _ _ _ 0 hN1 (by omega), Nat.cast_zero, zero_mul, zero_add]
  rfl

/-- every scaled geometric MTF sample lies in `[0, diff-limit] ⊆ [0, 1]` -/
theorem geometric_mtf_scaled_in_unit_interval (A xc : ℕ → ℝ) (dx : ℝ) (nb : ℕ) (v ratio : ℝ)
    (hdx : dx ≠ 0) (hnn : ∀ j, j < nb → 0 ≤ A j) (hA : 0 < ∑ j ∈ range nb, A j)
    (h0 : 0 ≤ ratio) (h1 : ratio ≤ 1) :
    0 ≤ geoMtfAt A xc dx nb v * diffLimit ratio ∧
    geoMtfAt A xc dx nb v * diffLimit ratio ≤ diffLimit ratio ∧ diffLimit ratio ≤ 1 := by
  obtain ⟨hd0, hd1⟩ := diff_limit_in_unit_interval ratio h0 h1
  have hg0 : 0 ≤ geoMtfAt A xc dx nb v := by
    rw [geometric_mtf_is_line_spread_ft A xc dx nb v hdx hA]
    exact div_nonneg (norm_nonneg _) hA.le
  exact ⟨mul_nonneg hg0 hd0, geometric_mtf_le_diff_limit A xc dx nb v _ hdx hnn hA hd0, hd1⟩

/-- non-vacuity of the guards of `geo_freq_axis`, `diff_limit_in_unit_interval`, `psfSpec_norm_by_traced_rays` -/
example : ∃ (numPoints : ℕ) (maxF ratio : ℝ), 2 ≤ numPoints ∧ 0 ≤ maxF ∧ 0 ≤ ratio ∧ ratio ≤ 1 :=
  ⟨50, 200, 1 / 2, by norm_num, by norm_num, by norm_num, by norm_num⟩
example : 0 < maskCount 2 (fun _ _ => true) := by
  unfold maskCount; simp

/-! ### the working F-number evaluated on `Model/Parax.lean` -/
section ParaxTie
open Model

/-- the equations over ℝ of `pstepStd` and `pstepImg` on a literal surface without decentre -/
theorem pstepStd_refr (y u z dz r n1 n2 : ℝ) (st : Bool) :
    pstepStd (⟨y, u, z⟩ : PRay ℝ) ⟨.standard, 0, dz, r, n1, n2, false, st⟩
      = ⟨y + (dz - z) * u, 1 / n2 * (n1 * u - (y + (dz - z) * u) * ((n2 - n1) / r)), dz⟩ := by
  unfold pstepStd
  num_real
  simp only [sub_zero, add_zero, neg_sub, sub_add_sub_cancel, sub_self, zero_add, Bool.false_eq_true, if_false]

theorem pstepImg_eq (y u z dz : ℝ) (a b c : ℝ) (b1 b2 : Bool) :
    pstepImg (⟨y, u, z⟩ : PRay ℝ) ⟨.image, 0, dz, a, b, c, b1, b2⟩ = ⟨y + (dz - z) * u, u, 0⟩ := by
  unfold pstepImg
  num_real
  simp only [sub_zero, neg_sub, sub_add_sub_cancel, sub_self]

/-- a ray through the thin lens (front surface of radius `R`, flat back surface at the same `z = t`) and on
to the image surface -/
theorem lens_trace (t R n zi y u z : ℝ) (hn : n ≠ 0) :
    ptrace (⟨y, u, z⟩ : PRay ℝ) [⟨.standard, 0, t, R, 1, n, false, false⟩,
      ⟨.standard, 0, t, 0, n, 1, false, false⟩, ⟨.image, 0, zi, 0, 1, 1, false, false⟩]
    = let y1 := y + (t - z) * u
      let u2 := u - y1 * ((n - 1) / R)
      [⟨y1, 1 / n * u2, t⟩, ⟨y1, u2, t⟩, ⟨y1 + (zi - t) * u2, u2, 0⟩] := by
  simp only [ptrace, pstep, pstepStd_refr, pstepImg_eq, one_mul, sub_self, zero_mul, add_zero, div_zero,
    mul_zero, sub_zero, one_div, div_one, mul_inv_cancel_left₀ hn]

/-- stop in front of a thin plano-convex lens -/
noncomputable def stopLens (d t R n zi epd h : ℝ) : PSys ℝ :=
  ⟨[⟨.object, 0, -d, 0, 1, 1, false, false⟩, ⟨.standard, 0, 0, 0, 1, 1, false, true⟩,
    ⟨.standard, 0, t, R, 1, n, false, false⟩, ⟨.standard, 0, t, 0, n, 1, false, false⟩,
    ⟨.image, 0, zi, 0, 1, 1, false, false⟩], .EPD, epd, .objectHeight, h, false⟩

section
variable (d t R n zi epd h : ℝ)

/-- a ray launched at `z` in object space, traced through the whole system: the object surface records it,
the stop surface (no power) moves it to `z = 0` -/
theorem stopLens_trace (y u z : ℝ) :
    ptrace (⟨y, u, z⟩ : PRay ℝ) (stopLens d t R n zi epd h).surfs
      = ⟨y, u, z⟩ :: ⟨y + (0 - z) * u, u, 0⟩ :: ptrace (⟨y + (0 - z) * u, u, 0⟩ : PRay ℝ)
          [⟨.standard, 0, t, R, 1, n, false, false⟩,
            ⟨.standard, 0, t, 0, n, 1, false, false⟩, ⟨.image, 0, zi, 0, 1, 1, false, false⟩] := by
  simp only [stopLens, ptrace, pstep, pstepStd_refr, sub_self, zero_div, mul_zero, sub_zero, one_mul, div_one]

theorem stopLens_stop : stopIndex (stopLens d t R n zi epd h).surfs = some 1 := by
  simp [stopLens, stopIndex, List.findIdx?_cons]

theorem stopLens_EPL : EPL (stopLens d t R n zi epd h) = 0 := by
  have hinv : stopIndex (inverted (stopLens d t R n zi epd h).surfs) = some 3 := by
    simp [stopLens, stopIndex, inverted, List.findIdx?_cons]
  simp only [EPL, stopLens_stop, hinv]
  simp [stopLens, inverted, traceGeneric, ptrace, pstep, ys, us, last, posOf, tenth]

theorem stopLens_EPD : EPD (stopLens d t R n zi epd h) = epd := rfl

/-- the marginal ray starts on the axis at the object, aimed at the rim of the stop -/
theorem stopLens_marginal :
    marginalRay (stopLens d t R n zi epd h)
      = ptrace (⟨0, epd / (2 * d), -d⟩ : PRay ℝ) (stopLens d t R n zi epd h).surfs := by
  unfold marginalRay
  rw [stopLens_EPL, stopLens_EPD]
  simp only [stopLens, traceGeneric, posOf, List.map_cons, List.getD_cons_zero, Bool.false_eq_true, if_false,
    List.drop_zero]
  num_real
  rw [zero_sub, neg_neg]

theorem stopLens_u (hn : n ≠ 0) (hd : d ≠ 0) :
    last (us (marginalRay (stopLens d t R n zi epd h)))
      = epd / (2 * d) - (epd / 2 + t * (epd / (2 * d))) * ((n - 1) / R) := by
  rw [stopLens_marginal, stopLens_trace, lens_trace _ _ _ _ _ _ _ hn]
  simp only [us, last, List.map_cons, List.map_nil, List.getLastD_cons, List.getLastD_nil]
  field_simp
  ring

theorem stopLens_FNO (hn : n ≠ 0) :
    FNO (stopLens d t R n zi epd h) = |(-1) / (-((n - 1) / R))| / epd := by
  -- the ray `(1, 0)` launched one unit in front of the stop
  have hf : f2 (stopLens d t R n zi epd h) = (-1) / (-((n - 1) / R)) := by
    simp only [f2, f2raw, traceGeneric, Bool.false_eq_true, if_false, List.drop_zero]
    rw [stopLens_trace, lens_trace _ _ _ _ _ _ _ hn]
    simp only [us, ys, first, last, List.map_cons, List.map_nil, List.getLastD_cons, List.getLastD_nil,
      List.headD_cons]
    num_real
    simp only [sub_zero, mul_zero, add_zero, one_mul, zero_sub]
  show |f2 (stopLens d t R n zi epd h)| / epd = _
  rw [hf]

theorem stopLens_mag :
    magnification (stopLens d t R n zi epd h)
      = epd / (2 * d) / last (us (marginalRay (stopLens d t R n zi epd h))) := by
  unfold magnification
  rw [stopLens_marginal, stopLens_trace]
  simp [stopLens, nList, mirrorSign, us, first, last]
  num_real
  rw [one_mul]

theorem stopLens_XPD (hn : n ≠ 0) (hd : d ≠ 0)
    (ht : 1 - t * ((n - 1) / R) ≠ 0) :
    XPD (stopLens d t R n zi epd h) = epd / (1 - t * ((n - 1) / R)) := by
  -- exit pupil: the image of the stop centre, from the ray `(0, 1/10)` launched at the stop
  have hx : XPL (stopLens d t R n zi epd h) = -(t / (1 - t * ((n - 1) / R))) - (zi - t) := by
    -- unfold `XPL`: the stop is surface 1 of 5, so the ray is traced through the last three surfaces
    simp only [XPL, stopLens_stop, Option.getD_some, traceGeneric, Bool.false_eq_true, if_false]
    simp only [stopLens, List.length_cons, List.length_nil, List.drop_succ_cons, List.drop_zero, posOf,
      List.map_cons, List.getD_cons_succ, List.getD_cons_zero]
    -- read the last height and slope off `lens_trace`
    rw [if_neg (by norm_num), lens_trace _ _ _ _ _ _ _ hn]
    simp only [us, ys, last, List.map_cons, List.map_nil, List.getLastD_cons, List.getLastD_nil, tenth]
    num_real
    -- algebra, with the lens power `φ` and the launch slope `v = 1/10` as variables
    generalize (n - 1) / R = φ at ht ⊢
    have h10 : ((1 : ℕ) : ℝ) / ((10 : ℕ) : ℝ) ≠ 0 := by norm_num
    generalize ((1 : ℕ) : ℝ) / ((10 : ℕ) : ℝ) = v at h10 ⊢
    rw [show v - (0 + (t - 0) * v) * φ = v * (1 - t * φ) by ring]
    field_simp
    ring
  unfold XPD
  rw [hx, stopLens_marginal, stopLens_trace, lens_trace _ _ _ _ _ _ _ hn]
  simp only [us, ys, last, List.map_cons, List.map_nil, List.getLastD_cons, List.getLastD_nil]
  num_real
  generalize (n - 1) / R = φ at ht ⊢
  field_simp
  ring

end

/-- the working F-number of the model `Model/Parax.lean` is `1/(2|u'|)` on the family `stopLens`
(aperture stop at distance `t` in front of a thin plano-convex lens, radius `R`, index `n`, object at distance
`d`, image surface ANYWHERE (`zi` free), so pupil magnification `p = 1/(1 − t(n−1)/R) ≠ 1` in general):
`_get_fno` evaluated on `Paraxial.FNO/XPD/EPD/magnification` equals one over twice the modulus of the
image-space slope of `Paraxial.marginal_ray`.  Hypotheses: non-degenerate lens, `p > 0`, `m ≤ 0`, `u' ≠ 0`.
PARTIAL with respect to "every lens": one 6-parameter family; the general step is
`workingFno_is_half_inverse_marginal_slope`. -/
theorem workingFno_parax_stop_lens_partial (d t R n zi epd h : ℝ) (hn : n ≠ 0) (h1 : n - 1 ≠ 0) (hd : d ≠ 0)
    (hR : R ≠ 0) (ht : 0 < 1 - t * ((n - 1) / R)) (he : 0 < epd)
    (S : PSys ℝ) (hS : S = stopLens d t R n zi epd h)
    (hu : last (us (marginalRay S)) ≠ 0) (hm : magnification S ≤ 0) :
    workingFno (FNO S) false (XPD S) (EPD S) (magnification S)
      = 1 / (2 * |last (us (marginalRay S))|) := by
  subst hS
  rw [stopLens_mag d t R n zi epd h] at hm ⊢
  rw [stopLens_FNO d t R n zi epd h hn, stopLens_XPD d t R n zi epd h hn hd ht.ne', stopLens_EPD]
  have hue := stopLens_u d t R n zi epd h hn hd
  have hφ : (n - 1) / R ≠ 0 := div_ne_zero h1 hR
  exact workingFno_is_half_inverse_marginal_slope (1 / (1 - t * ((n - 1) / R))) 0 (-((n - 1) / R))
    (1 - t * ((n - 1) / R)) epd (epd / (1 - t * ((n - 1) / R))) (epd / (2 * d)) _ _
    (by rw [one_div_mul_cancel ht.ne']; ring) rfl (by ring) (by rw [hue]; ring) rfl (neg_ne_zero.mpr hφ) he (div_pos he ht) hu hm

/-- non-vacuity: `d = 100, t = 5, R = 25, n = 3/2` (`f = 50`, `p = 10/9`), `EPD = 10`: `u' = −11/200`, `m = −10/11` -/
example : ∃ d t R n zi epd h : ℝ, n ≠ 0 ∧ n - 1 ≠ 0 ∧ d ≠ 0 ∧ R ≠ 0 ∧ 0 < 1 - t * ((n - 1) / R) ∧ 0 < epd ∧
    last (us (marginalRay (stopLens d t R n zi epd h))) ≠ 0 ∧ magnification (stopLens d t R n zi epd h) ≤ 0 := by
  refine ⟨100, 5, 25, 3 / 2, 60, 10, 1, by norm_num, by norm_num, by norm_num, by norm_num, by norm_num,
    by norm_num, ?_, ?_⟩
  · rw [stopLens_u _ _ _ _ _ _ _ (by norm_num) (by norm_num)]; norm_num
  · rw [stopLens_mag, stopLens_u _ _ _ _ _ _ _ (by norm_num) (by norm_num)]; norm_num

end ParaxTie

end C11
