import OptiModel.Proofs.Analysis
import Mathlib.Tactic.Ring
import Mathlib.Tactic.FieldSimp
import Mathlib.Tactic.Linarith
import Mathlib.Tactic.Positivity
import Mathlib.Tactic.NormNum
import Mathlib.Tactic.LinearCombination
/-!
# C12  Geometric analyses are faithful functions of the traced rays

Theorems about `Model/Analysis.lean` over ℝ (a few hold over every carrier and are stated so), grouped by
analysis: centroid and radii of a spot, centring; encircled energy (`eeAt` at any radius, then the plotted
curves `encircledEnergy`); field curvature (parabasal pair); distortion (definition, sign); grid distortion;
explicit wavelength lists; outputs as functions of the ray records and the `RayOperand`s; sampling
(`linspace`, ray fans, `RmsSpotSizeVsField`), y-ybar, pupil aberration.

Which variant is `/repo`: F18 is fixed (`distortion.py` l.98–100 uses the linear reference for object-height
fields, i.e. `distortion_spec`); F12 is fixed differently from both model variants: `spot_diagram.py` l.109–114
looks the primary wavelength up in the given list (as `centroid_spec`) but falls back to index 0 when it is
absent, which is neither `centroid_code` (the lens's primary index) nor `centroid_spec` (separately traced
reference); likewise `ray_fan.py` falls back to the first wavelength where `rayFan_code` has `none`.
F-C12-1 (`GridDistortion` for object-height fields) is open: there `gridDistortion_code` is the tree.

Not proved, numerical in the harness only: agreement of the parabasal intersection with Coddington's
equations (a first-order limit, error O(δ²); `coddington_partial` is the exact part); that the small-field
chief-ray reference of `distortion_def` is the paraxial image height (only the conditional
`distortion_ref_is_paraxial_partial`); `gridOut`'s `max_distortion`; `pupilAberration` beyond the one-sample
`pupilAb_spec`; `fanShift` beyond `rayFan_code_eq_spec` and `rayFan_reference_zero`.  The statements of the
section "functions of the ray records" other than `operand_rms_eq_spot_rms` are congruences of the model's
own definitions; that the outputs equal what is recomputed from independently traced rays is carried by the
differential correspondence of the harness.
-/
namespace C12
open Model Model.An AnProofs

theorem mem_zipWith_exists {β γ δ : Type} (f : β → γ → δ) :
    ∀ (xs : List β) (ys : List γ), ∀ v ∈ List.zipWith f xs ys, ∃ a ∈ xs, ∃ b ∈ ys, v = f a b := by
  intro xs ys v hv
  rw [← List.map_uncurry_zip_eq_zipWith] at hv
  obtain ⟨p, hp, rfl⟩ := List.mem_map.mp hv
  exact ⟨p.1, (List.of_mem_zip hp).1, p.2, (List.of_mem_zip hp).2, rfl⟩

theorem forall_mem_zipWith {β γ δ : Type} (f : β → γ → δ) (P : δ → Prop) (h : ∀ a b, P (f a b)) :
    ∀ (xs : List β) (ys : List γ), ∀ v ∈ List.zipWith f xs ys, P v := by
  intro xs ys v hv
  obtain ⟨a, _, b, _, rfl⟩ := mem_zipWith_exists f xs ys v hv
  exact h a b

/-! ### centroid -/

/-- **centroid_translation**: shifting every point of a spot by `-c` shifts its centroid by `-c`. -/
theorem centroid_translation (s : Spot ℝ) (c : ℝ × ℝ) (hx : s.x ≠ []) (hy : s.y ≠ []) :
    centroidOf (center s c) = ((centroidOf s).1 - c.1, (centroidOf s).2 - c.2) :=
  Prod.ext (mean_map_sub s.x c.1 hx) (mean_map_sub s.y c.2 hy)

/-- a spot centred on its own centroid has centroid zero (`_center_spots` on the reference
wavelength) -/
theorem centred_centroid_zero (s : Spot ℝ) (hx : s.x ≠ []) (hy : s.y ≠ []) :
    centroidOf (center s (centroidOf s)) = (0, 0) := by
  rw [centroid_translation s _ hx hy, sub_self, sub_self]

example : ∃ s : Spot ℝ, s.x ≠ [] ∧ s.y ≠ [] := ⟨⟨[1, 2], [3, 5], [1, 1]⟩, by simp, by simp⟩

/-! ### radii -/

theorem r2_nonneg (s : Spot ℝ) : ∀ v ∈ r2Of s, 0 ≤ v := by
  intro v hv
  obtain ⟨a, _, b, _, rfl⟩ := mem_zipWith_exists _ _ _ v hv
  exact add_nonneg (mul_self_nonneg a) (mul_self_nonneg b)

theorem radii_nonneg (s : Spot ℝ) : 0 ≤ rmsOf s ∧ 0 ≤ geoOf s := by
  refine ⟨Real.sqrt_nonneg _, npMax_nonneg _ fun v hv => ?_⟩
  obtain ⟨w, _, rfl⟩ := List.mem_map.mp hv
  exact Real.sqrt_nonneg w

/-- **rms_le_geometric**: the RMS radius never exceeds the geometric (maximum) radius. -/
theorem rms_le_geometric (s : Spot ℝ) (hne : r2Of s ≠ []) : rmsOf s ≤ geoOf s := by
  have hG0 : 0 ≤ geoOf s := (radii_nonneg s).2
  show Real.sqrt (mean (r2Of s)) ≤ geoOf s
  rw [Real.sqrt_le_left hG0]
  -- every squared radius is at most the square of the largest radius, hence so is their mean
  refine mean_le_of_forall_le _ _ hne fun v hv => (Real.sqrt_le_left hG0).mp ?_
  exact npMax_ge (radiiOf s) _ (List.mem_map.mpr ⟨v, hv, rfl⟩)

example : ∃ s : Spot ℝ, r2Of s ≠ [] := ⟨⟨[1], [2], [1]⟩, by simp [r2Of]⟩

/-! ### spot diagrams: centring on a copy, invariance of the radii -/

theorem center_center (s : Spot ℝ) (c d : ℝ × ℝ) :
    center (center s c) d = center s (c.1 + d.1, c.2 + d.2) := by
  unfold center
  simp only [List.map_map, Spot.mk.injEq, and_true]
  exact ⟨List.map_congr_left fun a _ => sub_sub a c.1 d.1, List.map_congr_left fun a _ => sub_sub a c.2 d.2⟩

/-- centring by zero is the identity (what a second radius query would do to already centred data) -/
theorem center_zero (s : Spot ℝ) : center s (0, 0) = s := by
  unfold center
  num_real
  simp

/-- **radii_translation_invariant**: the RMS and geometric radii about the spot's own centroid do
not change when the whole spot is translated (in particular when it has already been centred) -/
theorem radii_translation_invariant (s : Spot ℝ) (d : ℝ × ℝ) (hx : s.x ≠ []) (hy : s.y ≠ []) :
    rmsOf (center (center s d) (centroidOf (center s d))) = rmsOf (center s (centroidOf s)) ∧
    geoOf (center (center s d) (centroidOf (center s d))) = geoOf (center s (centroidOf s)) := by
  have e : center (center s d) (centroidOf (center s d)) = center s (centroidOf s) := by
    rw [centroid_translation s d hx hy, center_center, add_sub_cancel, add_sub_cancel]
  rw [e]
  exact ⟨rfl, rfl⟩

theorem centerSpots_map (data : SpotData ℝ) (f : List (Spot ℝ) → ℝ × ℝ) :
    centerSpots data (data.map f) = data.map (fun fd => fd.map (center · (f fd))) := by
  unfold centerSpots
  induction data with
  | nil => rfl
  | cons a l ih => simp only [List.map_cons, List.zipWith_cons_cons, ih]

/-- **centring_on_copy**: `rms_spot_radius` / `geometric_spot_radius` centre a COPY.  In the model
the queries are functions of `data` (it cannot change); what the theorem adds is that a
hypothetical in-place centring would not be observable through the radii but WOULD be through
`centroid()`: for data whose reference spots (index `p`) are non-empty, after centring with
`centroid()` the centroids are all `(0,0)` (so `centroid()` must be taken from the untouched data),
centring again with the new centroids is the identity, and all radii are unchanged. -/
theorem centring_on_copy (data : SpotData ℝ) (p : Nat)
    (hok : ∀ fd ∈ data, p < fd.length ∧ (fd.getD p default).x ≠ [] ∧ (fd.getD p default).y ≠ []) :
    let cen := fun fd : List (Spot ℝ) => centroidOf (fd.getD p default)
    let data' := centerSpots data (data.map cen)
    data'.map cen = data.map (fun _ => ((0 : ℝ), (0 : ℝ))) ∧
    centerSpots data' (data'.map cen) = data' ∧
    rmsSpotRadius data' (data'.map cen) = rmsSpotRadius data (data.map cen) ∧
    geometricSpotRadius data' (data'.map cen) = geometricSpotRadius data (data.map cen) := by
  intro cen data'
  have hd : data' = data.map (fun fd => fd.map (center · (cen fd))) := centerSpots_map data cen
  -- after centring, the reference spot of every field has its centroid at the origin
  have hc : ∀ fd' ∈ data', cen fd' = (0, 0) := by
    rw [hd]
    intro fd' hfd'
    obtain ⟨fd, hfd, rfl⟩ := List.mem_map.mp hfd'
    obtain ⟨hp, hx, hy⟩ := hok fd hfd
    have : (fd.map (center · (cen fd))).getD p default = center (fd.getD p default) (cen fd) := by
      simp [List.getD_eq_getElem?_getD, List.getElem?_map, List.getElem?_eq_getElem hp]
    show centroidOf ((fd.map (center · (cen fd))).getD p default) = (0, 0)
    rw [this]
    exact centred_centroid_zero _ hx hy
  have h1 : data'.map cen = data.map (fun _ => ((0 : ℝ), (0 : ℝ))) := by
    rw [List.map_congr_left hc, hd, List.map_map]
    rfl
  have h2 : centerSpots data' (data'.map cen) = data' := by
    rw [centerSpots_map]
    conv_rhs => rw [← List.map_id data']
    refine List.map_congr_left fun fd' hfd' => ?_
    rw [hc fd' hfd']
    simp only [center_zero, List.map_id', id]
  exact ⟨h1, h2, by unfold rmsSpotRadius; rw [h2], by unfold geometricSpotRadius; rw [h2]⟩

example : ∀ fd ∈ ([[⟨[0, 1], [2, 3], [1, 1]⟩, ⟨[5], [6], [1]⟩]] : SpotData ℝ),
    0 < fd.length ∧ (fd.getD 0 default).x ≠ [] ∧ (fd.getD 0 default).y ≠ [] := by
  intro fd hfd
  simp only [List.mem_singleton] at hfd
  subst hfd
  simp

/-- an in-place centring WOULD be visible in `centroid()`: concrete data whose centroid is not zero -/
theorem centroid_changes_if_centred_in_place :
    let data : SpotData ℝ := [[⟨[1, 3], [2, 4], [1, 1]⟩]]
    centroid_code data 0 = some [(2, 3)] ∧
    centroid_code (centerSpots data [(2, 3)]) 0 = some [(0, 0)] := by
  intro data
  have hm : ∀ a b : ℝ, mean [a, b] = (a + b) / 2 := fun a b => by
    rw [mean_eq, List.sum_cons, List.sum_singleton]
    rfl
  have h2 : centerSpots data [(2, 3)] = [[center ⟨[1, 3], [2, 4], [1, 1]⟩ (2, 3)]] := rfl
  rw [h2, centroid_code_single _ 0 (by decide), centroid_code_single _ 0 (by decide)]
  simp only [List.getD_cons_zero, centroidOf, center, List.map_cons, List.map_nil, hm]
  norm_num

/-! ### encircled energy -/

/-- one term of `np.nansum(energy[radii <= r])` over ℝ -/
noncomputable def eeTerm (r ρ e : ℝ) : ℝ := if ρ ≤ r then e else 0

theorem eeAt_eq (radii energy : List ℝ) (r : ℝ) :
    eeAt radii energy r = (List.zipWith (eeTerm r) radii energy).sum := by
  unfold eeAt
  rw [sumL_eq]
  congr 2
  funext ρ e
  rw [show isNaN e = false from NumReal.isNaN_false e, NumReal.le_decide]
  by_cases h : ρ ≤ r <;> simp [eeTerm, h]

theorem eeTerm_mono (r r' ρ e : ℝ) (hr : r ≤ r') (he : 0 ≤ e) : eeTerm r ρ e ≤ eeTerm r' ρ e := by
  unfold eeTerm
  split_ifs with h h'
  · exact le_refl e
  · exact absurd (h.trans hr) h'
  · exact he
  · exact le_refl 0

/-- **ee_monotone**: for non-negative ray energies the encircled energy is non-decreasing in the
radius. -/
theorem ee_monotone (radii energy : List ℝ) (r r' : ℝ) (hr : r ≤ r') (he : ∀ e ∈ energy, 0 ≤ e) :
    eeAt radii energy r ≤ eeAt radii energy r' := by
  rw [eeAt_eq, eeAt_eq]
  exact (forall₂_zipWith (· ≤ ·) _ _ radii energy fun ρ _ e hm => eeTerm_mono r r' ρ e hr (he e hm)).sum_le_sum

/-- the encircled energy never exceeds the total energy of the rays paired with a radius -/
theorem ee_le_total (radii energy : List ℝ) (r : ℝ) (hlen : radii.length = energy.length)
    (he : ∀ e ∈ energy, 0 ≤ e) : eeAt radii energy r ≤ sumL energy := by
  have h := (forall₂_zipWith (· ≤ ·) (eeTerm r) (fun _ e => e) radii energy fun ρ _ e hm => by
    unfold eeTerm
    split_ifs
    exacts [le_refl e, he e hm]).sum_le_sum
  rwa [zipWith_snd radii energy hlen, ← eeAt_eq, ← sumL_eq] at h

/-- **ee_reaches_total**: at a radius that contains every ray the encircled energy is the total
(transmitted) energy `np.nansum(energy)`. -/
theorem ee_reaches_total (radii energy : List ℝ) (r : ℝ) (hlen : radii.length = energy.length)
    (hall : ∀ ρ ∈ radii, ρ ≤ r) : eeAt radii energy r = sumL energy := by
  have h := forall₂_zipWith (· = ·) (eeTerm r) (fun _ e => e) radii energy fun ρ hρ e _ => if_pos (hall ρ hρ)
  rw [List.forall₂_eq_eq_eq, zipWith_snd radii energy hlen] at h
  rw [eeAt_eq, sumL_eq, h]

theorem eeBuffer_ge_one : (1 : ℝ) ≤ eeBuffer := by
  unfold eeBuffer
  rw [NumReal.ofRat_eq]
  norm_num

/-- the curve of `EncircledEnergy` ends at the total energy: `r_max = 1.2 · A` with `A` at least
the geometric radius of this (centred) spot contains every ray. -/
theorem ee_reaches_total_at_rmax (s : Spot ℝ) (A : ℝ) (hlen : (radiiOf s).length = s.i.length)
    (hA : geoOf s ≤ A) : eeAt (radiiOf s) s.i (A * eeBuffer) = sumL s.i := by
  refine ee_reaches_total _ _ _ hlen fun ρ hρ => ?_
  have hA0 : 0 ≤ A := (radii_nonneg s).2.trans hA
  exact ((npMax_ge _ ρ hρ).trans hA).trans (le_mul_of_one_le_right hA0 eeBuffer_ge_one)

/-- the last sample of `np.linspace(a, b, n)` (`n ≥ 2`) is `b`: the last plotted radius is `r_max` -/
theorem linspace_last {α : Type} [Num α] (a b : α) (m : Nat) :
    (linspace a b (m + 2)).getLast? = some b := by
  show (List.map _ (List.range (m + 2))).getLast? = some b
  -- the last index is `m + 1`, where the code puts `b`
  rw [List.getLast?_map, List.getLast?_range, if_neg (Nat.succ_ne_zero _)]
  exact congrArg some (if_pos rfl)

/-- non-vacuity of `ee_monotone` / `ee_le_total`: non-negative energies of the right length -/
example : ∃ radii energy : List ℝ, radii.length = energy.length ∧ radii ≠ [] ∧ ∀ e ∈ energy, 0 ≤ e :=
  ⟨[0, 1, 2], [1, 0, 0.5], rfl, by simp, by intro e he; simp at he; rcases he with rfl | rfl | rfl <;> norm_num⟩

/-! ### encircled energy, end to end: the curves `EncircledEnergy` plots

The theorems `ee_monotone` / `ee_reaches_total_at_rmax` above are about `eeAt` at arbitrary radii and
carry the bound `geoOf s ≤ A` as a *hypothesis*.  The statements below are about the model's actual
output `encircledEnergy data numPoints` (what `Drv/Analysis.lean` runs): the plotted radii are
`linspace(0, r_max, numPoints)` with `r_max = eeRmax data`, and the bound is *derived* from the
definition of `eeRmax`. -/

/-- shape of the data `SpotDiagram._generate_field_data` produces: x, y, intensity of equal length,
non-negative intensities -/
def SpotsOK (data : SpotData ℝ) : Prop :=
  ∀ fd ∈ data, ∀ s ∈ fd, s.x.length = s.i.length ∧ s.y.length = s.i.length ∧ ∀ e ∈ s.i, 0 ≤ e

/-- the records of a trace always have that shape (intensities ≥ 0 assumed: C16) -/
theorem spotsOK_of_rays (rss : List (List (List (Ray ℝ)))) (hI : ∀ f ∈ rss, ∀ rs ∈ f, ∀ r ∈ rs, 0 ≤ r.i) :
    SpotsOK (rss.map fun f => f.map spotOfRays) := by
  intro fd hfd s hs
  obtain ⟨f, hf, rfl⟩ := List.mem_map.mp hfd
  obtain ⟨rs, hrs, rfl⟩ := List.mem_map.mp hs
  refine ⟨by simp [spotOfRays], by simp [spotOfRays], ?_⟩
  intro e he
  obtain ⟨r, hr, rfl⟩ := List.mem_map.mp he
  exact hI f hf rs hrs r hr

/-- every centred spot of `EncircledEnergy` is a spot of the data with a centre subtracted -/
theorem eeCenter_mem (data : SpotData ℝ) (fd : List (Spot ℝ)) (hfd : fd ∈ eeCenter data) (s : Spot ℝ) (hs : s ∈ fd) :
    ∃ fd0 ∈ data, ∃ s0 ∈ fd0, ∃ c : ℝ × ℝ, s = center s0 c := by
  unfold eeCenter centerSpots at hfd
  obtain ⟨fd0, h0, c, _, rfl⟩ := mem_zipWith_exists _ _ _ fd hfd
  obtain ⟨s0, hs0, rfl⟩ := List.mem_map.mp hs
  exact ⟨fd0, h0, s0, hs0, c, rfl⟩

theorem eeCenter_shape (data : SpotData ℝ) (hok : SpotsOK data) (fd : List (Spot ℝ)) (hfd : fd ∈ eeCenter data)
    (s : Spot ℝ) (hs : s ∈ fd) : (radiiOf s).length = s.i.length ∧ ∀ e ∈ s.i, 0 ≤ e := by
  obtain ⟨fd0, h0, s0, hs0, c, rfl⟩ := eeCenter_mem data fd hfd s hs
  obtain ⟨hx, hy, he⟩ := hok fd0 h0 s0 hs0
  refine ⟨?_, he⟩
  simp [radiiOf, r2Of, center, hx, hy]

/-- `r_max` bounds the geometric radius of every centred spot of every field, and is `≥ 0` -/
theorem eeRmax_spec (data : SpotData ℝ) :
    0 ≤ eeRmax data ∧
    ∀ fd ∈ eeCenter data, ∀ s ∈ fd, ∃ A : ℝ, geoOf s ≤ A ∧ eeRmax data = A * eeBuffer := by
  constructor
  · refine mul_nonneg (npMax_nonneg _ fun v hv => ?_) (zero_le_one.trans eeBuffer_ge_one)
    obtain ⟨l, hl, hvl⟩ := List.mem_flatten.mp hv
    obtain ⟨fd, _, rfl⟩ := List.mem_map.mp hl
    obtain ⟨s, _, rfl⟩ := List.mem_map.mp hvl
    exact (radii_nonneg s).2
  · intro fd hfd s hs
    refine ⟨_, npMax_ge _ _ ?_, rfl⟩
    exact List.mem_flatten.mpr ⟨fd.map geoOf, List.mem_map.mpr ⟨fd, hfd, rfl⟩, List.mem_map.mpr ⟨s, hs, rfl⟩⟩

theorem linspace_zero_mono (b : ℝ) (hb : 0 ≤ b) (n : Nat) : (linspace (0 : ℝ) b n).Pairwise (· ≤ ·) :=
  linspace_mono 0 b hb n

/-- **encircled energy, the property's clause on the plotted curves**: for spot data of the shape
the trace produces and `num_points ≥ 2`, every curve `(r_step, ee)` of `EncircledEnergy`
* has the radii `linspace(0, r_max, num_points)`, non-decreasing, ending at `r_max`;
* is non-decreasing along them (`ee` is a non-decreasing list);
and the last values of the curves are, in plotting order, the total energies `np.nansum(intensity)`
of the spots (so every curve *reaches* the total transmitted energy of its own spot). -/
theorem encircledEnergy_curves (data : SpotData ℝ) (hok : SpotsOK data) (m : Nat) :
    (∀ c ∈ encircledEnergy data (m + 2),
        c.1 = linspace 0 (eeRmax data) (m + 2) ∧ c.1.Pairwise (· ≤ ·) ∧
        c.1.getLast? = some (eeRmax data) ∧ c.2.Pairwise (· ≤ ·)) ∧
    (encircledEnergy data (m + 2)).map (fun c => c.2.getLast?) =
      ((eeCenter data).map fun fd => fd.map fun s => some (sumL s.i)).flatten := by
  obtain ⟨hr0, hrmax⟩ := eeRmax_spec data
  have hmono := linspace_zero_mono (eeRmax data) hr0 (m + 2)
  constructor
  · intro c hc
    unfold encircledEnergy at hc
    obtain ⟨l, hl, hcl⟩ := List.mem_flatten.mp hc
    obtain ⟨fd, hfd, rfl⟩ := List.mem_map.mp hl
    obtain ⟨s, hs, rfl⟩ := List.mem_map.mp hcl
    exact ⟨rfl, hmono, linspace_last _ _ m, List.pairwise_map.mpr <|
      hmono.imp fun {a b} hab => ee_monotone _ _ a b hab (eeCenter_shape data hok fd hfd s hs).2⟩
  · unfold encircledEnergy
    simp only [List.map_flatten, List.map_map]
    congr 1
    refine List.map_congr_left fun fd hfd => ?_
    simp only [Function.comp_def, List.map_map]
    refine List.map_congr_left fun s hs => ?_
    simp only [List.getLast?_map, linspace_last, Option.map_some]
    obtain ⟨A, hA, hR⟩ := hrmax fd hfd s hs
    rw [hR]
    congr 1
    exact ee_reaches_total_at_rmax s A (eeCenter_shape data hok fd hfd s hs).1 hA

/-- non-vacuity: two fields, one wavelength, three rays each, unequal energies (one blocked ray) -/
example : SpotsOK [[⟨[0, 1, -1], [0, 2, 1], [1, 1, 0]⟩], [⟨[3, 4, 5], [0, 1, -1], [1, 0.5, 1]⟩]] := by
  intro fd hfd s hs
  simp only [List.mem_cons, List.mem_nil_iff, or_false] at hfd
  rcases hfd with rfl | rfl <;>
  · simp only [List.mem_cons, List.mem_nil_iff, or_false] at hs
    subst hs
    refine ⟨rfl, rfl, ?_⟩
    intro e he
    simp only [List.mem_cons, List.mem_nil_iff, or_false] at he
    rcases he with rfl | rfl | rfl <;> norm_num

/-! ### field curvature: parabasal pair -/

/-- **parabasal_intersection**: `t₁ = parabasalT …` is the parameter at which ray 1
`(y₁ + t M₁, z₁ + t N₁)` meets ray 2 in the projection, it is the only such parameter, and the
value returned by `FieldCurvature` (`t₁ · N₁`) is the z-offset of the meeting point from ray 1's
point on the image surface. -/
theorem parabasal_intersection (y1 z1 M1 N1 y2 z2 M2 N2 : ℝ) (hD : M1 * N2 - M2 * N1 ≠ 0) :
    let t1 := parabasalT y1 z1 M1 N1 y2 z2 M2 N2
    let t2 := (M1 * (z1 - z2) - N1 * (y1 - y2)) / (M1 * N2 - M2 * N1)
    (y1 + t1 * M1 = y2 + t2 * M2 ∧ z1 + t1 * N1 = z2 + t2 * N2) ∧
    (∀ s1 s2 : ℝ, y1 + s1 * M1 = y2 + s2 * M2 → z1 + s1 * N1 = z2 + s2 * N2 → s1 = t1) ∧
    t1 * N1 = (z1 + t1 * N1) - z1 := by
  intro t1 t2
  have hu : t1 * (M1 * N2 - M2 * N1) = M2 * z1 - M2 * z2 - N2 * y1 + N2 * y2 := div_mul_cancel₀ _ hD
  have hv : t2 * (M1 * N2 - M2 * N1) = M1 * (z1 - z2) - N1 * (y1 - y2) := div_mul_cancel₀ _ hD
  clear_value t1 t2
  -- each equation is linear in `t1`, `t2`: multiply by the determinant and use `hu`, `hv`
  refine ⟨⟨mul_right_cancel₀ hD ?_, mul_right_cancel₀ hD ?_⟩, fun s1 s2 h1 h2 => mul_right_cancel₀ hD ?_,
    (add_sub_cancel_left _ _).symm⟩
  · linear_combination M1 * hu - M2 * hv
  · linear_combination N1 * hu - N2 * hv
  · linear_combination N2 * h1 - M2 * h2 - hu

example : (1 : ℝ) * 1 - 0 * (1 : ℝ) ≠ 0 := by norm_num

/-- every value of `fcTangential` is `parabasalT … · N₁` of a consecutive pair (definitional, `rfl`;
the content is in `parabasal_intersection`) -/
theorem fc_value_is_z_offset (r1 r2 : Ray ℝ) (rs : List (Ray ℝ)) :
    fcTangential (r1 :: r2 :: rs) =
      (parabasalT r1.y r1.z r1.M r1.N r2.y r2.z r2.M r2.N * r1.N) :: fcTangential rs ∧
    fcSagittal (r1 :: r2 :: rs) =
      (parabasalT r1.x r1.z r1.L r1.N r2.x r2.z r2.L r2.N * r1.N) :: fcSagittal rs :=
  ⟨rfl, rfl⟩

/-- **coddington_partial** (placeholder for the clause that is *not* proved): the agreement of the
parabasal intersection with Coddington's equations along the chief ray is a first-order limit
(pupil offset δ → 0, error O(δ²)); it is checked numerically in `harness/c12.py` against an
independent Coddington recursion.  What is proved here is only the exact part: for two rays that
really pass through a common point `(yf, zf)` the returned value is that point's z-offset. -/
theorem coddington_partial (y1 z1 M1 N1 y2 z2 M2 N2 yf zf a b : ℝ) (hD : M1 * N2 - M2 * N1 ≠ 0)
    (h1y : yf = y1 + a * M1) (h1z : zf = z1 + a * N1) (h2y : yf = y2 + b * M2) (h2z : zf = z2 + b * N2) :
    parabasalT y1 z1 M1 N1 y2 z2 M2 N2 * N1 = zf - z1 := by
  rw [← (parabasal_intersection y1 z1 M1 N1 y2 z2 M2 N2 hD).2.1 a b (h1y ▸ h2y) (h1z ▸ h2z), h1z,
    add_sub_cancel_left]

/-! ### field curvature: each parabasal ray's own z; sagittal pair by symmetry -/

/-- **fcTangential_own_z**: on a curved image surface the two tangential parabasal rays end at
different `z`; `FieldCurvature` uses each ray's own end point.  The variant that takes both `z` from
ray 1's slice changes the value by `M₂ (z₁ − z₂)/(M₁N₂ − M₂N₁)·N₁`, hence gives the same answer iff `M₂ (z₁ − z₂) N₁ = 0` (flat image `z₁ = z₂`, or the second ray parallel to the axis). -/
theorem fcTangential_own_z (r1 r2 : Ray ℝ) (hD : r1.M * r2.N - r2.M * r1.N ≠ 0) :
    fcTangential [r1, r2] =
      [parabasalT r1.y r1.z r1.M r1.N r2.y r1.z r2.M r2.N * r1.N
        + r2.M * (r1.z - r2.z) * r1.N / (r1.M * r2.N - r2.M * r1.N)] ∧
    (fcTangential [r1, r2] = [parabasalT r1.y r1.z r1.M r1.N r2.y r1.z r2.M r2.N * r1.N]
      ↔ r2.M * (r1.z - r2.z) * r1.N = 0) := by
  have key : parabasalT r1.y r1.z r1.M r1.N r2.y r2.z r2.M r2.N * r1.N =
      parabasalT r1.y r1.z r1.M r1.N r2.y r1.z r2.M r2.N * r1.N
        + r2.M * (r1.z - r2.z) * r1.N / (r1.M * r2.N - r2.M * r1.N) := by
    rw [parabasalT_eq, parabasalT_eq, div_mul_eq_mul_div, div_mul_eq_mul_div, ← add_div]
    congr 1
    ring
  have hf : fcTangential [r1, r2] = [parabasalT r1.y r1.z r1.M r1.N r2.y r2.z r2.M r2.N * r1.N] := rfl
  rw [hf, key]
  refine ⟨rfl, ?_⟩
  rw [List.cons.injEq, and_iff_left rfl, add_eq_left, div_eq_zero_iff, or_iff_left hD]

example : ∃ r1 r2 : Ray ℝ, r1.M * r2.N - r2.M * r1.N ≠ 0 ∧ r2.M * (r1.z - r2.z) * r1.N ≠ 0 :=
  ⟨{ x := 0, y := 1, z := 0, L := 0, M := 0, N := 1, i := 1, opd := 0 },
   { x := 0, y := 2, z := 1, L := 0, M := 1, N := 1, i := 1, opd := 0 }, by norm_num, by norm_num⟩

/-- **fcSagittal_mirror_pair**: the two sagittal parabasal rays (`Px = ∓δ`, `Hx = 0`) of a system
symmetric about the meridional plane are mirror images (`x ↦ −x`, `L ↦ −L`, same `z`, `N`).  For such
a pair the sagittal value is `−x₁/L₁ · N₁`: no `z` enters (the pair ends at the SAME `z` also on a
curved image, so the slice the `z`'s are read from is immaterial), the rays meet on the meridional
plane `x = 0`, and replacing ray 2's `z` by ray 1's changes nothing.
(The mirror relation itself is a hypothesis on the records; it is not derived from `traceLens` here.) -/
theorem fcSagittal_mirror_pair (r1 r2 : Ray ℝ) (hx : r2.x = -r1.x) (hL : r2.L = -r1.L) (hz : r2.z = r1.z)
    (hN : r2.N = r1.N) (hL0 : r1.L ≠ 0) (hN0 : r1.N ≠ 0) :
    fcSagittal [r1, r2] = [-(r1.x / r1.L) * r1.N] ∧
    r1.x + (-(r1.x / r1.L)) * r1.L = 0 ∧
    fcSagittal [r1, { r2 with z := r1.z }] = fcSagittal [r1, r2] := by
  have hf : ∀ r : Ray ℝ, fcSagittal [r1, r] = [parabasalT r1.x r1.z r1.L r1.N r.x r.z r.L r.N * r1.N] :=
    fun _ => rfl
  refine ⟨?_, ?_, ?_⟩
  · rw [hf, hx, hL, hz, hN, parabasalT_eq]
    congr 2
    field_simp
    ring
  · rw [neg_mul, div_mul_cancel₀ _ hL0, add_neg_cancel]
  · rw [hf, hf]
    simp only [hz]

example : ∃ r1 r2 : Ray ℝ, r2.x = -r1.x ∧ r2.L = -r1.L ∧ r2.z = r1.z ∧ r2.N = r1.N ∧ r1.L ≠ 0 ∧ r1.N ≠ 0 :=
  ⟨{ x := 1, y := 1, z := 3, L := -1, M := 0, N := 1, i := 1, opd := 0 },
   { x := -1, y := 1, z := 3, L := 1, M := 0, N := 1, i := 1, opd := 0 }, by norm_num, by norm_num, rfl, rfl,
   by norm_num, by norm_num⟩

/-- **fcTangential_same_slice_misses_focus**: for two tangential parabasal rays that really pass through a
common focus `(yf, zf)`, `FieldCurvature` (own `z` per ray) returns the focus' z-offset `zf − z₁`,
while the same-slice variant does NOT whenever `M₂ (z₁ − z₂) N₁ ≠ 0` (curved image). -/
theorem fcTangential_same_slice_misses_focus (r1 r2 : Ray ℝ) (yf zf a b : ℝ)
    (hD : r1.M * r2.N - r2.M * r1.N ≠ 0)
    (h1y : yf = r1.y + a * r1.M) (h1z : zf = r1.z + a * r1.N)
    (h2y : yf = r2.y + b * r2.M) (h2z : zf = r2.z + b * r2.N)
    (hne : r2.M * (r1.z - r2.z) * r1.N ≠ 0) :
    fcTangential [r1, r2] = [zf - r1.z] ∧
    parabasalT r1.y r1.z r1.M r1.N r2.y r1.z r2.M r2.N * r1.N ≠ zf - r1.z := by
  have hc := coddington_partial r1.y r1.z r1.M r1.N r2.y r2.z r2.M r2.N yf zf a b hD h1y h1z h2y h2z
  have hf : fcTangential [r1, r2] = [parabasalT r1.y r1.z r1.M r1.N r2.y r2.z r2.M r2.N * r1.N] := rfl
  refine ⟨by rw [hf, hc], ?_⟩
  intro hs
  have h := (fcTangential_own_z r1 r2 hD).2.mp (by rw [hf, hc, hs])
  exact hne h

example : ∃ (r1 r2 : Ray ℝ) (yf zf a b : ℝ), r1.M * r2.N - r2.M * r1.N ≠ 0 ∧
    yf = r1.y + a * r1.M ∧ zf = r1.z + a * r1.N ∧ yf = r2.y + b * r2.M ∧ zf = r2.z + b * r2.N ∧
    r2.M * (r1.z - r2.z) * r1.N ≠ 0 :=
  ⟨{ x := 0, y := 1, z := 0, L := 0, M := 0, N := 1, i := 1, opd := 0 },
   { x := 0, y := 2, z := 1, L := 0, M := -1, N := 1, i := 1, opd := 0 }, 1, 2, 2, 1,
   by norm_num, by norm_num, by norm_num, by norm_num, by norm_num, by norm_num⟩

/-! ### distortion -/

theorem eps10_val : (eps10 : ℝ) = 1 / 10 ^ 10 := by
  unfold eps10
  rw [NumReal.ofRat_eq]
  norm_num

theorem hundred_val : (hundred : ℝ) = 100 := by
  unfold hundred
  rw [NumReal.ofRat_eq]
  norm_num

theorem deg2rad_val (x : ℝ) : deg2rad x = x * (Real.pi / 180) := by
  unfold deg2rad
  num_real
  norm_num

/-- reference image height: the small-field chief-ray height `y0` (field `ε·θmax`) scaled by `tan`
(f-tan) or linearly in the angle (f-θ) -/
noncomputable def yRef (t : DistType) (θmax y0 h : ℝ) : ℝ :=
  match t with
  | .ftan => y0 / Real.tan (eps10 * θmax) * Real.tan (h * θmax)
  | .ftheta => y0 / Real.tan (eps10 * θmax) * h * θmax

/-- **distortion_def**: every value of `Distortion.data` is `100·(y_chief − y_ref)/y_ref` with
`y_ref` the small-field chief-ray height scaled by `tan` (f-tan) or linearly (f-θ). -/
theorem distortion_def (t : DistType) (maxField : ℝ) (hy yr : List ℝ) :
    distortion_code t maxField hy yr =
      List.zipWith (fun h y =>
        100 * (y - yRef t (maxField * (Real.pi / 180)) (yr.headD 0) h) /
          yRef t (maxField * (Real.pi / 180)) (yr.headD 0) h) hy yr := by
  unfold distortion_code
  simp only [deg2rad_val, hundred_val]
  cases t <;> rfl

/-- for angular fields the property's reference is the code's -/
theorem distortion_spec_angle (t : DistType) (maxField : ℝ) (hy yr : List ℝ) :
    distortion_spec true t maxField hy yr = distortion_code t maxField hy yr :=
  if_pos rfl

/-- at the reference field itself the f-tan distortion is exactly zero -/
theorem distortion_zero_at_reference (maxField y0 : ℝ) (hy yr : List ℝ)
    (ht : Real.tan (eps10 * (maxField * (Real.pi / 180))) ≠ 0) :
    distortion_code .ftan maxField (eps10 :: hy) (y0 :: yr) =
      0 :: (distortion_code .ftan maxField (eps10 :: hy) (y0 :: yr)).tail := by
  rw [distortion_def]
  simp only [List.zipWith_cons_cons, List.headD_cons, List.tail_cons, yRef]
  rw [div_mul_cancel₀ _ ht, sub_self, mul_zero, zero_div]

/-- non-vacuity of `distortion_zero_at_reference`: a 20° field (`tan` of a small positive angle) -/
example : Real.tan (eps10 * ((20 : ℝ) * (Real.pi / 180))) ≠ 0 := by
  rw [eps10_val]
  have hpi := Real.pi_pos
  exact ne_of_gt (Real.tan_pos_of_pos_of_lt_pi_div_two (by positivity) (by linarith))

/-- PARTIAL (distortion against the *paraxial* image height): **if** the small-field chief ray lands at
its paraxial height `y0 = f·tan(ε θmax)` (object at infinity, focal length `f`), the code's reference is
the paraxial image height `f·tan(h θmax)` (f-tan) resp. `f·h θmax` (f-θ) at every field.  The premise
(the chief ray at field `1e-10` is paraxial, error O(ε²)) is not a theorem; it is checked numerically
against the harness's own y-nu trace. -/
theorem distortion_ref_is_paraxial_partial (θmax f h : ℝ) (ht : Real.tan (eps10 * θmax) ≠ 0) :
    yRef .ftan θmax (f * Real.tan (eps10 * θmax)) h = f * Real.tan (h * θmax) ∧
    yRef .ftheta θmax (f * Real.tan (eps10 * θmax)) h = f * (h * θmax) := by
  unfold yRef
  simp only
  rw [mul_div_assoc, div_self ht, mul_one]
  exact ⟨rfl, mul_assoc f h θmax⟩

/-- `distortion_height` written out over ℝ -/
theorem distortion_height_unfold (hy yr : List ℝ) :
    distortion_height hy yr =
      List.zipWith (fun h y => 100 * (y - yr.headD 0 / eps10 * h) / (yr.headD 0 / eps10 * h)) hy yr := by
  unfold distortion_height
  simp only [hundred_val]

/-- **distortion_height_linear_zero** (object-height fields; the reference `/repo` uses since F18 was
fixed): with the linear
reference a perfectly linear imaging `y = m·h` has zero distortion at every field.
(The numerator `m h − m h` vanishes identically; for `m = 0` or a field `h = 0` the quotient is the
junk `0/0 = 0` of ℝ where NumPy gives `nan` — the statement is meaningful for `m ≠ 0`, `h ≠ 0`.) -/
theorem distortion_height_linear_zero (m : ℝ) (hy : List ℝ) :
    ∀ v ∈ distortion_height (eps10 :: hy) ((eps10 :: hy).map (fun h => m * h)), v = 0 := by
  have he : (eps10 : ℝ) ≠ 0 := by rw [eps10_val]; norm_num
  rw [distortion_height_unfold, List.zipWith_map_right, List.zipWith_self]
  intro v hv
  obtain ⟨h, _, rfl⟩ := List.mem_map.mp hv
  -- the reference constant `y(ε)/ε` is the slope `m`
  rw [List.map_cons, List.headD_cons, mul_div_cancel_right₀ m he, sub_self, mul_zero, zero_div]

/-! ### distortion: the sign follows the SIGNED reference height -/

/-- one distortion term `100 (y − y_p)/y_p` with image point and reference on the same side of the
axis (`y·y_p > 0`): it is positive exactly when the real image point is farther from the axis
than the reference, whatever the sign of `y_p` (upright or inverted image). -/
theorem dist_term_pos_iff (y yp : ℝ) (hs : 0 < y * yp) :
    0 < 100 * (y - yp) / yp ↔ |yp| < |y| := by
  have hp0 : yp ≠ 0 := right_ne_zero_of_mul hs.ne'
  -- both sides say that the (positive) ratio `y / y_p` exceeds 1
  have hq : 0 < y / yp := div_pos_iff.mpr (mul_pos_iff.mp hs)
  rw [mul_div_assoc, sub_div, div_self hp0, mul_pos_iff_of_pos_left (by norm_num : (0 : ℝ) < 100), sub_pos,
    ← one_lt_div (abs_pos.mpr hp0), ← abs_div, abs_of_pos hq]

/-- the variant "divide by `|y_p|`" against the code's "divide by `y_p`": the two agree exactly
when the reference height is positive or the term vanishes; for a negative reference height
(inverted image: finite object, relay) the variant reports the opposite sign. -/
theorem dist_term_abs_differs_iff (y yp : ℝ) (hp : yp ≠ 0) :
    (100 * (y - yp) / |yp| = 100 * (y - yp) / yp ↔ (0 < yp ∨ y = yp)) ∧
    (yp < 0 → 100 * (y - yp) / |yp| = -(100 * (y - yp) / yp)) := by
  have hneg : yp < 0 → 100 * (y - yp) / |yp| = -(100 * (y - yp) / yp) := fun h => by
    rw [abs_of_neg h, div_neg]
  refine ⟨?_, hneg⟩
  rcases lt_or_gt_of_ne hp with h | h
  · -- a number equals its negative only if it is zero
    rw [hneg h, neg_eq_self, div_eq_zero_iff, or_iff_left hp, mul_eq_zero,
      or_iff_right (by norm_num : (100 : ℝ) ≠ 0), sub_eq_zero, or_iff_right h.not_gt]
  · rw [abs_of_pos h]
    exact iff_of_true rfl (Or.inl h)

example : (0 : ℝ) < (-2) * (-1) ∧ (-1 : ℝ) ≠ 0 := by norm_num

/-- **distortion_sign_signed_height** (object-height fields, `distortion_height`): at a field
`h > 0` with small-field chief-ray height `y0 ≠ 0` (negative for an inverted image) the value
reported is `100 (y − y_p)/y_p` with the SIGNED reference `y_p = y0/ε·h`; if the real image point
is on the same side as the reference the value is positive iff `|y| > |y_p|` (pincushion), for
either sign of `y0`; and dividing by `|y_p|` instead changes the value iff `y0 < 0 ∧ y ≠ y_p`
(then it flips the sign). -/
theorem distortion_sign_signed_height (y0 h y : ℝ) (hy : List ℝ) (yr : List ℝ) (hy0 : y0 ≠ 0) (hh : 0 < h)
    (hsame : 0 < y * y0) :
    let yp := y0 / eps10 * h
    distortion_height (eps10 :: h :: hy) (y0 :: y :: yr) =
      0 :: (100 * (y - yp) / yp) :: (distortion_height (eps10 :: h :: hy) (y0 :: y :: yr)).tail.tail ∧
    (0 < 100 * (y - yp) / yp ↔ |yp| < |y|) ∧
    (100 * (y - yp) / |yp| ≠ 100 * (y - yp) / yp ↔ (y0 < 0 ∧ y ≠ yp)) ∧
    (y0 < 0 → 100 * (y - yp) / |yp| = -(100 * (y - yp) / yp)) := by
  intro yp
  have he : (0 : ℝ) < eps10 := by rw [eps10_val]; norm_num
  -- `y_p` is `y0` times the positive factor `h/ε`, so it has the sign of `y0`
  have hc : 0 < h / eps10 := div_pos hh he
  have hyp : yp = y0 * (h / eps10) := by
    show y0 / eps10 * h = _
    rw [div_mul_eq_mul_div, mul_div_assoc]
  have hyp0 : yp ≠ 0 := hyp ▸ mul_ne_zero hy0 hc.ne'
  have hpos_iff : 0 < yp ↔ 0 < y0 := by rw [hyp]; exact mul_pos_iff_of_pos_right hc
  have hdiff := dist_term_abs_differs_iff y yp hyp0
  refine ⟨?_, dist_term_pos_iff y yp ?_, ?_, fun h1 => hdiff.2 ?_⟩
  · rw [distortion_height_unfold]
    simp only [List.zipWith_cons_cons, List.headD_cons, List.tail_cons]
    rw [div_mul_cancel₀ y0 he.ne', sub_self, mul_zero, zero_div]
  · rw [hyp, ← mul_assoc]
    exact mul_pos hsame hc
  · rw [Ne, hdiff.1, hpos_iff, not_or, not_lt, hy0.le_iff_lt]
  · rw [hyp]
    exact mul_neg_of_neg_of_pos h1 hc

example : (-3 : ℝ) ≠ 0 ∧ (0 : ℝ) < 1 / 2 ∧ (0 : ℝ) < (-2) * (-3) := by norm_num

/-- **distortion_inverted_image**: negating every chief-ray height (the same lens with an inverted
image) leaves the reported distortion unchanged, for both distortion types and for the
object-height reference: the code's sign convention follows the signed paraxial height.
(No guard: over ℝ the junk quotient `x/0 = 0` is also invariant; NumPy gives `nan` on both sides.) -/
theorem distortion_inverted_image (t : DistType) (maxField : ℝ) (hy yr : List ℝ) :
    distortion_code t maxField hy (yr.map (fun y => -y)) = distortion_code t maxField hy yr ∧
    distortion_height hy (yr.map (fun y => -y)) = distortion_height hy yr := by
  have hhead : (yr.map (fun y : ℝ => -y)).headD 0 = -(yr.headD 0) := by
    cases yr <;> simp
  -- the reference height is linear in the small-field height, so it changes sign with it
  have hRef : ∀ θ y0 h, yRef t θ (-y0) h = -yRef t θ y0 h := fun θ y0 h => by
    cases t <;> (simp only [yRef]; ring)
  constructor
  · rw [distortion_def, distortion_def, hhead, List.zipWith_map_right]
    simp only [hRef, dist_term_neg]
  · rw [distortion_height_unfold, distortion_height_unfold, hhead, List.zipWith_map_right]
    simp only [neg_div, neg_mul, dist_term_neg]

/-! ### grid distortion -/

/-- why `GridDistortion` mirrors the predicted x-grid (`np.flip`): on a symmetric extent and for an
odd reference function (`tan`, the identity) flipping the grid is negating it, which is the image
of the ray generator's mirrored x-field axis for *angular* fields.  For object-height fields the
generator does not mirror x, hence `gridDistortion_spec` has no flip there (finding F-C12-1). -/
theorem grid_flip_is_negation (f : ℝ → ℝ) (ext : List ℝ) (hodd : ∀ h, f (-h) = -f h)
    (hsym : ext.reverse = ext.map (fun h => -h)) :
    (gridPredicted f ext true).1 = (gridPredicted f ext false).1.map (fun v => -v) ∧
    (gridPredicted f ext true).2 = (gridPredicted f ext false).2 := by
  refine ⟨?_, rfl⟩
  have hx : (gridH ext).map (fun h => f h.1) = ext.flatMap (fun _ => ext.map f) := by
    simp [gridH, List.map_flatMap, Function.comp_def]
  have hrev : (ext.map f).reverse = (ext.map f).map (fun v => -v) := by
    rw [← List.map_reverse, hsym]
    simp [List.map_map, Function.comp_def, hodd]
  simp only [gridPredicted, if_true, Bool.false_eq_true, if_false, hx]
  rw [List.reverse_flatMap, hsym, List.flatMap_map, List.map_flatMap]
  simp [Function.comp_def, hrev]

example : ([-1, 0, 1] : List ℝ).reverse = ([-1, 0, 1] : List ℝ).map (fun h => -h) := by simp

/-- for angular fields the property's grid is the code's -/
theorem gridDistortion_spec_angle (t : DistType) (maxField y0 : ℝ) (ext : List ℝ) (rays : List (Ray ℝ)) :
    gridDistortion_spec true t maxField y0 ext rays = gridDistortion_code t maxField y0 ext rays :=
  if_pos rfl

/-! ### explicit wavelength lists (F12) -/

/-- **explicit_lists_own**: if the primary wavelength is found in the given list at the lens's
primary index, `centroid_code` (the lens's primary index, the tree while F12 was open) is the
primary-wavelength centroid `centroid_spec`; `/repo` now looks the wavelength up in the given list. -/
theorem explicit_lists_own (data : SpotData ℝ) (wls : List ℝ) (primary : ℝ) (ref : List (Spot ℝ))
    (pidx : Nat) (hidx : refIndex wls primary = some pidx) (hlen : ∀ fd ∈ data, pidx < fd.length) :
    centroid_code data pidx = some (centroid_spec data wls primary ref) := by
  unfold centroid_code centroid_spec
  rw [hidx, if_pos (List.all_eq_true.mpr fun fd hfd => decide_eq_true (hlen fd hfd))]

/-- a list that differs from the lens's own: lens wavelengths `[1, 2]` with primary `1` (index 0),
analysis called with `[2, 1]`: `centroid_code` takes the centroid of the spot of wavelength `2` (F12). -/
theorem explicit_lists_code_differs :
    let data : SpotData ℝ := [[⟨[1], [1], [1]⟩, ⟨[0], [0], [1]⟩]]
    centroid_code data 0 = some [(1, 1)] ∧ centroid_spec data [2, 1] 1 [] = [(0, 0)] := by
  intro data
  have hi : refIndex [(2 : ℝ), 1] 1 = some 1 := by
    simp [refIndex, List.findIdx?_cons, feq, NumReal.le_decide]
  have hm : ∀ a : ℝ, mean [a] = a := fun a => by rw [mean_eq]; simp
  unfold centroid_spec
  rw [hi, centroid_code_single _ 0 (by decide)]
  simp only [data, List.map_cons, List.map_nil, List.getD_cons_succ, List.getD_cons_zero, centroidOf, hm, and_self]

/-- `RayFan`: when the primary wavelength is in the given list `rayFan_code` is what the property
requires; otherwise it is `none` (the `KeyError` of F12b; `/repo` now falls back to the first wavelength). -/
theorem rayFan_code_eq_spec {α : Type} [Num α] (wls : List α) (primary : α) (data : List (List (Fan α)))
    (n : Nat) (ref : List (α × α)) :
    (∀ j, refIndex wls primary = some j →
      rayFan_code wls primary data n = some (rayFan_spec wls primary data n ref)) ∧
    (refIndex wls primary = none → rayFan_code wls primary data n = none) := by
  unfold rayFan_code rayFan_spec
  constructor
  · intro j h; rw [h]; rfl
  · intro h; rw [h]; rfl

/-! ### analyses are functions of the ray records -/

/-- **analysis_is_function_of_rays** (spot data): entry `[f][w]` of `SpotDiagram.data` is the
`[x, y, intensity]` of the image-surface record of the trace of the rays launched for field `f`
and wavelength `w` (the two `List.map`s of `spotDataOfLens` read with `List.getD`; `surfsAt` and `launch`
are free parameters, so nothing is said about which rays are launched). -/
theorem analysis_is_function_of_rays {α : Type} [Num α] (surfsAt : α → List (RSurf α))
    (launch : (α × α) → α → List (Ray α)) (fields : List (α × α)) (wls : List α)
    (f w : Nat) (hf : f < fields.length) (hw : w < wls.length) :
    ((spotDataOfLens surfsAt launch fields wls).getD f []).getD w default =
      spotOfRays (imageRecords wls[w] (surfsAt wls[w]) (launch fields[f] wls[w])) := by
  simp [spotDataOfLens, List.getD_eq_getElem?_getD, hf, hw]

/-- centroid and radii depend on the records only through their `(x, y)` -/
theorem spot_function_of_xy {α : Type} [Num α] (rs rs' : List (Ray α))
    (hx : rs.map (·.x) = rs'.map (·.x)) (hy : rs.map (·.y) = rs'.map (·.y)) (c : α × α) :
    centroidOf (spotOfRays rs) = centroidOf (spotOfRays rs') ∧
    rmsOf (center (spotOfRays rs) c) = rmsOf (center (spotOfRays rs') c) ∧
    geoOf (center (spotOfRays rs) c) = geoOf (center (spotOfRays rs') c) := by
  simp only [centroidOf, spotOfRays, rmsOf, geoOf, radiiOf, r2Of, center, hx, hy, and_self]

/-- congruence; documents which column the model reads: `Distortion` is a function of `rs.map (·.y)`
(what `Drv/Analysis.lean` feeds it) -/
theorem distortion_function_of_y {α : Type} [Num α] (angle : Bool) (t : DistType) (mf : α) (hy : List α)
    (rs rs' : List (Ray α)) (h : rs.map (·.y) = rs'.map (·.y)) :
    distortion_code t mf hy (rs.map (·.y)) = distortion_code t mf hy (rs'.map (·.y)) ∧
    distortion_spec angle t mf hy (rs.map (·.y)) = distortion_spec angle t mf hy (rs'.map (·.y)) := by
  rw [h]; exact ⟨rfl, rfl⟩

theorem pairsOf_map {β γ : Type} (g : β → γ) : ∀ l : List β,
    pairsOf (l.map g) = (pairsOf l).map (fun p => (g p.1, g p.2))
  | [] => rfl
  | [_] => rfl
  | a :: b :: l => congrArg ((g a, g b) :: ·) (pairsOf_map g l)

open scoped Num in
/-- tangential field curvature depends on the records only through `(y, z, M, N)` -/
theorem fc_function_of_meridional {α : Type} [Num α] (rs rs' : List (Ray α))
    (h : rs.map (fun r => (r.y, r.z, r.M, r.N)) = rs'.map (fun r => (r.y, r.z, r.M, r.N))) :
    fcTangential rs = fcTangential rs' := by
  have key : ∀ l : List (Ray α), fcTangential l =
      (pairsOf (l.map (fun r => (r.y, r.z, r.M, r.N)))).map
        (fun p => parabasalT p.1.1 p.1.2.1 p.1.2.2.1 p.1.2.2.2 p.2.1 p.2.2.1 p.2.2.2.1 p.2.2.2.2 * p.1.2.2.2) := by
    intro l
    rw [pairsOf_map, List.map_map]
    rfl
  rw [key, key, h]

/-- `RayOperand.rms_spot_size` (one wavelength) is `SpotDiagram.rms_spot_radius` of the same rays,
over every carrier (hence bit-identical at `Float`) -/
theorem operand_rms_eq_spot_rms {α : Type} [Num α] (rs : List (Ray α)) :
    opRmsSingle rs = rmsOf (center (spotOfRays rs) (centroidOf (spotOfRays rs))) := by
  simp only [opRmsSingle, rmsOf, center, spotOfRays, centroidOf, r2Of, List.zipWith_map]

/-- `RayOperand.x_intercept … N` return component `f` of record `[surface, 0]`, for a surface number
given as a natural number (Python's negative indices, e.g. `-1`, are modelled by `pyIdx` but not
covered here) -/
theorem operand_is_record {α : Type} [Num α] (recs : List (List (Ray α))) (k : Nat) (r : Ray α)
    (rest : List (Ray α)) (f : RayField) (hk : k < recs.length) (h : recs[k] = r :: rest) :
    rayOperand recs (k : Int) f = some (rayGet r f) := by
  have hp : pyIdx recs.length (k : Int) = some k := by
    simp [pyIdx, hk]
  simp [rayOperand, hp, List.getD_eq_getElem?_getD, hk, h]

/-- `RayOperand.rms_spot_size(wavelength='all')` on a lens with a single wavelength is the
single-wavelength operand (two differently written computations agree, every carrier) -/
theorem operand_rms_all_single {α : Type} [Num α] (rs : List (Ray α)) :
    opRmsAll [rs] 0 = opRmsSingle rs := by
  simp [opRmsAll, opRmsSingle, List.zipWith_map, List.zipWith_self]

/-! `RayOperand.rms_spot_size(wavelength='all')`: same pupil samples for every wavelength -/

theorem flatten_replicate_sum_len (l : List ℝ) (n : ℕ) :
    ((List.replicate n l).flatten).sum = n * l.sum ∧
    ((List.replicate n l).flatten).length = n * l.length := by
  rw [List.sum_flatten, List.length_flatten, List.map_replicate, List.map_replicate, List.sum_replicate,
    List.sum_replicate, nsmul_eq_mul, smul_eq_mul]
  exact ⟨rfl, rfl⟩

theorem mean_flatten_replicate (l : List ℝ) (n : ℕ) :
    mean ((List.replicate (n + 1) l).flatten) = mean l := by
  obtain ⟨h1, h2⟩ := flatten_replicate_sum_len l (n + 1)
  rw [mean_eq, mean_eq, h1, h2, Nat.cast_mul, mul_div_mul_left _ _ (Nat.cast_ne_zero.mpr (Nat.succ_ne_zero n))]

/-- **opRmsAll_same_samples**: the `'all'` operand traces the SAME `(Hx, Hy, num_rays,
distribution)` for every wavelength.  Consequence proved here: when the records do not depend on
the wavelength (all-reflective lens) the `'all'` value over `n+1` wavelengths equals the
single-wavelength value, whichever wavelength is primary.  (That a sampler changing between
wavelengths would break this is not a theorem.) -/
theorem opRmsAll_same_samples (rs : List (Ray ℝ)) (n p : ℕ) (hp : p ≤ n) :
    opRmsAll (List.replicate (n + 1) rs) p = opRmsSingle rs := by
  have hget : (List.replicate (n + 1) rs).getD p [] = rs := by
    simp [List.getD_eq_getElem?_getD, Nat.lt_succ_of_le hp]
  unfold opRmsAll opRmsSingle
  simp only [hget, List.zipWith_map, List.zipWith_self]
  congr 1
  rw [List.flatMap_def, List.map_replicate, mean_flatten_replicate]

theorem flatten_equal_length (ls : List (List ℝ)) (k : ℕ) (hk : 0 < k) (h : ∀ l ∈ ls, l.length = k) :
    (ls.map mean).sum * (k : ℝ) = ls.flatten.sum ∧ ls.flatten.length = ls.length * k := by
  have hk' : (k : ℝ) ≠ 0 := Nat.cast_ne_zero.mpr hk.ne'
  constructor
  · -- `mean l · k` is the sum of `l` for each of the lists
    rw [List.sum_flatten, ← List.sum_map_mul_right]
    congr 1
    exact List.map_congr_left fun l hl => by rw [mean_eq, h l hl, div_mul_cancel₀ _ hk']
  · rw [List.length_flatten, List.map_congr_left h, List.map_const', List.sum_replicate, smul_eq_mul]

/-- **opRmsAll_mean_of_wavelength_means**: because `rms_spot_size('all')` traces the SAME number of
pupil samples `k` for every wavelength, its square is the plain (unweighted) mean over the
wavelengths of the per-wavelength mean squared distances from the primary-wavelength centroid. -/
theorem opRmsAll_mean_of_wavelength_means (rss : List (List (Ray ℝ))) (p k : ℕ) (hk : 0 < k)
    (hlen : ∀ rs ∈ rss, rs.length = k) :
    let mx := mean ((rss.getD p []).map (·.x))
    let my := mean ((rss.getD p []).map (·.y))
    opRmsAll rss p = Real.sqrt (mean (rss.map fun rs =>
      mean (rs.map fun r => (r.x - mx) * (r.x - mx) + (r.y - my) * (r.y - my)))) := by
  intro mx my
  set g : Ray ℝ → ℝ := fun r => (r.x - mx) * (r.x - mx) + (r.y - my) * (r.y - my)
  obtain ⟨h1, h2⟩ := flatten_equal_length (rss.map fun rs => rs.map g) k hk
    (List.forall_mem_map.mpr fun rs hrs => (List.length_map _).trans (hlen rs hrs))
  rw [List.map_map] at h1
  show Real.sqrt (mean (rss.flatMap fun rs => rs.map g)) = _
  rw [List.flatMap_def, mean_eq, mean_eq, h2, ← h1, List.length_map, List.length_map, Nat.cast_mul,
    mul_div_mul_right _ _ (Nat.cast_ne_zero.mpr hk.ne')]
  rfl

example : ∀ rs ∈ ([[default, default], [default, default]] : List (List (Ray ℝ))), rs.length = 2 := by
  intro rs h
  simp only [List.mem_cons, List.mem_nil_iff, or_false] at h
  rcases h with rfl | rfl <;> rfl

/-! ### ray fans: symmetric sampling; y-ybar -/

theorem linspace_getD (a b : ℝ) (m i : ℕ) (hi : i < m + 2) :
    (linspace a b (m + 2)).getD i 0 =
      if i = m + 1 then b else (i : ℝ) * ((b - a) / ((m + 1 : ℕ) : ℝ)) + a := by
  rw [linspace_getD_affine a b 0 m i hi]
  split_ifs with h
  · rw [h, linspace_step_last]
  · rfl

/-- **linspace_symmetric**: `linspace(−c, c, n)` (`n ≥ 2`) is symmetric, entry `n−1−i` is minus
entry `i` — the pupil samples of `RayFan` (`c = 1`) and the extent of `GridDistortion`
(`c = √2/2`) -/
theorem linspace_symmetric (c : ℝ) (m i : ℕ) (hi : i ≤ m + 1) :
    (linspace (-c) c (m + 2)).getD (m + 1 - i) 0 = -((linspace (-c) c (m + 2)).getD i 0) := by
  rw [linspace_getD_affine _ _ _ _ _ (by omega), linspace_getD_affine _ _ _ _ _ (by omega), Nat.cast_sub hi]
  -- entry `i` is `−c + i·step` and `(m+1)·step = 2c`
  linear_combination linspace_step_last (-c) c m

/-- **fanPupil_symmetric**: `RayFan`'s pupil samples are symmetric about `0`, and the middle
sample `num_points // 2` (the reference of `fanOffsets`) is the chief ray `P = 0` — provided
`num_points ≥ 2` (after the odd-forcing: `≥ 3`). -/
theorem fanPupil_symmetric (n : ℕ) (h2 : 2 ≤ n) :
    (∀ i, i < oddPoints n →
      (fanPupil n : List ℝ).getD (oddPoints n - 1 - i) 0 = -((fanPupil n : List ℝ).getD i 0)) ∧
    (fanPupil n : List ℝ).getD (oddPoints n / 2) 0 = 0 ∧ oddPoints n / 2 < (fanPupil n : List ℝ).length := by
  obtain ⟨j, hj⟩ := oddPoints_eq n h2
  have hfp : (fanPupil n : List ℝ) = linspace (-1) 1 (2 * j + 1 + 2) := by
    unfold fanPupil
    rw [hj]
    rfl
  obtain ⟨hle, hmirror, hlt, hmid⟩ : j + 1 ≤ 2 * j + 1 + 1 ∧ 2 * j + 1 + 1 - (j + 1) = j + 1 ∧
      j + 1 < 2 * j + 1 + 2 ∧ (2 * j + 1 + 2) / 2 = j + 1 := by omega
  rw [hfp, hj, hmid, AnProofs.linspace_length]
  refine ⟨fun i hi => linspace_symmetric 1 (2 * j + 1) i (Nat.le_of_lt_succ hi), ?_, hlt⟩
  -- the middle sample is its own mirror image
  have hs := linspace_symmetric 1 (2 * j + 1) (j + 1) hle
  rw [hmirror] at hs
  exact self_eq_neg.mp hs

example : (2 : ℕ) ≤ 5 := by norm_num

/-- FINDING (edge case): for `num_points ≤ 1` the fan has the single sample `linspace(−1, 1, 1) = [−1]`,
so the "centre" sample `num_points // 2 = 0` that `RayFan` subtracts as the chief-ray reference is the
marginal ray `P = −1`, not `P = 0` (the comment "force to be odd so a point lies at P=0" fails). -/
theorem fanPupil_one_point_not_chief :
    oddPoints 1 = 1 ∧ oddPoints 0 = 1 ∧ (fanPupil 1 : List ℝ) = [-1] ∧
    (fanPupil 1 : List ℝ).getD (oddPoints 1 / 2) 0 ≠ 0 := by
  refine ⟨rfl, rfl, rfl, ?_⟩
  show (-1 : ℝ) ≠ 0
  norm_num

open scoped Num in
/-- **yybar_segments_spec**: `YYbar` plots `len − 2` segments; segment `i` joins surface `i+1` to
surface `i+2` in the `(ȳ, y)` plane, consecutive segments share their end point (a connected
polyline from surface 1 to the image surface), nothing else of the traces enters. -/
theorem yybar_segments_spec {α : Type} [Num α] (ya yb : List α) :
    (yybarSegments ya yb).length = ya.length - 2 ∧
    (∀ i, i < ya.length - 2 → (yybarSegments ya yb)[i]? =
      some (yb.getD (i + 1) 0, yb.getD (i + 2) 0, ya.getD (i + 1) 0, ya.getD (i + 2) 0)) ∧
    (∀ i, i + 1 < ya.length - 2 → ∀ s s', (yybarSegments ya yb)[i]? = some s →
      (yybarSegments ya yb)[i + 1]? = some s' → s'.1 = s.2.1 ∧ s'.2.2.1 = s.2.2.2) := by
  have hidx : ∀ i, i < ya.length - 2 → (yybarSegments ya yb)[i]? =
      some (yb.getD (i + 1) 0, yb.getD (i + 2) 0, ya.getD (i + 1) 0, ya.getD (i + 2) 0) := by
    intro i hi
    unfold yybarSegments
    rw [List.getElem?_map, List.getElem?_range hi]
    rfl
  refine ⟨by rw [yybarSegments, List.length_map, List.length_range], hidx, ?_⟩
  intro i hi s s' hs hs'
  rw [hidx i (Nat.lt_of_succ_lt hi)] at hs
  rw [hidx (i + 1) hi] at hs'
  cases hs
  cases hs'
  exact ⟨rfl, rfl⟩

/-- **pupilAb_spec**: every value of `PupilAberration` is `(paraxial − real)/d·100` at the stop, and
it vanishes exactly when the real ray hits the stop at the paraxial coordinate (`d ≠ 0`, ray not
vignetted); one-sample form -/
theorem pupilAb_spec (pr re d i : ℝ) (hd : d ≠ 0) (hi : i ≠ 0) :
    pupilAb [pr] d [re] [i] = [(pr - re) / d * 100] ∧ (pupilAb [pr] d [re] [i] = [0] ↔ re = pr) := by
  have h : pupilAb [pr] d [re] [i] = [(pr - re) / d * 100] := by
    unfold pupilAb
    simp only [List.zip_cons_cons, List.zip_nil_right, List.zipWith_cons_cons, List.zipWith_nil_right]
    have hz : Num.isZero i = false := by
      rw [← Bool.not_eq_true, NumReal.isZero_eq]
      exact hi
    rw [hz]
    simp only [Bool.false_eq_true, if_false, hundred_val]
  refine ⟨h, ?_⟩
  rw [h, List.cons.injEq, and_iff_left rfl, mul_eq_zero, or_iff_left (by norm_num : (100 : ℝ) ≠ 0),
    div_eq_zero_iff, or_iff_left hd, sub_eq_zero]
  exact eq_comm

example : (2 : ℝ) ≠ 0 ∧ (1 : ℝ) ≠ 0 := by norm_num

/-- **rmsVsField_samples**: `RmsSpotSizeVsField` samples `Hy` from `0` to `1` in non-decreasing order
(`num_fields ≥ 2`).  The default `7` of `getD` shows that the value read is the sample, not the default. -/
theorem rmsVsField_samples (m : ℕ) :
    (rmsVsFieldHy (m + 2) : List ℝ).getD 0 7 = 0 ∧ (rmsVsFieldHy (m + 2) : List ℝ).getLast? = some 1 ∧
    (rmsVsFieldHy (m + 2) : List ℝ).Pairwise (· ≤ ·) ∧ (rmsVsFieldHy (m + 2) : List ℝ).length = m + 2 := by
  unfold rmsVsFieldHy
  refine ⟨?_, linspace_last _ _ m, linspace_zero_mono 1 zero_le_one (m + 2), AnProofs.linspace_length 0 1 m⟩
  rw [linspace_getD_affine 0 1 7 m 0 (Nat.succ_pos _), Nat.cast_zero, zero_mul, add_zero]

theorem getD_map_sub_self (l : List ℝ) (k : ℕ) (hk : k < l.length) :
    (l.map (fun x => x - l.getD k 0)).getD k 0 = 0 := by
  simp [List.getD_eq_getElem?_getD, List.getElem?_eq_getElem hk]

/-- **rayFan_reference_zero**: after `RayFan`'s referencing, the centre sample (`num_points // 2`) of the
reference wavelength's fans is exactly `0` in both `x` and `y`: the fans are measured from the
primary-wavelength chief ray (one field; the other wavelengths are shifted by the same offset). -/
theorem rayFan_reference_zero (fd : List (Fan ℝ)) (j n : ℕ) (hj : j < fd.length)
    (hx : n / 2 < (fd.getD j default).x.length) (hy : n / 2 < (fd.getD j default).y.length) :
    let o := ((fd.getD j default).x.getD (n / 2) 0, (fd.getD j default).y.getD (n / 2) 0)
    fanShift [fd] (fanOffsets [fd] j n) = [fd.map (fun f : Fan ℝ => f.shift o)] ∧
    ((fd.map (fun f : Fan ℝ => f.shift o)).getD j default).x.getD (n / 2) 0 = 0 ∧
    ((fd.map (fun f : Fan ℝ => f.shift o)).getD j default).y.getD (n / 2) 0 = 0 := by
  intro o
  have hm : (fd.map (fun f : Fan ℝ => f.shift o)).getD j default = (fd.getD j default).shift o := by
    simp [List.getD_eq_getElem?_getD, List.getElem?_map, List.getElem?_eq_getElem hj]
  rw [hm]
  exact ⟨rfl, getD_map_sub_self _ _ hx, getD_map_sub_self _ _ hy⟩

example : ∃ fd : List (Fan ℝ), 0 < fd.length ∧ 3 / 2 < (fd.getD 0 default).x.length ∧
    3 / 2 < (fd.getD 0 default).y.length :=
  ⟨[⟨[1, 2, 3], [1, 1, 1], [4, 5, 6], [1, 1, 1]⟩], by simp, by simp, by simp⟩

end C12
