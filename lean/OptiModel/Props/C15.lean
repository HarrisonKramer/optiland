import OptiModel.Model.Toler
import OptiModel.Proofs.TolerAbs
import OptiModel.Proofs.TolerPresc
import OptiModel.Proofs.NumReal
/-!
# C15  Tolerancing reports true perturbed performance and restores the nominal lens

Theorems about `Model/Toler.lean`.  They are stated for an arbitrary lens type `σ` whose variables
obey the read/write laws `Frame.Lawful` (write is read back, leaves the other variables and the
rest of the lens alone); `presc_variables_lawful` shows that the prescription state machine
`Presc ℝ` (C01) with the variables of `optimization/variable/*.py` obeys them, and
`presc_eqv_is_snapshot_equality` that "same observable prescription" (`Eqv`) means equality of
everything `harness/c01.snap` observes (vertex positions, radii, conics, indices, tilts, decentres,
asphere coefficients, surface kinds/stop flags).

Hypotheses that appear everywhere:
* `F.TolWF T N` – the `Tolerancing` object was built on the nominal lens `N`: every perturbed or
  compensated variable exists, `initial_value` was read on `N`, `inverse_scale ∘ scale = id`
  (`compensator_scaling_roundtrip`: true over ℝ for every variable kind);
* `F.Resp T` – operands and the compensator optimiser are functions of the observable prescription
  (the optimiser is an arbitrary oracle `oracle j s`: C14's `optimize_leaves_solution` is not needed,
  the table records whatever values the optimiser left in the lens);
* `F.Agree T N s` – lens `s` differs from `N` at most in perturbed/compensated variables (true of
  `N` itself and of every lens a previous run left behind, including the perturbed lens
  `MonteCarlo.run` leaves, F7).
Lenses with pickups or solves are outside these theorems when a compensator is present: the
optimiser then also calls `Optic.update()` (finding F-C15-2); without pickups/solves
`Presc.update` is the identity (`update_without_pickups_is_identity`).
-/
set_option linter.unusedSectionVars false
namespace C15
open Model TolerAbs TolerPresc

variable {σ ι α β ρ : Type} [DecidableEq ι] {F : Frame σ ι α ρ}

/-! ## reset -/

/-- `Tolerancing.reset()` restores every perturbed and every compensated variable: the observable
prescription is the nominal one again. -/
theorem reset_restores (L : F.Lawful) {T : Tol σ ι α β} {N s : σ} (hN : F.inv N) (hT : F.TolWF T N)
    (h : F.Agree T N s) : F.Eqv (T.reset F.S s) N :=
  reset_eqv L hN hT h

variable [Num α]

/-! ## rows -/

/-- Every run of the shared loop (`SensitivityAnalysis.run`: `trials = saTrials sizes`,
`MonteCarlo.run`: `trials = mcTrials m n`), started on any lens that differs from nominal at most
in the toleranced variables, records exactly the table `specRows`: row `j` holds the sampled values
`vals_j` and `evaluate (compensate_j (apply vals_j N))` computed on the *nominal* lens `N`. -/
theorem trial_row_is_fresh_evaluation (L : F.Lawful) {T : Tol σ ι α β} {N : σ} (hN : F.inv N)
    (hT : F.TolWF T N) (hR : F.Resp T) (trials : List (List Nat)) (j : Nat) (r : Run σ α)
    (hr : F.Agree T N r.lens) :
    (runTrials F.S T j r trials).2 = specRows F.S T N j r.samplers r.stream trials :=
  (runTrials_spec L hN hT hR trials j r hr).1

/-- what the `i`-th row of `specRows` is: the recorded perturbation values applied to the nominal lens,
followed by the compensation of optimiser run `j + i`, then the operands -/
theorem specRows_row_at (S : Sys σ ι α) (T : Tol σ ι α β) (N : σ) :
    ∀ (trials : List (List Nat)) (j : Nat) (smps : List (Sampler α)) (st : List α) (i : Nat) (row : Row α β),
      (specRows S T N j smps st trials)[i]? = some row →
      row.ops = T.evaluate (T.applyCompensators S (j + i) (applyVals S T N row.applied)).1 ∧
      row.comp = (T.applyCompensators S (j + i) (applyVals S T N row.applied)).2
  | [], _, _, _, _, _, h => by simp [specRows] at h
  | t :: ts, j, smps, st, 0, row, h => by
    simp only [specRows, List.getElem?_cons_zero, Option.some.injEq] at h
    subst h
    exact ⟨rfl, rfl⟩
  | t :: ts, j, smps, st, i + 1, row, h => by
    simp only [specRows, List.getElem?_cons_succ] at h
    have := specRows_row_at S T N ts (j + 1) _ _ i row h
    rwa [show j + 1 + i = j + (i + 1) by omega] at this

/-- the same for a row found anywhere in the table, the run left unnamed -/
theorem specRows_row (S : Sys σ ι α) (T : Tol σ ι α β) (N : σ) :
    ∀ (trials : List (List Nat)) (j : Nat) (smps : List (Sampler α)) (st : List α) (row : Row α β),
      row ∈ specRows S T N j smps st trials →
      ∃ k, row.ops = T.evaluate (T.applyCompensators S k (applyVals S T N row.applied)).1 ∧
           row.comp = (T.applyCompensators S k (applyVals S T N row.applied)).2 :=
  fun trials j smps st row h =>
    let ⟨i, hi⟩ := List.getElem?_of_mem h
    ⟨j + i, specRows_row_at S T N trials j smps st i row hi⟩

/-- the sensitivity table and the Monte-Carlo table (tree version and repaired version) are tables
of fresh evaluations -/
theorem sensitivity_rows_fresh (L : F.Lawful) {T : Tol σ ι α β} {N : σ} (hN : F.inv N)
    (hT : F.TolWF T N) (hR : F.Resp T) (r : Run σ α) (hr : F.Agree T N r.lens) :
    (runSA F.S T r).2 = specRows F.S T N 0 r.samplers r.stream (saTrials (r.samplers.map Sampler.size)) :=
  (runTrials_spec L hN hT hR _ 0 r hr).1

theorem montecarlo_rows_fresh (L : F.Lawful) {T : Tol σ ι α β} {N : σ} (hN : F.inv N)
    (hT : F.TolWF T N) (hR : F.Resp T) (r : Run σ α) (hr : F.Agree T N r.lens) (n : Nat) :
    (runMC_code F.S T r n).2 = specRows F.S T N 0 r.samplers r.stream (mcTrials T.perts.length n) ∧
    (runMC_spec F.S T r n).2 = (runMC_code F.S T r n).2 :=
  ⟨(runTrials_spec L hN hT hR _ 0 r hr).1, rfl⟩

/-- Perturbation values equal to the nominal values (`initial_value`) reproduce the nominal
operand values, provided the compensation of that trial leaves the nominal lens alone (always
true without compensators, see `nominal_perturbation_identity_no_comp`). -/
theorem nominal_perturbation_identity (L : F.Lawful) {T : Tol σ ι α β} {N : σ} (hN : F.inv N)
    (hT : F.TolWF T N) (hR : F.Resp T) (vals : List (Nat × α)) (k : Nat)
    (hv : ∀ iv, iv ∈ vals → ∃ p, T.perts[iv.1]? = some p ∧ iv.2 = p.init)
    (hfix : F.Eqv (T.applyCompensators F.S k N).1 N) :
    T.evaluate (T.applyCompensators F.S k (applyVals F.S T N vals)).1 = T.evaluate N := by
  have e1 := applyVals_nominal L hT vals N (eqv_refl hN) hv
  have e2 := (applyCompensators_eqv L hT hR k e1).1
  exact evaluate_eqv hR (eqv_trans e2 hfix)

theorem nominal_perturbation_identity_no_comp (L : F.Lawful) {T : Tol σ ι α β} {N : σ} (hN : F.inv N)
    (hT : F.TolWF T N) (hR : F.Resp T) (vals : List (Nat × α)) (k : Nat)
    (hv : ∀ iv, iv ∈ vals → ∃ p, T.perts[iv.1]? = some p ∧ iv.2 = p.init) (hc : T.comps = []) :
    T.evaluate (T.applyCompensators F.S k (applyVals F.S T N vals)).1 = T.evaluate N := by
  apply nominal_perturbation_identity L hN hT hR vals k hv
  simp only [Tol.applyCompensators, hc, List.isEmpty_nil, if_true]
  exact eqv_refl hN

/-! ## the lens after the run -/

/-- `SensitivityAnalysis.run` ends with `reset()`: nominal prescription. -/
theorem sensitivity_restores (L : F.Lawful) {T : Tol σ ι α β} {N : σ} (hN : F.inv N)
    (hT : F.TolWF T N) (hR : F.Resp T) (r : Run σ α) (hr : F.Agree T N r.lens) :
    F.Eqv (runSA F.S T r).1.lens N :=
  reset_eqv L hN hT (runTrials_spec L hN hT hR _ 0 r hr).2.1

/-- `MonteCarlo.run` as the property requires it (reset after the loop): nominal prescription. -/
theorem montecarlo_restores (L : F.Lawful) {T : Tol σ ι α β} {N : σ} (hN : F.inv N)
    (hT : F.TolWF T N) (hR : F.Resp T) (r : Run σ α) (hr : F.Agree T N r.lens) (n : Nat) :
    F.Eqv (runMC_spec F.S T r n).1.lens N :=
  reset_eqv L hN hT (runTrials_spec L hN hT hR _ 0 r hr).2.1

/-- a later explicit `Tolerancing.reset()` repairs what the tree's `MonteCarlo.run` leaves behind -/
theorem montecarlo_code_then_reset_restores (L : F.Lawful) {T : Tol σ ι α β} {N : σ} (hN : F.inv N)
    (hT : F.TolWF T N) (hR : F.Resp T) (r : Run σ α) (hr : F.Agree T N r.lens) (n : Nat) :
    F.Eqv (T.reset F.S (runMC_code F.S T r n).1.lens) N :=
  reset_eqv L hN hT (runTrials_spec L hN hT hR _ 0 r hr).2.1

/-- F7, exact form: `MonteCarlo.run(n+1)` as in the tree leaves the lens in the state of its last
trial: last row's values applied to the nominal lens, followed by that trial's compensation. -/
theorem montecarlo_code_leaves_last_trial (L : F.Lawful) {T : Tol σ ι α β} {N : σ} (hN : F.inv N)
    (hT : F.TolWF T N) (hR : F.Resp T) (r : Run σ α) (hr : F.Agree T N r.lens) (n : Nat) :
    ∃ row, (runMC_code F.S T r (n+1)).2.getLast? = some row ∧
      F.Eqv (runMC_code F.S T r (n+1)).1.lens
        (T.applyCompensators F.S n (applyVals F.S T N row.applied)).1 := by
  unfold runMC_code
  rw [show mcTrials T.perts.length (n+1) = mcTrials T.perts.length n ++ [List.range T.perts.length] from
    List.replicate_succ', runTrials_append]
  have ha := (runTrials_spec L hN hT hR (mcTrials T.perts.length n) 0 r hr).2.1
  refine ⟨_, List.getLast?_concat, ?_⟩
  have hl : 0 + (mcTrials T.perts.length n).length = n := by simp [mcTrials]
  rw [hl]
  -- the last trial starts with a reset, so it runs on the nominal prescription
  exact (applyCompensators_eqv L hT hR n
    (applyVals_keeps F.Eqv (eqv_step L hT) _ _ _ (reset_eqv L hN hT ha))).1

/-- F7, negation witness: `montecarlo_restores` is false for `runMC_code` — one perturbation with a
scalar sampler whose value is not the nominal one, no compensator, any number `n+1 ≥ 1` of trials. -/
theorem montecarlo_code_not_restored (L : F.Lawful) {T : Tol σ ι α β} {N : σ} (hN : F.inv N)
    (hT : F.TolWF T N) (hR : F.Resp T) (r : Run σ α) (hr : F.Agree T N r.lens) (p : PVar ι α) (v : α)
    (hp : T.perts = [p]) (hc : T.comps = []) (hs : r.samplers = [Sampler.scalar v])
    (hne : p.var.un v ≠ F.S.get N p.var.idx) (n : Nat) :
    ¬ F.Eqv (runMC_code F.S T r (n+1)).1.lens N := by
  intro hE
  obtain ⟨row, hlast, hfresh⟩ := montecarlo_code_leaves_last_trial L hN hT hR r hr n
  have h1 : T.perts.length = 1 := by rw [hp]; rfl
  have hrows := (runTrials_spec L hN hT hR (mcTrials T.perts.length (n+1)) 0 r hr).1
  have hmem : row ∈ (runMC_code F.S T r (n+1)).2 := List.mem_of_getLast? hlast
  unfold runMC_code at hmem
  rw [hrows, hs, h1] at hmem
  have happ : row.applied = [(0, v)] := by
    have : mcTrials 1 (n+1) = List.replicate (n+1) [0] := by simp [mcTrials, List.range_succ]
    rw [this] at hmem
    exact specRows_scalar F.S T N v h1 _ _ _ row hmem
  have hok : F.ok p.var.idx := (hT p (by rw [hp]; simp)).1.1
  -- the lens is the nominal one and the freshly perturbed one at once: read `p` on both
  have := (eqv_trans (eqv_symm hE) hfresh).2.2.2 p.var.idx hok
  rw [happ] at this
  simp only [Tol.applyCompensators, hc, List.isEmpty_nil, if_true, applyVals, hp, List.getElem?_cons_zero,
    TVar.update] at this
  rw [L.get_set _ _ _ _ hN hok hok, if_pos rfl] at this
  exact hne this.symm

/-! ## reproducibility -/

/-- Same sampler states and same stream of values drawn from NumPy's generator ⇒ same table, whatever
lens (within `Agree`) the two runs start from — e.g. a second run on the lens the first left behind.
(That a seeded NumPy generator reproduces the stream is trusted.) -/
theorem seeded_reproducible (L : F.Lawful) {T : Tol σ ι α β} {N : σ} (hN : F.inv N) (hT : F.TolWF T N)
    (hR : F.Resp T) (trials : List (List Nat)) (j : Nat) (r r' : Run σ α)
    (hr : F.Agree T N r.lens) (hr' : F.Agree T N r'.lens) (hs : r.samplers = r'.samplers)
    (hst : r.stream = r'.stream) :
    (runTrials F.S T j r trials).2 = (runTrials F.S T j r' trials).2 := by
  rw [(runTrials_spec L hN hT hR trials j r hr).1, (runTrials_spec L hN hT hR trials j r' hr').1, hs, hst]

/-- the perturbation values of the table and the final sampler states/stream do not depend on the
lens at all -/
theorem sampling_independent_of_lens (L : F.Lawful) {T : Tol σ ι α β} {N : σ} (hN : F.inv N)
    (hT : F.TolWF T N) (hR : F.Resp T) (trials : List (List Nat)) (j : Nat) (r : Run σ α)
    (hr : F.Agree T N r.lens) :
    ((runTrials F.S T j r trials).1.samplers, (runTrials F.S T j r trials).1.stream) =
      (drawTrials T.perts.length r.samplers r.stream trials).1 :=
  (runTrials_spec L hN hT hR trials j r hr).2.2

/-! ## samplers -/
section Samplers
open scoped Num

/-- `RangeSampler.sample()` called `k` times from index `i ≤ len`: the values cycle through
`values` (wrap-around at the end). -/
theorem range_sampler_cycle (vs : List α) (hv : 0 < vs.length) (st : List α) (k i : Nat) (hi : i ≤ vs.length) :
    sampleSeq (.range vs i) st k = (List.range k).map fun j => vs.getD ((i + j) % vs.length) 0 := by
  induction k generalizing i with
  | zero => rfl
  | succ k ih =>
    rw [List.range_succ_eq_map]
    simp only [sampleSeq, Sampler.sample, List.map_cons, List.map_map, Nat.add_zero]
    by_cases h : vs.length ≤ i
    · have e : i = vs.length := Nat.le_antisymm hi h
      simp only [h, if_true]
      rw [ih 1 (by omega)]
      congr 1
      · rw [e, Nat.mod_self]
      · apply List.map_congr_left
        intro j _
        simp only [Function.comp]
        congr 1
        rw [e, show vs.length + (j+1) = (1 + j) + vs.length by omega, Nat.add_mod_right]
    · simp only [h, if_false]
      rw [ih (i+1) (by omega)]
      congr 1
      · rw [Nat.mod_eq_of_lt (by omega)]
      · apply List.map_congr_left
        intro j _
        simp only [Function.comp]
        congr 2
        omega

/-- One block of `SensitivityAnalysis.run` (`size` calls) records exactly the `tolLinspace` values in
order — on the first run (index 0) and on every later run (index = size: wraps to 0). -/
theorem range_sampler_full_cycle (vs : List α) (hv : 0 < vs.length) (st : List α) :
    sampleSeq (.range vs 0) st vs.length = vs ∧ sampleSeq (.range vs vs.length) st vs.length = vs := by
  have key : ∀ i, i = 0 ∨ i = vs.length → sampleSeq (.range vs i) st vs.length = vs := by
    intro i hi
    rw [range_sampler_cycle vs hv st vs.length i (by rcases hi with rfl | rfl <;> omega)]
    apply List.ext_getElem
    · simp
    · intro j h1 h2
      simp only [List.getElem_map, List.getElem_range]
      have hj : j < vs.length := h2
      have : (i + j) % vs.length = j := by
        rcases hi with rfl | rfl
        · rw [Nat.zero_add, Nat.mod_eq_of_lt hj]
        · rw [Nat.add_comm, Nat.add_mod_right, Nat.mod_eq_of_lt hj]
      rw [this, List.getD_eq_getElem?_getD, List.getElem?_eq_getElem hj]; rfl
  exact ⟨key 0 (Or.inl rfl), key _ (Or.inr rfl)⟩

/-- A range sampler that has been used before (`k` earlier `sample()` calls: a Monte-Carlo preview, a manual
`apply()`/`reset()`; the driver's `ra` sampler) is the same sampler at some index `i ≤ len`. -/
theorem used_range_sampler_state (vs : List α) (hv : 0 < vs.length) (k : Nat) :
    ∃ i, i ≤ vs.length ∧
      Nat.repeat (fun s => (s.sample ([] : List α)).2.1) k (Sampler.range vs 0) = Sampler.range vs i := by
  induction k with
  | zero => exact ⟨0, Nat.zero_le _, rfl⟩
  | succ k ih =>
    obtain ⟨i, hi, h⟩ := ih
    refine ⟨(if vs.length ≤ i then 0 else i) + 1, by split <;> omega, ?_⟩
    show ((Nat.repeat (fun s => (s.sample ([] : List α)).2.1) k (Sampler.range vs 0)).sample []).2.1 = _
    rw [h]
    exact sampler_state_range vs [] i

/-- The block of `SensitivityAnalysis.run` on such a sampler records the range values rotated by that index:
every row still holds the value that `sample()` returned (and `sensitivity_rows_fresh`, which holds for *any*
sampler state, pairs it with the operands evaluated for exactly that value). -/
theorem used_range_sampler_block (vs : List α) (hv : 0 < vs.length) (k : Nat) (st : List α) :
    ∃ i, i ≤ vs.length ∧
      sampleSeq (Nat.repeat (fun s => (s.sample ([] : List α)).2.1) k (Sampler.range vs 0)) st vs.length
        = (List.range vs.length).map fun j => vs.getD ((i + j) % vs.length) 0 := by
  obtain ⟨i, hi, h⟩ := used_range_sampler_state vs hv k
  exact ⟨i, hi, by rw [h]; exact range_sampler_cycle vs hv st vs.length i hi⟩

example : Nat.repeat (fun s => (s.sample ([] : List ℝ)).2.1) 5 (Sampler.range [10, 20, 30] 0)
    = Sampler.range [10, 20, 30] 2 := by simp [Nat.repeat, Sampler.sample]

/-- a `ScalarSampler` returns its value and does not change -/
theorem scalar_sampler_constant (v : α) (st : List α) : (Sampler.scalar v).sample st = (v, .scalar v, st) := rfl

/-- a `DistributionSampler` consumes exactly one value of the global stream -/
theorem dist_sampler_consumes_one (x : α) (st : List α) : (Sampler.dist).sample (x :: st) = (x, .dist, st) := rfl

theorem linspace_length (a b : α) (n : Nat) : (tolLinspace a b n).length = n := by
  unfold tolLinspace
  rcases n with _ | _ | n <;> simp

end Samplers

/-- over ℝ: `tolLinspace` starts at `start` and ends at `stop` -/
theorem linspace_endpoints (a b : ℝ) (n : Nat) :
    (tolLinspace a b (n+2)).head? = some a ∧ (tolLinspace a b (n+2)).getLast? = some b := by
  unfold tolLinspace
  constructor
  · rw [List.head?_map, List.range_succ_eq_map]
    simp only [List.head?_cons, Option.map_some, Num.ofNat]
    num_real
    simp
  · rw [List.getLast?_map, List.range_succ]
    simp

/-! ## the instance: prescription state machine -/

/-- the variables of `optimization/variable/*.py` on `Presc ℝ` obey the read/write laws (for every
nominal lens `N`; a radius variable is required to sit on a non-plane, thickness and index variables
need a successor surface, coefficient numbers must be in range) -/
theorem presc_variables_lawful (N : Presc ℝ) : (frameP N).Lawful := frameP_lawful N

/-- `Eqv` on `Presc ℝ` is equality of the observable snapshot -/
theorem presc_eqv_is_snapshot_equality (N P Q : Presc ℝ) (hn : 2 ≤ (shapes N).length)
    (h : (frameP N).Eqv P Q) : snapOf P = snapOf Q := eqv_snap N P Q hn h

/-- `reset_restores` on `Presc ℝ`, in observable terms -/
theorem presc_reset_restores_snapshot (N s : Presc ℝ) (hn : 2 ≤ (shapes N).length) (hN : invP N N)
    {T : Tol (Presc ℝ) Var ℝ β} (hT : (frameP N).TolWF T N) (h : (frameP N).Agree T N s) :
    snapOf (T.reset prescSys s) = snapOf N :=
  eqv_snap N _ _ hn (reset_eqv (frameP_lawful N) hN hT h)

/-- `scale`/`inverse_scale` of every variable kind are mutually inverse over ℝ (compensator
variables are created with `apply_scaling=True`) -/
theorem compensator_scaling_roundtrip (v : Var) (x : ℝ) :
    (compVar (α := ℝ) v).un ((compVar v).sc x) = x := compVar_roundtrip v x

/-- without pickups and solves `Optic.update()` (called by the optimiser) changes nothing -/
theorem update_without_pickups_is_identity (P : Presc ℝ) (h1 : P.pickups = []) (h2 : P.solves = []) :
    update P = P := by
  simp [update, h1, h2]

/-! ### non-vacuity: a concrete singlet, F7 on it -/

noncomputable def demoSurf (z r : ℝ) (gk : GKind) (pre post : Nat) : SRec ℝ :=
  ⟨.standard, gk, z, 0, 0, 0, 0, r, 0, [], pre, post, false, false⟩

/-- object plane, one refracting sphere (R = 50, n = 1.5), image plane -/
noncomputable def demoLens : Presc ℝ :=
  { surfs := [demoSurf (-10) 0 .plane 0 0, demoSurf 0 50 .standard 0 1, demoSurf 100 0 .plane 1 1],
    lastThickness := 0, mats := [1, 3/2], apValue := 1, maxYField := 0 }

theorem demo_inv : invP demoLens demoLens := by
  refine ⟨rfl, ?_, ?_⟩
  · simp [posAt, positions, demoLens, demoSurf]
  · intro t ht
    simp only [demoLens, List.mem_cons, List.not_mem_nil, or_false] at ht
    rcases ht with rfl | rfl | rfl <;> simp [demoSurf, demoLens]

theorem demo_ok : okShape (shapes demoLens) ⟨.radius, 1⟩ :=
  ⟨(SKind.standard, GKind.standard, false, false, 0), rfl, by simp⟩

/-- tolerancing set-up on the singlet: radius of surface 1 perturbed to 60 by a `ScalarSampler`,
operand = that radius, no compensator -/
noncomputable def demoTol : Tol (Presc ℝ) Var ℝ ℝ :=
  { perts := [PVar.make prescSys (pertVar ⟨.radius, 1⟩) demoLens], comps := [],
    operands := [fun P => Var.get P ⟨.radius, 1⟩], oracle := fun _ _ => [] }

theorem demo_wf : (frameP demoLens).TolWF demoTol demoLens := by
  intro p hp
  simp only [demoTol, List.append_nil, List.mem_singleton] at hp
  subst hp
  exact ⟨⟨demo_ok, fun _ => rfl⟩, rfl⟩

theorem demo_resp : (frameP demoLens).Resp demoTol := by
  refine ⟨?_, fun _ _ _ _ => rfl⟩
  intro f hf s t h
  simp only [demoTol, List.mem_singleton] at hf
  subst hf
  exact h.2.2.2 ⟨.radius, 1⟩ demo_ok

/-- F7 on a concrete lens: after the tree's `MonteCarlo.run(n+1)` the singlet is not nominal -/
theorem montecarlo_code_not_restored_demo (st : List ℝ) (n : Nat) :
    ¬ (frameP demoLens).Eqv
      (runMC_code prescSys demoTol ⟨demoLens, [Sampler.scalar 60], st⟩ (n+1)).1.lens demoLens := by
  apply montecarlo_code_not_restored (F := frameP demoLens) (frameP_lawful demoLens) demo_inv demo_wf demo_resp
    ⟨demoLens, [Sampler.scalar 60], st⟩ (agree_of_eqv (eqv_refl demo_inv)) _ 60 rfl rfl rfl _ n
  show (60 : ℝ) ≠ Var.get demoLens ⟨.radius, 1⟩
  simp [Var.get, surfField, demoLens, demoSurf]

/-- …while the repaired loop and the sensitivity loop restore it -/
example (st : List ℝ) (n : Nat) :
    snapOf (runMC_spec prescSys demoTol ⟨demoLens, [Sampler.scalar 60], st⟩ n).1.lens = snapOf demoLens :=
  eqv_snap demoLens _ _ (by simp [shapes, demoLens])
    (montecarlo_restores (F := frameP demoLens) (frameP_lawful demoLens) demo_inv demo_wf demo_resp _
      (agree_of_eqv (eqv_refl demo_inv)) n)

/-! ### non-vacuity with a compensator

The set-up above has no compensator and an oracle that is never called.  Here: the radius of surface 1
perturbed by a `RangeSampler`, the thickness behind surface 1 as (scaled) compensator, an
optimiser whose result depends on the lens it is started on (through the observable prescription),
two operands. -/

theorem demo_okT : okShape (shapes demoLens) ⟨.thickness, 1⟩ := by
  show 1 + 1 < (shapes demoLens).length
  simp [shapes, demoLens]

noncomputable def demoTolC : Tol (Presc ℝ) Var ℝ ℝ :=
  { perts := [PVar.make prescSys (pertVar ⟨.radius, 1⟩) demoLens],
    comps := [PVar.make prescSys (compVar ⟨.thickness, 1⟩) demoLens],
    operands := [fun P => Var.get P ⟨.radius, 1⟩, fun P => Var.get P ⟨.thickness, 1⟩],
    oracle := fun _ P => [Var.get P ⟨.radius, 1⟩] }

theorem demo_wfC : (frameP demoLens).TolWF demoTolC demoLens := by
  intro p hp
  simp only [demoTolC, List.cons_append, List.nil_append, List.mem_cons, List.not_mem_nil, or_false] at hp
  rcases hp with rfl | rfl
  · exact ⟨⟨demo_ok, fun _ => rfl⟩, rfl⟩
  · exact ⟨⟨demo_okT, compVar_roundtrip _⟩, rfl⟩

theorem demo_respC : (frameP demoLens).Resp demoTolC := by
  refine ⟨?_, fun _ s t h => congrArg (fun x => [x]) (h.2.2.2 ⟨.radius, 1⟩ demo_ok)⟩
  intro f hf s t h
  simp only [demoTolC, List.mem_cons, List.not_mem_nil, or_false] at hf
  rcases hf with rfl | rfl
  · exact h.2.2.2 ⟨.radius, 1⟩ demo_ok
  · exact h.2.2.2 ⟨.thickness, 1⟩ demo_okT

/-- with the compensator: the sensitivity table is the table of fresh evaluations and the lens is
nominal afterwards (all hypotheses of `sensitivity_rows_fresh` / `sensitivity_restores` discharged) -/
example (st : List ℝ) :
    (runSA prescSys demoTolC ⟨demoLens, [Sampler.mkRange 40 60 3], st⟩).2 =
      specRows prescSys demoTolC demoLens 0 [Sampler.mkRange 40 60 3] st
        (saTrials ([Sampler.mkRange (40:ℝ) 60 3].map Sampler.size)) ∧
    snapOf (runSA prescSys demoTolC ⟨demoLens, [Sampler.mkRange 40 60 3], st⟩).1.lens = snapOf demoLens :=
  ⟨sensitivity_rows_fresh (F := frameP demoLens) (frameP_lawful demoLens) demo_inv demo_wfC demo_respC _
      (agree_of_eqv (eqv_refl demo_inv)),
   eqv_snap demoLens _ _ (by simp [shapes, demoLens])
    (sensitivity_restores (F := frameP demoLens) (frameP_lawful demoLens) demo_inv demo_wfC demo_respC _
      (agree_of_eqv (eqv_refl demo_inv)))⟩

/-! ## finding F-C15-1: index perturbation on a dispersive glass -/

/-- as in the tree: after `reset` of an index perturbation the medium has the nominal index of the
variable's wavelength at *every* wavelength: a dispersive nominal medium (`n1 ≠ n2`) is not restored -/
theorem index_reset_code_loses_dispersion (n1 n2 v : ℝ) (h : n1 ≠ n2) :
    indexReset_code (n1, n2) (indexUpdate (n1, n2) v) n1 ≠ (n1, n2) := by
  simp [indexReset_code, indexUpdate, h]

/-- the reset the property requires (`indexReset_spec` is *defined* as "return the nominal medium":
this is `rfl` and only names the requirement) -/
theorem index_reset_spec_restores (n1 n2 v : ℝ) :
    indexReset_spec (n1, n2) (indexUpdate (n1, n2) v) n1 = (n1, n2) := rfl

/-- for a non-dispersive medium the tree's reset is correct -/
theorem index_reset_code_ok_nondispersive (n v : ℝ) :
    indexReset_code (n, n) (indexUpdate (n, n) v) n = (n, n) := rfl

end C15
