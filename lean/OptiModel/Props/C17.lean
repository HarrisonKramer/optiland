import OptiModel.Model.Polar
import OptiModel.Proofs.NumReal
import OptiModel.Proofs.Polar
import Mathlib.Tactic.FieldSimp
import Mathlib.Tactic.Ring
import Mathlib.Tactic.LinearCombination
import Mathlib.Tactic.Positivity
import Mathlib.Tactic.Linarith
import Mathlib.Tactic.NormNum
import Mathlib.Analysis.SpecialFunctions.Trigonometric.Basic
/-!
# C17  Fresnel coefficients conserve energy; polarization elements obey their algebra

Theorems over ℝ about `Model/Polar.lean` (complex numbers are pairs of reals, `cis x = (cos x, sin x)`).
Helper lemmas: `Proofs/Polar.lean`.

No theorem speaks of `computeAoi`, `clip1`, `fresnelEvent`, `surfaceMatrixJ`, `FresnelJ.toM3`, `J2.toM3`
(only the driver uses them): every Fresnel theorem takes the angle of incidence `θ` as a free variable, so
the link `cos (computeAoi n k0) = |n·k0|` is open, and coated surfaces are compared by the conformance
run only.  `Chain` below is `C17.Chain` (directions of one ray), unrelated to `C02.Chain`.
-/
namespace C17
open Model.Polar PolarLemmas

/-! ## 1. Fresnel coefficients (`JonesFresnel.calculate_matrix`) -/

/-- **R_s + T_s = 1** for every pair of positive real indices and every angle of incidence with
`0 < cos θ` below the critical angle (a refraction angle `θt` with `0 < cos θt` satisfying Snell's
law exists), the transmittance carrying the factor `(n₂ cos θt)/(n₁ cos θ)`.  The two entries are the
`[0,0]` entries of `JonesFresnel.calculate_matrix(reflect=True / False)`. -/
theorem fresnel_energy_s (n1 n2 θ θt : ℝ) (h1 : 0 < n1) (h2 : 0 < n2) (hc : 0 < Real.cos θ)
    (hct : 0 < Real.cos θt) (snell : n1 * Real.sin θ = n2 * Real.sin θt) :
    (fresnel n1 n2 θ true).s.abs2
      + (n2 * Real.cos θt) / (n1 * Real.cos θ) * (fresnel n1 n2 θ false).s.abs2 = 1 := by
  have hn : 0 < n2 / n1 := div_pos h2 h1
  rw [mul_div_mul_comm, ← mul_div_assoc]
  exact (fresnel_energy_root n1 n2 θ _ (fresnelRoot_eq n1 n2 θ θt h1 h2 hct snell) hn hc (mul_pos hn hct)).1

/-- **R_p + T_p = 1**, same hypotheses; entries `[1,1]` of the two matrices (the reflection matrix
holds `-r_p`) -/
theorem fresnel_energy_p (n1 n2 θ θt : ℝ) (h1 : 0 < n1) (h2 : 0 < n2) (hc : 0 < Real.cos θ)
    (hct : 0 < Real.cos θt) (snell : n1 * Real.sin θ = n2 * Real.sin θt) :
    (fresnel n1 n2 θ true).p.abs2
      + (n2 * Real.cos θt) / (n1 * Real.cos θ) * (fresnel n1 n2 θ false).p.abs2 = 1 := by
  have hn : 0 < n2 / n1 := div_pos h2 h1
  rw [mul_div_mul_comm, ← mul_div_assoc]
  exact (fresnel_energy_root n1 n2 θ _ (fresnelRoot_eq n1 n2 θ θt h1 h2 hct snell) hn hc (mul_pos hn hct)).2

example : ∃ n1 n2 θ θt : ℝ, 0 < n1 ∧ 0 < n2 ∧ 0 < Real.cos θ ∧ 0 < Real.cos θt ∧
    n1 * Real.sin θ = n2 * Real.sin θt :=
  ⟨1, 2, 0, 0, one_pos, two_pos, by rw [Real.cos_zero]; exact one_pos, by rw [Real.cos_zero]; exact one_pos,
    by rw [Real.sin_zero, mul_zero, mul_zero]⟩

/-- **R + T = 1 for every angle below the critical angle** (the quantifier of the property, no refraction
angle assumed): for positive indices, `0 < cos θ` and `sin²θ < (n₂/n₁)²` the refraction angle
`θt = arcsin(n₁ sin θ / n₂)` satisfies Snell's law with `0 < cos θt`, and both energy balances hold -/
theorem fresnel_energy_below_critical (n1 n2 θ : ℝ) (h1 : 0 < n1) (h2 : 0 < n2) (hc : 0 < Real.cos θ)
    (hcrit : Real.sin θ ^ 2 < (n2 / n1) ^ 2) :
    ∃ θt, 0 < Real.cos θt ∧ n1 * Real.sin θ = n2 * Real.sin θt ∧
      (fresnel n1 n2 θ true).s.abs2
        + (n2 * Real.cos θt) / (n1 * Real.cos θ) * (fresnel n1 n2 θ false).s.abs2 = 1 ∧
      (fresnel n1 n2 θ true).p.abs2
        + (n2 * Real.cos θt) / (n1 * Real.cos θ) * (fresnel n1 n2 θ false).p.abs2 = 1 := by
  have hn : 0 < n2 / n1 := div_pos h2 h1
  -- `θt = arcsin(sin θ / (n₂/n₁))`
  obtain ⟨x, hx⟩ : ∃ x, x = Real.sin θ / (n2 / n1) := ⟨_, rfl⟩
  have hx1 : |x| < 1 := by
    rw [← sq_lt_one_iff_abs_lt_one, hx, div_pow, div_lt_one (pow_pos hn 2)]
    exact hcrit
  have hsin : Real.sin (Real.arcsin x) = x := Real.sin_arcsin (abs_lt.mp hx1).1.le (abs_lt.mp hx1).2.le
  have hcos : 0 < Real.cos (Real.arcsin x) := by
    rw [Real.cos_arcsin]
    exact Real.sqrt_pos.mpr (sub_pos.mpr ((sq_lt_one_iff_abs_lt_one x).mpr hx1))
  have snell : n1 * Real.sin θ = n2 * Real.sin (Real.arcsin x) := by
    rw [hsin, hx, div_div_eq_mul_div, mul_div_cancel₀ _ h2.ne', mul_comm]
  exact ⟨Real.arcsin x, hcos, snell, fresnel_energy_s n1 n2 θ _ h1 h2 hc hcos snell,
    fresnel_energy_p n1 n2 θ _ h1 h2 hc hcos snell⟩

/-- non-vacuity at oblique incidence: air → n = 2 at 30° -/
example : 0 < Real.cos (Real.pi / 6) ∧ Real.sin (Real.pi / 6) ^ 2 < ((2:ℝ) / 1) ^ 2 := by
  rw [Real.cos_pi_div_six, Real.sin_pi_div_six]
  exact ⟨by positivity, by norm_num⟩

/-- the third diagonal entry is `-1` (reflection) / `1` (transmission) -/
theorem fresnel_k (n1 n2 θ : ℝ) :
    (fresnel n1 n2 θ true).k = ⟨-1, 0⟩ ∧ (fresnel n1 n2 θ false).k = ⟨1, 0⟩ := by
  simp only [fresnel, if_true, Bool.false_eq_true, if_false, Cx.ofReal, NumReal.fneg_eq,
    NumReal.one_eq, NumReal.zero_eq, and_self]

/-- **Brewster**: below the critical angle, for distinct indices, the p reflection coefficient
vanishes exactly when `tan θ = n₂/n₁` (for equal indices it vanishes at every angle) -/
theorem brewster (n1 n2 θ : ℝ) (h1 : 0 < n1) (h2 : 0 < n2) (hne : n1 ≠ n2) (hc : 0 < Real.cos θ)
    (hs : 0 ≤ Real.sin θ) (hcrit : Real.sin θ ^ 2 < (n2 / n1) ^ 2) :
    (fresnel n1 n2 θ true).p = Cx.zero ↔ Real.tan θ = n2 / n1 := by
  have hr := fresnelRoot_real n1 n2 θ hcrit.le
  have hnpos : 0 < n2 / n1 := by positivity
  have hn1 : n2 / n1 ≠ 1 := by
    intro h; apply hne; rw [div_eq_one_iff_eq h1.ne'] at h; exact h.symm
  have hrad : 0 < (n2 / n1) ^ 2 - Real.sin θ ^ 2 := by linarith
  have key := brewster_aux (n2 / n1) (Real.cos θ) (Real.sin θ) _ hnpos hn1 hc hs
    (Real.sin_sq_add_cos_sq θ) (Real.sqrt_pos.mpr hrad) (Real.sq_sqrt hrad.le)
  rw [Real.tan_eq_sin_div_cos, ← key, (fresnel_real n1 n2 θ _ hr).1, cx_zero, Cx.mk.injEq, neg_eq_zero]
  exact and_iff_left rfl

example : ∃ n1 n2 θ : ℝ, 0 < n1 ∧ 0 < n2 ∧ n1 ≠ n2 ∧ 0 < Real.cos θ ∧ 0 ≤ Real.sin θ ∧
    Real.sin θ ^ 2 < (n2 / n1) ^ 2 :=
  ⟨1, 2, 0, one_pos, two_pos, by norm_num, by rw [Real.cos_zero]; exact one_pos, Real.sin_zero.ge,
    by rw [Real.sin_zero]; norm_num⟩

/-- **Brewster's angle exists and is below the critical angle**: `θ_B = arctan(n₂/n₁)` satisfies every
hypothesis of `brewster`, and the p reflection coefficient of the code vanishes there -/
theorem brewster_angle (n1 n2 : ℝ) (h1 : 0 < n1) (h2 : 0 < n2) (hne : n1 ≠ n2) :
    let θ := Real.arctan (n2 / n1)
    0 < Real.cos θ ∧ 0 ≤ Real.sin θ ∧ Real.sin θ ^ 2 < (n2 / n1) ^ 2 ∧
      (fresnel n1 n2 θ true).p = Cx.zero := by
  intro θ
  have hn : 0 < n2 / n1 := div_pos h2 h1
  have hc : 0 < Real.cos θ := Real.cos_arctan_pos _
  have h1n : 0 < 1 + (n2 / n1) ^ 2 := add_pos one_pos (pow_pos hn 2)
  have hs : Real.sin θ = n2 / n1 / Real.sqrt (1 + (n2 / n1) ^ 2) := Real.sin_arctan _
  have hs0 : 0 ≤ Real.sin θ := by rw [hs]; exact div_nonneg hn.le (Real.sqrt_nonneg _)
  -- `sin²θ = n²/(1+n²) < n²`
  have hcrit : Real.sin θ ^ 2 < (n2 / n1) ^ 2 := by
    rw [hs, div_pow, Real.sq_sqrt h1n.le, div_lt_iff₀ h1n]
    linarith [pow_pos hn 4]
  exact ⟨hc, hs0, hcrit, (brewster n1 n2 θ h1 h2 hne hc hs0 hcrit).mpr (Real.tan_arctan _)⟩

theorem fresnelRoot_zero (n1 n2 : ℝ) (hn : 0 < n2 / n1) : fresnelRoot n1 n2 0 = ⟨n2 / n1, 0⟩ := by
  rw [fresnelRoot_real n1 n2 0 (by rw [Real.sin_zero, zero_pow two_ne_zero]; exact sq_nonneg _), Real.sin_zero,
    zero_pow two_ne_zero, sub_zero, Real.sqrt_sq hn.le]

/-- **normal incidence**: both reflectances equal `((n₁−n₂)/(n₁+n₂))²` -/
theorem normal_incidence (n1 n2 : ℝ) (h1 : 0 < n1) (h2 : 0 < n2) :
    (fresnel n1 n2 0 true).s.abs2 = ((n1 - n2) / (n1 + n2)) ^ 2 ∧
    (fresnel n1 n2 0 true).p.abs2 = ((n1 - n2) / (n1 + n2)) ^ 2 := by
  have hn : 0 < n2 / n1 := div_pos h2 h1
  rw [(fresnel_real n1 n2 0 _ (fresnelRoot_zero n1 n2 hn)).1, Real.cos_zero]
  simp only [cx_abs2, mul_zero, add_zero, mul_one, neg_mul_neg]
  -- `r_s = (1 − n)/(1 + n)` and `r_p = n(n − 1)/(n(n + 1))` with `n = n₂/n₁`
  have es : (1 - n2 / n1) / (1 + n2 / n1) = (n1 - n2) / (n1 + n2) := by
    rw [one_sub_div h1.ne', one_add_div h1.ne', div_div_div_cancel_right₀ h1.ne']
  have ep : ((n2 / n1) ^ 2 - n2 / n1) / ((n2 / n1) ^ 2 + n2 / n1) = -((n1 - n2) / (n1 + n2)) := by
    rw [← es, show (n2 / n1) ^ 2 - n2 / n1 = n2 / n1 * -(1 - n2 / n1) by ring,
      show (n2 / n1) ^ 2 + n2 / n1 = n2 / n1 * (1 + n2 / n1) by ring, mul_div_mul_left _ _ hn.ne', neg_div]
  rw [es, ep, neg_mul_neg, ← pow_two]
  exact ⟨rfl, rfl⟩

/-! ## 2. s–p–k frames, uncoated surfaces, uncoated lenses (`PolarizedRays.update`) -/

/-- **frames orthonormal**: for unit directions (and, when `k0 ∥ k1`, `k0` not along x̂ — the fallback
branch) the rows `(s, p0, k0)` of `o_in` and the columns `(s, p1, k1)` of `o_out` are orthonormal -/
theorem frames_orthonormal (k0 k1 : V3 ℝ) (h : FrameOK k0 k1) :
    let s := sVector k0 k1
    (M3.ofRows s (cross k0 s) k0).mul (M3.ofRows s (cross k0 s) k0).transpose = M3.one ∧
    (M3.ofCols s (cross k1 s) k1).transpose.mul (M3.ofCols s (cross k1 s) k1) = M3.one := by
  intro s
  obtain ⟨hs, hs0, hs1⟩ := sVector_spec k0 k1 h
  exact ⟨frame_rows s k0 hs h.unit0 hs0, by
    rw [ofCols_eq, transpose_transpose]; exact frame_rows s k1 hs h.unit1 hs1⟩

/-- the uncoated polarization matrix of one surface is orthogonal and maps `k0` to `k1` -/
theorem surface_matrix_orthogonal (k0 k1 : V3 ℝ) (h : FrameOK k0 k1) :
    Orthogonal (surfaceMatrix k0 k1) ∧ (surfaceMatrix k0 k1).mulVec k0 = k1 := by
  obtain ⟨hs, hs0, hs1⟩ := sVector_spec k0 k1 h
  rw [surfaceMatrix_eq]
  exact ⟨frameMatrix_orthogonal _ _ _ hs h.unit0 h.unit1 hs0 hs1, frameMatrix_k _ _ _ h.unit0 hs0⟩

theorem frameOK_axis : FrameOK (⟨0, 0, 1⟩ : V3 ℝ) ⟨0, 0, 1⟩ := by
  have h : dot (⟨0, 0, 1⟩ : V3 ℝ) ⟨0, 0, 1⟩ = 1 := by rw [dot_eq]; norm_num
  exact ⟨h, h, fun _ => Or.inr one_ne_zero, Or.inl (vnorm_cross_self _)⟩

example : FrameOK (⟨0, 0, 1⟩ : V3 ℝ) ⟨0, 0, 1⟩ := frameOK_axis

/-- an uncoated surface whose frames are defined -/
def UncoatedOK (e : PolEvent ℝ) : Prop := e.jones = none ∧ FrameOK e.k0 e.k1

/-- the events describe one ray in one frame: every surface receives the direction the previous one
produced -/
def Chain : V3 ℝ → List (PolEvent ℝ) → V3 ℝ → Prop
  | k, [], k' => k = k'
  | k, e :: es, k' => e.k0 = k ∧ Chain e.k1 es k'

theorem foldl_uncoated (evs : List (PolEvent ℝ)) :
    ∀ M : M3 ℝ, Orthogonal M → (∀ e ∈ evs, UncoatedOK e) →
      ∃ M', evs.foldl update (.real M) = .real M' ∧ Orthogonal M' ∧
        ∀ kin k k', M.mulVec kin = k → Chain k evs k' → M'.mulVec kin = k' := by
  induction evs with
  | nil =>
    intro M hM _
    exact ⟨M, rfl, hM, fun kin k k' h1 h2 => by rw [h1]; exact h2⟩
  | cons e es ih =>
    intro M hM hall
    have he : UncoatedOK e := hall e (List.mem_cons_self)
    obtain ⟨hS, hk⟩ := surface_matrix_orthogonal e.k0 e.k1 he.2
    have hstep : update (.real M) e = .real ((surfaceMatrix e.k0 e.k1).mul M) := by
      unfold update polSurface
      rw [he.1]
      rfl
    obtain ⟨M', h1, h2, h3⟩ := ih ((surfaceMatrix e.k0 e.k1).mul M) (hS.mul hM)
      (fun e' he' => hall e' (List.mem_cons_of_mem _ he'))
    refine ⟨M', ?_, h2, ?_⟩
    · rw [List.foldl_cons, hstep, h1]
    · intro kin k k' hk0 hch
      obtain ⟨hc1, hc2⟩ := hch
      apply h3 kin e.k1 k' _ hc2
      rw [mulVec_mul, hk0, ← hc1, hk]

/-- **uncoated polarization matrix orthogonal**: through any sequence of uncoated surfaces `rays.p`
stays real and orthogonal, and along a connected ray path it maps the initial direction to the
final one -/
theorem uncoated_matrix_orthogonal (evs : List (PolEvent ℝ)) (h : ∀ e ∈ evs, UncoatedOK e) :
    ∃ M, tracePol evs = .real M ∧ Orthogonal M ∧
      ∀ k k', Chain k evs k' → M.mulVec k = k' := by
  obtain ⟨M, h1, h2, h3⟩ := foldl_uncoated evs M3.one Orthogonal.one h
  exact ⟨M, h1, h2, fun k k' hc => h3 k k k' (one_mulVec k) hc⟩

/-- **intensity preserved**: without coatings the intensity computed by `update_intensity` for any
polarized input state `(Ex, Ey, φx, φy)` (not both amplitudes zero) equals the unit input intensity,
for every lens (list of surface events), every ray (unit initial direction not along x̂).
(For a polarized state `update_intensity` does not use the initial intensity `_i0` at all — the result
is 1 whatever `i0` is; only the unpolarized branch scales by `_i0`.) -/
theorem uncoated_preserves_intensity (evs : List (PolEvent ℝ)) (h : ∀ e ∈ evs, UncoatedOK e)
    (k : V3 ℝ) (hk : dot k k = 1) (hx : k.y ≠ 0 ∨ k.z ≠ 0) (a b px py i0 : ℝ) (hab : a ≠ 0 ∨ b ≠ 0) :
    updateIntensity (tracePol evs) (polarized a b px py) k i0 = 1 := by
  obtain ⟨M, h1, h2, -⟩ := uncoated_matrix_orthogonal evs h
  have hp : (polarized a b px py).isPol = true := rfl
  unfold updateIntensity polIntensity
  rw [if_pos hp, h1]
  show sumAbsSq (M.rmulVec _) = 1
  rw [h2.sumAbsSq, (field3d_spec _ k hk hx).1, polarized_unit a b px py hab]

/-- **field stays transverse**: along a connected ray path through uncoated surfaces the propagated
field `P·E0` (real and imaginary part) is perpendicular to the final direction.
(The hypothesis `Chain` is what the tree violates at tilted surfaces, finding F-C17-3.) -/
theorem field_stays_transverse (evs : List (PolEvent ℝ)) (h : ∀ e ∈ evs, UncoatedOK e)
    (k k' : V3 ℝ) (hk : dot k k = 1) (hx : k.y ≠ 0 ∨ k.z ≠ 0) (hc : Chain k evs k')
    (st : PolState ℝ) :
    dot (reV (outputField (tracePol evs) (field3d st k))) k' = 0 ∧
    dot (imV (outputField (tracePol evs) (field3d st k))) k' = 0 := by
  obtain ⟨M, h1, h2, h3⟩ := uncoated_matrix_orthogonal evs h
  obtain ⟨-, hr, hi⟩ := field3d_spec st k hk hx
  rw [h1]
  show dot (reV (M.rmulVec _)) k' = 0 ∧ dot (imV (M.rmulVec _)) k' = 0
  rw [reV_rmulVec, imV_rmulVec, ← h3 k k' hc, h2.dot, h2.dot]
  exact ⟨hr, hi⟩

example : ∃ (evs : List (PolEvent ℝ)) (k k' : V3 ℝ), (∀ e ∈ evs, UncoatedOK e) ∧ dot k k = 1 ∧
    (k.y ≠ 0 ∨ k.z ≠ 0) ∧ Chain k evs k' ∧ evs ≠ [] := by
  refine ⟨[⟨⟨0, 0, 1⟩, ⟨0, 0, 1⟩, none⟩], ⟨0, 0, 1⟩, ⟨0, 0, 1⟩, ?_, frameOK_axis.unit0, Or.inr one_ne_zero,
    ⟨rfl, rfl⟩, List.cons_ne_nil _ _⟩
  intro e he
  rw [List.mem_singleton] at he
  rw [he]; exact ⟨rfl, frameOK_axis⟩

/-- non-vacuity with real refraction: a two-surface lens, the ray enters along the axis, is bent by
`asin(3/5)` at the first surface and back onto the axis at the second; all hypotheses of
`uncoated_preserves_intensity` and `field_stays_transverse` hold -/
theorem bent_ray_ok :
    let ka : V3 ℝ := ⟨0, 0, 1⟩
    let kb : V3 ℝ := ⟨0, 3 / 5, 4 / 5⟩
    let evs : List (PolEvent ℝ) := [⟨ka, kb, none⟩, ⟨kb, ka, none⟩]
    (∀ e ∈ evs, UncoatedOK e) ∧ dot ka ka = 1 ∧ (ka.y ≠ 0 ∨ ka.z ≠ 0) ∧ Chain ka evs ka ∧ ka ≠ kb := by
  intro ka kb evs
  have ha : dot ka ka = 1 := frameOK_axis.unit0
  have hb : dot kb kb = 1 := by simp only [kb, dot_eq]; norm_num
  have hab : FrameOK ka kb := FrameOK.of_apart ha hb (by simp only [ka, kb, cross, dot]; num_real; norm_num)
  have hba : FrameOK kb ka := FrameOK.of_apart hb ha (by simp only [ka, kb, cross, dot]; num_real; norm_num)
  refine ⟨?_, ha, Or.inr one_ne_zero, ⟨rfl, rfl, rfl⟩, fun h => ?_⟩
  · intro e he
    simp only [evs, List.mem_cons, List.mem_nil_iff, or_false] at he
    rcases he with rfl | rfl
    · exact ⟨rfl, hab⟩
    · exact ⟨rfl, hba⟩
  · have := congrArg V3.y h
    simp only [ka, kb] at this
    norm_num at this

/-- … hence, for that lens and any input state, intensity 1 and a transverse output field -/
example (a b px py i0 : ℝ) (hab : a ≠ 0 ∨ b ≠ 0) :
    let ka : V3 ℝ := ⟨0, 0, 1⟩
    let kb : V3 ℝ := ⟨0, 3 / 5, 4 / 5⟩
    let evs : List (PolEvent ℝ) := [⟨ka, kb, none⟩, ⟨kb, ka, none⟩]
    updateIntensity (tracePol evs) (polarized a b px py) ka i0 = 1 ∧
    dot (reV (outputField (tracePol evs) (field3d (polarized a b px py) ka))) ka = 0 := by
  intro ka kb evs
  obtain ⟨h1, h2, h3, h4, -⟩ := bent_ray_ok
  exact ⟨uncoated_preserves_intensity evs h1 ka h2 h3 a b px py i0 hab,
    (field_stays_transverse evs h1 ka ka h2 h3 h4 _).1⟩

/-- the `_spec` variant for tilted surfaces (finding F-C17-3): conjugating the surface matrix with the
surface's rotation `R` (local → global) gives an orthogonal matrix that maps the *global* incoming
direction `R k0` to the *global* outgoing direction `R k1`, so that global directions chain -/
theorem surfaceMatrix_spec_global (R : M3 ℝ) (hR : Orthogonal R) (hR' : Orthogonal R.transpose)
    (k0 k1 : V3 ℝ) (h : FrameOK k0 k1) :
    Orthogonal (surfaceMatrix_spec R k0 k1) ∧
    (surfaceMatrix_spec R k0 k1).mulVec (R.mulVec k0) = R.mulVec k1 := by
  obtain ⟨hS, hk⟩ := surface_matrix_orthogonal k0 k1 h
  unfold surfaceMatrix_spec
  refine ⟨(hR.mul hS).mul hR', ?_⟩
  have hRR : R.transpose.mul R = M3.one := hR
  rw [mulVec_mul, mulVec_mul, ← mulVec_mul R.transpose R, hRR, one_mulVec, hk]

/-! ## 3. unpolarized light (`update_intensity`) -/

theorem outputField_real (m : M3 ℝ) (E : V3 (Cx ℝ)) :
    outputField (.real m) E = outputField (.cplx m.toC) E := by
  unfold outputField M3.rmulVec M3.cmulVec M3.toC Cx.rmul Cx.mul Cx.add Cx.ofReal
  num_real
  simp only [V3.mk.injEq, Cx.mk.injEq]
  refine ⟨⟨?_, ?_⟩, ⟨?_, ?_⟩, ⟨?_, ?_⟩⟩ <;> ring

/-- the complex amplitudes `(row_i·ŝ, row_i·p̂)` of output component `i` for unit x / y input -/
noncomputable def rowS (m0 m1 m2 : Cx ℝ) (k : V3 ℝ) : Cx ℝ :=
  ((m0.smul (sHat k).x).add (m1.smul (sHat k).y)).add (m2.smul (sHat k).z)
noncomputable def rowP (m0 m1 m2 : Cx ℝ) (k : V3 ℝ) : Cx ℝ :=
  ((m0.smul (pHat k).x).add (m1.smul (pHat k).y)).add (m2.smul (pHat k).z)

/-- `tr(P†P)` restricted to the transverse plane of the initial direction -/
noncomputable def transverseTrace (m : M3 (Cx ℝ)) (k : V3 ℝ) : ℝ :=
  (rowS m.a00 m.a01 m.a02 k).abs2 + (rowP m.a00 m.a01 m.a02 k).abs2 +
  ((rowS m.a10 m.a11 m.a12 k).abs2 + (rowP m.a10 m.a11 m.a12 k).abs2) +
  ((rowS m.a20 m.a21 m.a22 k).abs2 + (rowP m.a20 m.a21 m.a22 k).abs2)

theorem polIntensity_cplx (m : M3 (Cx ℝ)) (st : PolState ℝ) (k : V3 ℝ) :
    polIntensity (.cplx m) st k =
      ((st.jones.1.mul (rowS m.a00 m.a01 m.a02 k)).add (st.jones.2.mul (rowP m.a00 m.a01 m.a02 k))).abs2 +
      ((st.jones.1.mul (rowS m.a10 m.a11 m.a12 k)).add (st.jones.2.mul (rowP m.a10 m.a11 m.a12 k))).abs2 +
      ((st.jones.1.mul (rowS m.a20 m.a21 m.a22 k)).add (st.jones.2.mul (rowP m.a20 m.a21 m.a22 k))).abs2 := by
  unfold polIntensity outputField
  simp only
  rw [field3d_eq]
  unfold M3.cmulVec sumAbsSq rowS rowP
  simp only [row_lin, abs_mul_abs]

/-- two fully polarized states whose Jones vectors are orthonormal -/
def OrthonormalStates (st1 st2 : PolState ℝ) : Prop :=
  st1.jones.1.abs2 + st1.jones.2.abs2 = 1 ∧ st2.jones.1.abs2 + st2.jones.2.abs2 = 1 ∧
  (st1.jones.1.mul st2.jones.1.conj).add (st1.jones.2.mul st2.jones.2.conj) = Cx.zero

theorem pair_sum_cplx (m : M3 (Cx ℝ)) (k : V3 ℝ) (st1 st2 : PolState ℝ) (h : OrthonormalStates st1 st2) :
    polIntensity (.cplx m) st1 k + polIntensity (.cplx m) st2 k = transverseTrace m k := by
  obtain ⟨h1, h2, h3⟩ := h
  rw [polIntensity_cplx, polIntensity_cplx]
  have e0 := unitary_mix _ _ _ _ (rowS m.a00 m.a01 m.a02 k) (rowP m.a00 m.a01 m.a02 k) h1 h2 h3
  have e1 := unitary_mix _ _ _ _ (rowS m.a10 m.a11 m.a12 k) (rowP m.a10 m.a11 m.a12 k) h1 h2 h3
  have e2 := unitary_mix _ _ _ _ (rowS m.a20 m.a21 m.a22 k) (rowP m.a20 m.a21 m.a22 k) h1 h2 h3
  unfold transverseTrace
  linear_combination e0 + e1 + e2

/-- two states with the same phases whose real amplitude vectors are orthonormal -/
theorem orthonormal_of_amplitudes (st1 st2 : PolState ℝ) (hx : st1.px = st2.px) (hy : st1.py = st2.py)
    (h1 : st1.Ex ^ 2 + st1.Ey ^ 2 = 1) (h2 : st2.Ex ^ 2 + st2.Ey ^ 2 = 1)
    (h12 : st1.Ex * st2.Ex + st1.Ey * st2.Ey = 0) : OrthonormalStates st1 st2 := by
  refine ⟨by rw [jones_abs2, h1], by rw [jones_abs2, h2], ?_⟩
  simp only [PolState.jones, hx, hy, cx_rmul, cx_cis, cx_mul, cx_conj, cx_add, cx_zero, Cx.mk.injEq]
  constructor
  · linear_combination (st1.Ex * st2.Ex) * Real.cos_sq_add_sin_sq st2.px
      + (st1.Ey * st2.Ey) * Real.cos_sq_add_sin_sq st2.py + h12
  · ring

theorem xy_states : OrthonormalStates (polarized (1:ℝ) 0 0 0) (polarized (0:ℝ) 1 0 0) := by
  refine orthonormal_of_amplitudes _ _ rfl rfl (polarized_unit 1 0 0 0 (Or.inl one_ne_zero))
    (polarized_unit 0 1 0 0 (Or.inr one_ne_zero)) ?_
  unfold polarized
  num_real
  rw [zero_div, zero_div, mul_zero, zero_mul, add_zero]

/-- **unpolarized = mean of any two orthogonal unit states**: for every polarization matrix (any
coatings), every ray, and every pair of input states with orthonormal Jones vectors, the intensity
`update_intensity` assigns to unpolarized light (unit initial intensity) is the mean of the two
polarized intensities.  (Purely algebraic in the launch frame `ŝ, p̂`; for `k ∥ x̂`, where the code
raises, both sides are the junk value 0.) -/
theorem unpolarized_is_mean (P : PMat ℝ) (k : V3 ℝ) (st1 st2 : PolState ℝ)
    (h : OrthonormalStates st1 st2) :
    updateIntensity P unpolarized k 1 = (polIntensity P st1 k + polIntensity P st2 k) / 2 := by
  have key : ∀ m : M3 (Cx ℝ), updateIntensity (.cplx m) unpolarized k 1
      = (polIntensity (.cplx m) st1 k + polIntensity (.cplx m) st2 k) / 2 := by
    intro m
    have hu : (unpolarized : PolState ℝ).isPol = false := rfl
    unfold updateIntensity
    rw [hu]
    simp only [Bool.false_eq_true, if_false]
    num_real
    rw [pair_sum_cplx m k _ _ xy_states, pair_sum_cplx m k _ _ h, mul_one]
  cases P with
  | cplx m => exact key m
  | real m =>
    have := key m.toC
    unfold updateIntensity polIntensity at *
    simp only [outputField_real]
    exact this

example : OrthonormalStates (createPolarization .H : PolState ℝ) (createPolarization .V) := xy_states

/-- the random orthogonal pairs the harness traces: `(Ex e^{iφx}, Ey e^{iφy})` and
`(Ey e^{iφx}, −Ex e^{iφy})` are orthonormal states for every amplitude pair (not both zero) and all
phases -/
theorem orth_pair (a b px py : ℝ) (h : a ≠ 0 ∨ b ≠ 0) :
    OrthonormalStates (polarized a b px py) (polarized b (-a) px py) := by
  refine orthonormal_of_amplitudes _ _ rfl rfl (polarized_unit a b px py h)
    (polarized_unit b (-a) px py (h.symm.imp id neg_ne_zero.mpr)) ?_
  unfold polarized
  num_real
  rw [show b * b + -a * -a = a * a + b * b by ring]
  ring

/-! ## 4. Jones elements -/

/-- 2×2 complex matrix product -/
noncomputable def jmul (a b : J2 (Cx ℝ)) : J2 (Cx ℝ) :=
  ⟨(a.a.mul b.a).add (a.b.mul b.c), (a.a.mul b.b).add (a.b.mul b.d),
   (a.c.mul b.a).add (a.d.mul b.c), (a.c.mul b.b).add (a.d.mul b.d)⟩
/-- conjugate transpose -/
noncomputable def jadj (a : J2 (Cx ℝ)) : J2 (Cx ℝ) := ⟨a.a.conj, a.c.conj, a.b.conj, a.d.conj⟩
noncomputable def jone : J2 (Cx ℝ) := ⟨⟨1, 0⟩, ⟨0, 0⟩, ⟨0, 0⟩, ⟨1, 0⟩⟩
/-- matrix × Jones vector -/
noncomputable def japply (a : J2 (Cx ℝ)) (v : Cx ℝ × Cx ℝ) : Cx ℝ × Cx ℝ :=
  ((a.a.mul v.1).add (a.b.mul v.2), (a.c.mul v.1).add (a.d.mul v.2))
/-- `v v†`, the orthogonal projector onto a unit Jones vector -/
noncomputable def outer (v : Cx ℝ × Cx ℝ) : J2 (Cx ℝ) :=
  ⟨v.1.mul v.1.conj, v.1.mul v.2.conj, v.2.mul v.1.conj, v.2.mul v.2.conj⟩
/-- rotation by `θ` -/
noncomputable def rot (θ : ℝ) : J2 (Cx ℝ) :=
  ⟨⟨Real.cos θ, 0⟩, ⟨-Real.sin θ, 0⟩, ⟨Real.sin θ, 0⟩, ⟨Real.cos θ, 0⟩⟩
/-- the element `j` turned by `θ`: `R(θ) j R(−θ)` -/
noncomputable def rotated (j : J2 (Cx ℝ)) (θ : ℝ) : J2 (Cx ℝ) := jmul (rot θ) (jmul j (rot (-θ)))
/-- `diag(a, b)` -/
noncomputable def diag (a b : Cx ℝ) : J2 (Cx ℝ) := ⟨a, ⟨0, 0⟩, ⟨0, 0⟩, b⟩

theorem jmul_assoc (a b c : J2 (Cx ℝ)) : jmul (jmul a b) c = jmul a (jmul b c) := by
  obtain ⟨⟨a1, a2⟩, ⟨a3, a4⟩, ⟨a5, a6⟩, ⟨a7, a8⟩⟩ := a
  obtain ⟨⟨b1, b2⟩, ⟨b3, b4⟩, ⟨b5, b6⟩, ⟨b7, b8⟩⟩ := b
  obtain ⟨⟨c1, c2⟩, ⟨c3, c4⟩, ⟨c5, c6⟩, ⟨c7, c8⟩⟩ := c
  simp only [jmul, cx_mul, cx_add, J2.mk.injEq, Cx.mk.injEq]
  refine ⟨⟨?_, ?_⟩, ⟨?_, ?_⟩, ⟨?_, ?_⟩, ⟨?_, ?_⟩⟩ <;> ring

theorem rot_jmul_rot (a b : ℝ) : jmul (rot a) (rot b) = rot (a + b) := by
  simp only [jmul, rot, cx_mul, cx_add, Real.cos_add, Real.sin_add, zero_mul, mul_zero, sub_zero, add_zero,
    J2.mk.injEq, Cx.mk.injEq, and_true, true_and]
  refine ⟨?_, ?_, ?_⟩ <;> ring

theorem half_eq : (half : ℝ) = 1 / 2 := by
  unfold half; num_real; norm_num

theorem sqrt2_half_sq : Real.sqrt 2 / 2 * (Real.sqrt 2 / 2) = 1 / 2 := by
  have := Real.mul_self_sqrt (show (0:ℝ) ≤ 2 by norm_num)
  linear_combination this / 4

theorem inv_sqrt2 : 1 / Real.sqrt 2 = Real.sqrt 2 / 2 := by
  have h := Real.mul_self_sqrt (show (0:ℝ) ≤ 2 by norm_num)
  have h0 : Real.sqrt 2 ≠ 0 := by positivity
  field_simp
  linear_combination (-1 : ℝ) * h

/-- Jones vectors of the six named states of `create_polarization` -/
theorem named_jones :
    (createPolarization .H : PolState ℝ).jones = (⟨1, 0⟩, ⟨0, 0⟩) ∧
    (createPolarization .V : PolState ℝ).jones = (⟨0, 0⟩, ⟨1, 0⟩) ∧
    (createPolarization .Lp45 : PolState ℝ).jones = (⟨Real.sqrt 2 / 2, 0⟩, ⟨Real.sqrt 2 / 2, 0⟩) ∧
    (createPolarization .Lm45 : PolState ℝ).jones = (⟨Real.sqrt 2 / 2, 0⟩, ⟨-(Real.sqrt 2 / 2), 0⟩) ∧
    (createPolarization .RCP : PolState ℝ).jones = (⟨Real.sqrt 2 / 2, 0⟩, ⟨0, -(Real.sqrt 2 / 2)⟩) ∧
    (createPolarization .LCP : PolState ℝ).jones = (⟨Real.sqrt 2 / 2, 0⟩, ⟨0, Real.sqrt 2 / 2⟩) := by
  have e11 : Real.sqrt (1 * 1 + 1 * 1) = Real.sqrt 2 := by norm_num
  have e1m : Real.sqrt (1 * 1 + -1 * -1) = Real.sqrt 2 := by norm_num
  have err : Real.sqrt (Real.sqrt 2 / 2 * (Real.sqrt 2 / 2) + Real.sqrt 2 / 2 * (Real.sqrt 2 / 2)) = 1 := by
    rw [sqrt2_half_sq]; norm_num
  unfold createPolarization polarized PolState.jones Cx.rmul Cx.cis
  num_real
  simp only [Real.cos_zero, Real.sin_zero, neg_div, Real.cos_neg, Real.sin_neg, Real.cos_pi_div_two,
    Real.sin_pi_div_two, e11, e1m, err, inv_sqrt2, neg_div]
  norm_num [inv_sqrt2]

/-- the six named states are unit Jones vectors -/
theorem named_unit :
    (∀ n : PolName, n ≠ .unpolarized →
      ((createPolarization n : PolState ℝ).jones.1).abs2 + ((createPolarization n : PolState ℝ).jones.2).abs2 = 1) := by
  have h2 : Real.sqrt 2 / 2 ≠ 0 := by positivity
  intro n hn
  rw [jones_abs2]
  cases n
  · exact polarized_unit 1 0 0 0 (Or.inl one_ne_zero)
  · exact polarized_unit 0 1 0 0 (Or.inr one_ne_zero)
  · exact polarized_unit 1 1 0 0 (Or.inl one_ne_zero)
  · exact polarized_unit 1 (-1) 0 0 (Or.inl one_ne_zero)
  · exact polarized_unit _ _ 0 (-Real.pi / 2) (Or.inl h2)
  · exact polarized_unit _ _ 0 (Real.pi / 2) (Or.inl h2)
  · exact absurd rfl hn

/-- **polarizers project onto their stated state**: each matrix is `v v†`, the orthogonal projector
onto the Jones vector `v` of the state `create_polarization` builds under the same name
(`L135` ↔ `'L-45'`) -/
theorem polarizer_projects :
    (polarizerH : J2 (Cx ℝ)) = outer (createPolarization .H).jones ∧
    (polarizerV : J2 (Cx ℝ)) = outer (createPolarization .V).jones ∧
    (polarizerL45 : J2 (Cx ℝ)) = outer (createPolarization .Lp45).jones ∧
    (polarizerL135 : J2 (Cx ℝ)) = outer (createPolarization .Lm45).jones ∧
    (polarizerRCP : J2 (Cx ℝ)) = outer (createPolarization .RCP).jones ∧
    (polarizerLCP : J2 (Cx ℝ)) = outer (createPolarization .LCP).jones := by
  obtain ⟨h1, h2, h3, h4, h5, h6⟩ := named_jones
  have hq := sqrt2_half_sq
  rw [h1, h2, h3, h4, h5, h6]
  generalize Real.sqrt 2 / 2 = s at hq
  simp only [polarizerH, polarizerV, polarizerL45, polarizerL135, polarizerRCP, polarizerLCP, outer,
    cx_mul, cx_conj, cx_ofReal, cx_zero, half_eq, NumReal.fneg_eq, NumReal.zero_eq, NumReal.one_eq]
  -- every entry is a sum of products of `0`, `1`, `±s` with `s·s = 1/2`
  simp only [mul_zero, zero_mul, mul_one, neg_zero, sub_zero, add_zero, zero_add, mul_neg, neg_mul,
    neg_neg, sub_neg_eq_add, hq, and_self]

/-- the projector onto a unit vector is idempotent -/
theorem outer_idempotent (v : Cx ℝ × Cx ℝ) (hv : v.1.abs2 + v.2.abs2 = 1) :
    jmul (outer v) (outer v) = outer v := by
  obtain ⟨⟨a, b⟩, ⟨c, d⟩⟩ := v
  simp only [jmul, outer, cx_mul, cx_conj, cx_add, cx_abs2, J2.mk.injEq, Cx.mk.injEq] at *
  -- `(v v†)² = (v†v) · v v†`, entry by entry
  refine ⟨⟨?_, ?_⟩, ⟨?_, ?_⟩, ⟨?_, ?_⟩, ⟨?_, ?_⟩⟩
  · linear_combination (a * a + b * b) * hv
  · ring
  · linear_combination (a * c + b * d) * hv
  · linear_combination (b * c - a * d) * hv
  · linear_combination (a * c + b * d) * hv
  · linear_combination (a * d - b * c) * hv
  · linear_combination (c * c + d * d) * hv
  · ring

/-- **polarizers are idempotent** (all six) -/
theorem polarizer_idempotent :
    jmul (polarizerH : J2 (Cx ℝ)) polarizerH = polarizerH ∧
    jmul (polarizerV : J2 (Cx ℝ)) polarizerV = polarizerV ∧
    jmul (polarizerL45 : J2 (Cx ℝ)) polarizerL45 = polarizerL45 ∧
    jmul (polarizerL135 : J2 (Cx ℝ)) polarizerL135 = polarizerL135 ∧
    jmul (polarizerRCP : J2 (Cx ℝ)) polarizerRCP = polarizerRCP ∧
    jmul (polarizerLCP : J2 (Cx ℝ)) polarizerLCP = polarizerLCP := by
  obtain ⟨p1, p2, p3, p4, p5, p6⟩ := polarizer_projects
  rw [p1, p2, p3, p4, p5, p6]
  have key := fun n hn => outer_idempotent _ (named_unit n hn)
  exact ⟨key _ (by decide), key _ (by decide), key _ (by decide), key _ (by decide), key _ (by decide),
    key _ (by decide)⟩

/-- a projector `v v†` onto a unit vector passes `v` unchanged and blocks every orthogonal `w` -/
theorem outer_apply (v w : Cx ℝ × Cx ℝ) (hv : v.1.abs2 + v.2.abs2 = 1)
    (hw : (w.1.mul v.1.conj).add (w.2.mul v.2.conj) = Cx.zero) :
    japply (outer v) v = v ∧ japply (outer v) w = (Cx.zero, Cx.zero) := by
  obtain ⟨⟨a, b⟩, ⟨c, d⟩⟩ := v
  obtain ⟨⟨e, f⟩, ⟨g, h⟩⟩ := w
  simp only [japply, outer, cx_mul, cx_conj, cx_add, cx_abs2, cx_zero, Prod.mk.injEq, Cx.mk.injEq] at *
  obtain ⟨h1, h2⟩ := hw
  refine ⟨⟨⟨?_, ?_⟩, ⟨?_, ?_⟩⟩, ⟨⟨?_, ?_⟩, ⟨?_, ?_⟩⟩⟩
  · linear_combination a * hv
  · linear_combination b * hv
  · linear_combination c * hv
  · linear_combination d * hv
  · linear_combination a * h1 - b * h2
  · linear_combination b * h1 + a * h2
  · linear_combination c * h1 - d * h2
  · linear_combination d * h1 + c * h2

/-- `P` passes `v` unchanged and blocks every Jones vector orthogonal to `v` -/
def PassBlock (P : J2 (Cx ℝ)) (v : Cx ℝ × Cx ℝ) : Prop :=
  japply P v = v ∧
  ∀ w : Cx ℝ × Cx ℝ, (w.1.mul v.1.conj).add (w.2.mul v.2.conj) = Cx.zero → japply P w = (Cx.zero, Cx.zero)

/-- **polarizers are projectors onto their stated state, as maps**: each of the six matrices of the
code passes the Jones vector of the equally named `create_polarization` state unchanged and
extinguishes every orthogonal Jones vector -/
theorem polarizer_pass_block :
    PassBlock polarizerH (createPolarization .H : PolState ℝ).jones ∧
    PassBlock polarizerV (createPolarization .V : PolState ℝ).jones ∧
    PassBlock polarizerL45 (createPolarization .Lp45 : PolState ℝ).jones ∧
    PassBlock polarizerL135 (createPolarization .Lm45 : PolState ℝ).jones ∧
    PassBlock polarizerRCP (createPolarization .RCP : PolState ℝ).jones ∧
    PassBlock polarizerLCP (createPolarization .LCP : PolState ℝ).jones := by
  obtain ⟨p1, p2, p3, p4, p5, p6⟩ := polarizer_projects
  have z : ∀ v : Cx ℝ × Cx ℝ, ((Cx.zero : Cx ℝ).mul v.1.conj).add ((Cx.zero : Cx ℝ).mul v.2.conj) = Cx.zero := by
    intro v
    simp only [cx_mul, cx_add, cx_zero, zero_mul, sub_zero, add_zero]
  have key : ∀ n : PolName, n ≠ .unpolarized →
      PassBlock (outer (createPolarization n : PolState ℝ).jones) (createPolarization n : PolState ℝ).jones :=
    fun n hn => ⟨(outer_apply _ (Cx.zero, Cx.zero) (named_unit n hn) (z _)).1,
      fun w hw => (outer_apply _ w (named_unit n hn) hw).2⟩
  rw [p1, p2, p3, p4, p5, p6]
  exact ⟨key _ (by decide), key _ (by decide), key _ (by decide), key _ (by decide), key _ (by decide),
    key _ (by decide)⟩

/-- **retarders are unitary**: `J J† = 1` for every retardance and every axis angle -/
theorem retarder_unitary (d t : ℝ) : jmul (retarder d t) (jadj (retarder d t)) = jone := by
  have hd := Real.cos_sq_add_sin_sq (d / 2)
  have ht := Real.cos_sq_add_sin_sq (2 * t)
  simp only [retarder_eq, jmul, jadj, jone, cx_mul, cx_add, cx_conj, J2.mk.injEq, Cx.mk.injEq]
  refine ⟨⟨?_, ?_⟩, ⟨?_, ?_⟩, ⟨?_, ?_⟩, ⟨?_, ?_⟩⟩
  · linear_combination hd + Real.sin (d / 2) ^ 2 * ht
  · ring
  · ring
  · ring
  · ring
  · ring
  · linear_combination hd + Real.sin (d / 2) ^ 2 * ht
  · ring

/-- **stated retardance**: the axis state `(cos t, sin t)` is an eigenvector with phase `e^{-id/2}`, the
orthogonal state `(−sin t, cos t)` with phase `e^{+id/2}`; the two phases differ by exactly `d` -/
theorem retarder_retardance (d t : ℝ) :
    japply (retarder d t) (⟨Real.cos t, 0⟩, ⟨Real.sin t, 0⟩)
      = ((Cx.cis (-(d / 2))).mul ⟨Real.cos t, 0⟩, (Cx.cis (-(d / 2))).mul ⟨Real.sin t, 0⟩) ∧
    japply (retarder d t) (⟨-Real.sin t, 0⟩, ⟨Real.cos t, 0⟩)
      = ((Cx.cis (d / 2)).mul ⟨-Real.sin t, 0⟩, (Cx.cis (d / 2)).mul ⟨Real.cos t, 0⟩) ∧
    Cx.cis (d / 2) = (Cx.cis d).mul (Cx.cis (-(d / 2))) := by
  have ht := Real.cos_sq_add_sin_sq t
  refine ⟨?_, ?_, by rw [← cis_add, ← sub_eq_add_neg, sub_half]⟩
  all_goals
    simp only [retarder_eq, japply, cx_mul, cx_add, cx_cis, Real.cos_neg, Real.sin_neg, Real.cos_two_mul,
      Real.sin_two_mul, Prod.mk.injEq, Cx.mk.injEq]
    generalize Real.cos (d / 2) = cd
    generalize Real.sin (d / 2) = sd
    generalize Real.cos t = c at ht
    generalize Real.sin t = s at ht
  · refine ⟨⟨?_, ?_⟩, ⟨?_, ?_⟩⟩
    · ring
    · linear_combination (-2 * sd * c) * ht
    · ring
    · ring
  · refine ⟨⟨?_, ?_⟩, ⟨?_, ?_⟩⟩
    · ring
    · ring
    · ring
    · linear_combination (2 * sd * c) * ht

/-- **rotation covariance of the retarder**: the element at angle `t` is `R(t) · (element at 0) · R(−t)` -/
theorem retarder_rotation_covariant (d t : ℝ) : retarder d t = rotated (retarder d 0) t := by
  have ht := Real.cos_sq_add_sin_sq t
  simp only [retarder_eq, rotated, rot, jmul, cx_mul, cx_add, Real.cos_neg, Real.sin_neg, mul_zero,
    Real.cos_zero, Real.sin_zero, mul_one, Real.cos_two_mul, Real.sin_two_mul, zero_mul, sub_zero, add_zero,
    zero_add, J2.mk.injEq, Cx.mk.injEq]
  generalize Real.cos (d / 2) = cd
  generalize Real.sin (d / 2) = sd
  generalize Real.cos t = c at ht
  generalize Real.sin t = s at ht
  refine ⟨⟨?_, ?_⟩, ⟨?_, ?_⟩, ⟨?_, ?_⟩, ⟨?_, ?_⟩⟩
  · linear_combination (-cd) * ht
  · linear_combination (-sd) * ht
  · ring
  · ring
  · ring
  · ring
  · linear_combination (-cd) * ht
  · linear_combination sd * ht

/-- quarter- and half-wave plates are the retarder with `d = π/2`, `π` (by definition in the code) and
at `t = 0` they are `diag(e^{−iπ/4}, e^{iπ/4})`, `diag(−i, i)` -/
theorem wave_plates (t : ℝ) :
    quarterWave t = retarder (Real.pi / 2) t ∧ halfWave t = retarder Real.pi t ∧
    halfWave (0:ℝ) = diag ⟨0, -1⟩ ⟨0, 1⟩ := by
  refine ⟨rfl, rfl, ?_⟩
  simp only [halfWave, NumReal.pi_eq, retarder_eq, diag, Real.cos_pi_div_two, Real.sin_pi_div_two, mul_zero,
    Real.cos_zero, Real.sin_zero, mul_one]

/-! ### linear diattenuator: the tree computes `t_max − t_min·cos·sin` (finding F14 / F-C17-1) -/

/-- the **specified** diattenuator is rotation covariant: it is the rotation of `diag(t_max, t_min)`,
which is the element itself at angle 0 -/
theorem diattenuator_spec_rotation_covariant (tmin tmax t : ℝ) :
    diattenuator_spec tmin tmax t = rotated (diag ⟨tmax, 0⟩ ⟨tmin, 0⟩) t ∧
    diattenuator_spec tmin tmax 0 = diag ⟨tmax, 0⟩ ⟨tmin, 0⟩ := by
  unfold diattenuator_spec
  num_real
  simp only [rotated, rot, diag, jmul, cx_ofReal, cx_add, cx_mul, Real.cos_neg, Real.sin_neg, Real.sin_zero,
    Real.cos_zero, zero_mul, mul_zero, sub_zero, add_zero, zero_add, mul_one, J2.mk.injEq, Cx.mk.injEq,
    and_true]
  refine ⟨?_, ?_, ?_, ?_⟩ <;> ring

/-- full statement (FALSE on the tree):
`∀ tmin tmax t, diattenuator_code tmin tmax t = rotated (diattenuator_code tmin tmax 0) t`.
**Its negation**, with the witness `t_min = 0, t_max = 1, θ = π/2`: the code gives off-diagonal `+1`,
the rotation of its own `θ = 0` matrix gives `−1`. -/
theorem diattenuator_rotation_covariant_false :
    ¬ ∀ tmin tmax t : ℝ, diattenuator_code tmin tmax t = rotated (diattenuator_code tmin tmax 0) t := by
  intro h
  have h' := congrArg (fun j => j.b.re) (h 0 1 (Real.pi / 2))
  unfold diattenuator_code at h'
  num_real
  simp only [rotated, rot, jmul, cx_ofReal, cx_add, cx_mul, Real.cos_neg, Real.sin_neg, Real.sin_zero,
    Real.cos_zero, Real.cos_pi_div_two, Real.sin_pi_div_two] at h'
  norm_num at h'

/-- the code's element at `θ = 0` is not `diag(t_max, t_min)`: for `t_min = 0, t_max = 1` both
off-diagonal entries are 1 (the value `tests/test_jones.py` pins) -/
theorem diattenuator_code_not_diagonal :
    (diattenuator_code (0:ℝ) 1 0).b = ⟨1, 0⟩ ∧ (diattenuator_code (0:ℝ) 1 0).c = ⟨1, 0⟩ ∧
    diattenuator_code (0:ℝ) 1 0 ≠ diag ⟨1, 0⟩ ⟨0, 0⟩ := by
  unfold diattenuator_code diag Cx.ofReal
  num_real
  simp only [Real.sin_zero, Real.cos_zero, Cx.mk.injEq]
  norm_num

/-- what does hold for the code: it is symmetric and its diagonal is the diagonal of the rotation of
`diag(t_max, t_min)`; only the off-diagonal entry differs from the specification, by exactly
`t_max·(1 − cos t·sin t)` -/
theorem diattenuator_rotation_covariant_partial (tmin tmax t : ℝ) :
    (diattenuator_code tmin tmax t).a = (rotated (diag ⟨tmax, 0⟩ ⟨tmin, 0⟩) t).a ∧
    (diattenuator_code tmin tmax t).d = (rotated (diag ⟨tmax, 0⟩ ⟨tmin, 0⟩) t).d ∧
    (diattenuator_code tmin tmax t).b = (diattenuator_code tmin tmax t).c ∧
    (diattenuator_code tmin tmax t).b.re - (diattenuator_spec tmin tmax t).b.re
      = tmax * (1 - Real.cos t * Real.sin t) := by
  rw [← (diattenuator_spec_rotation_covariant tmin tmax t).1]
  refine ⟨rfl, rfl, rfl, ?_⟩
  unfold diattenuator_code diattenuator_spec Cx.ofReal
  num_real
  ring

/-! ## 5. rotation law and its sign, relative index, state normalisation, launch intensity -/

/-! ### rotation law -/

theorem rotated_zero (j : J2 (Cx ℝ)) : rotated j 0 = j := by
  obtain ⟨⟨a1, a2⟩, ⟨b1, b2⟩, ⟨c1, c2⟩, ⟨d1, d2⟩⟩ := j
  simp only [rotated, rot, jmul, cx_add, cx_mul, neg_zero, Real.cos_zero, Real.sin_zero, zero_mul, mul_zero,
    one_mul, mul_one, sub_zero, add_zero, zero_add]

/-- **rotations compose**: turning an element by `a` and then by `b` is turning it by `a + b`
(for every 2×2 Jones block) -/
theorem rotated_rotated (j : J2 (Cx ℝ)) (a b : ℝ) : rotated (rotated j a) b = rotated j (a + b) := by
  unfold rotated
  rw [jmul_assoc (rot a), jmul_assoc j, rot_jmul_rot, ← jmul_assoc (rot b), rot_jmul_rot, ← neg_add,
    add_comm b a]

/-- **rotation law of the retarder, relative form**: the element at `a + b` is the element at `a`
turned by `b`; quarter- and half-wave plates inherit the law (they are the retarder with `d = π/2, π`) -/
theorem retarder_rotation_law (d a b : ℝ) :
    retarder d (a + b) = rotated (retarder d a) b ∧
    quarterWave (a + b) = rotated (quarterWave a) b ∧ halfWave (a + b) = rotated (halfWave a) b ∧
    quarterWave b = rotated (quarterWave 0) b ∧ halfWave b = rotated (halfWave 0) b := by
  have key : ∀ d a b : ℝ, retarder d (a + b) = rotated (retarder d a) b := by
    intro d a b
    rw [retarder_rotation_covariant d (a + b), retarder_rotation_covariant d a, rotated_rotated]
  exact ⟨key d a b, key _ a b, key _ a b, retarder_rotation_covariant _ b, retarder_rotation_covariant _ b⟩

/-- **linear polarizers obey the rotation law**: the V, +45° and −45° (`L135`) polarizers of the code are
the H polarizer turned by 90°, +45°, −45° (and by 135°) -/
theorem linear_polarizers_are_rotations :
    (polarizerV : J2 (Cx ℝ)) = rotated polarizerH (Real.pi / 2) ∧
    (polarizerL45 : J2 (Cx ℝ)) = rotated polarizerH (Real.pi / 4) ∧
    (polarizerL135 : J2 (Cx ℝ)) = rotated polarizerH (-(Real.pi / 4)) ∧
    (polarizerL135 : J2 (Cx ℝ)) = rotated polarizerH (3 * Real.pi / 4) := by
  -- the H polarizer is `diag(1, 0)`, so turned by `t` it is the specified diattenuator `(0, 1)` at `t`:
  -- the projector onto `(cos t, sin t)`
  have key : ∀ t : ℝ, rotated polarizerH t = ⟨⟨Real.cos t * Real.cos t, 0⟩, ⟨Real.cos t * Real.sin t, 0⟩,
      ⟨Real.cos t * Real.sin t, 0⟩, ⟨Real.sin t * Real.sin t, 0⟩⟩ := by
    intro t
    refine (diattenuator_spec_rotation_covariant 0 1 t).1.symm.trans ?_
    unfold diattenuator_spec Cx.ofReal
    num_real
    simp only [one_mul, zero_mul, add_zero, sub_zero]
  rw [show 3 * Real.pi / 4 = Real.pi - Real.pi / 4 by ring]
  simp only [key, Real.cos_neg, Real.sin_neg, Real.cos_pi_div_two, Real.sin_pi_div_two, Real.cos_pi_sub,
    Real.sin_pi_sub, Real.cos_pi_div_four, Real.sin_pi_div_four, mul_neg, neg_mul, neg_neg, sqrt2_half_sq,
    mul_zero, mul_one]
  simp only [polarizerV, polarizerL45, polarizerL135, cx_ofReal, cx_zero, half_eq, NumReal.fneg_eq,
    NumReal.zero_eq, NumReal.one_eq, and_self]

/-- **rotation law for projectors, as maps**: the projector onto a Jones vector `v`, turned by θ, is the
projector onto the turned vector `R(θ) v` — for every `v` (so every polarizer of the code, turned, is
the polarizer of the turned state; with `linear_polarizers_are_rotations`: V, ±45° are the H polarizer
turned by the angle their name states) -/
theorem rotated_outer (v : Cx ℝ × Cx ℝ) (t : ℝ) : rotated (outer v) t = outer (japply (rot t) v) := by
  obtain ⟨⟨a, b⟩, ⟨c, d⟩⟩ := v
  simp only [rotated, outer, japply, rot, jmul, cx_add, cx_mul, cx_conj, Real.cos_neg, Real.sin_neg,
    zero_mul, mul_zero, sub_zero, add_zero, zero_add, J2.mk.injEq, Cx.mk.injEq]
  refine ⟨⟨?_, ?_⟩, ⟨?_, ?_⟩, ⟨?_, ?_⟩, ⟨?_, ?_⟩⟩ <;> ring

/-- the **specified** diattenuator obeys the same relative rotation law (the code's does not:
`diattenuator_rotation_covariant_false`) -/
theorem diattenuator_spec_rotation_law (tmin tmax a b : ℝ) :
    diattenuator_spec tmin tmax (a + b) = rotated (diattenuator_spec tmin tmax a) b := by
  rw [(diattenuator_spec_rotation_covariant tmin tmax (a + b)).1,
    (diattenuator_spec_rotation_covariant tmin tmax a).1, rotated_rotated]

/-- the variant of `JonesLinearRetarder` whose off-diagonal entry `-1j·sin(d/2)·sin(2θ)` has the opposite
sign -/
noncomputable def retarder_slip (d t : ℝ) : J2 (Cx ℝ) :=
  ⟨(retarder d t).a, (retarder d t).b.neg, (retarder d t).c.neg, (retarder d t).d⟩

/-- **the slipped matrix is the element at −θ** (fast axis mirrored), for every retardance and angle -/
theorem retarder_slip_is_minus_theta (d t : ℝ) : retarder_slip d t = retarder d (-t) := by
  simp only [retarder_slip, retarder_eq, cx_neg, mul_neg, Real.cos_neg, Real.sin_neg, neg_zero, neg_neg,
    neg_mul]

/-- **the sign of θ is observable exactly off the symmetric cases**: the element at `−θ` (= the slipped
matrix) equals the element at `+θ` iff `sin(d/2) = 0` (retardance a multiple of 2π: no retarder at all)
or `sin 2θ = 0` (θ a multiple of 90°) -/
theorem retarder_sign_observable (d t : ℝ) :
    retarder_slip d t = retarder d t ↔ Real.sin (d / 2) = 0 ∨ Real.sin (2 * t) = 0 := by
  simp only [retarder_slip, retarder_eq, cx_neg, J2.mk.injEq, Cx.mk.injEq, true_and, and_true, neg_zero,
    and_self, neg_mul, neg_neg, ← mul_eq_zero]
  show Real.sin (d / 2) * Real.sin (2 * t) = -(Real.sin (d / 2) * Real.sin (2 * t)) ↔
    Real.sin (d / 2) * Real.sin (2 * t) = 0
  exact CharZero.eq_neg_self_iff

/-- … in terms of the angles themselves: the two matrices differ iff the retardance is not a multiple
of 2π and θ is not a multiple of 90° -/
theorem retarder_sign_observable_angles (d t : ℝ) :
    retarder d (-t) ≠ retarder d t ↔
      (¬ ∃ n : ℤ, d = n * (2 * Real.pi)) ∧ (¬ ∃ n : ℤ, t = n * (Real.pi / 2)) := by
  rw [← retarder_slip_is_minus_theta, Ne, retarder_sign_observable, not_or,
    Real.sin_eq_zero_iff, Real.sin_eq_zero_iff]
  constructor
  · rintro ⟨h1, h2⟩
    refine ⟨fun ⟨n, hn⟩ => h1 ⟨n, by rw [hn]; ring⟩, fun ⟨n, hn⟩ => h2 ⟨n, by rw [hn]; ring⟩⟩
  · rintro ⟨h1, h2⟩
    refine ⟨fun ⟨n, hn⟩ => h1 ⟨n, by linarith⟩, fun ⟨n, hn⟩ => h2 ⟨n, by linarith⟩⟩

example : (¬ ∃ n : ℤ, Real.pi = n * (2 * Real.pi)) := by
  rintro ⟨n, hn⟩
  -- cancelling `π` leaves `2n = 1` in ℤ
  have h : ((2 * n : ℤ) : ℝ) = ((1 : ℤ) : ℝ) := by
    push_cast
    exact mul_right_cancel₀ Real.pi_ne_zero (by linear_combination (-1 : ℝ) * hn)
  have := Int.cast_injective h
  omega

/-- **a half-wave plate at θ turns H into linear polarization at 2θ** (global phase `−i`): the fast axis
is at `+θ`.  At 22.5° the output is the `'L+45'` state, at −22.5° (the slipped element) the `'L-45'` state. -/
theorem halfWave_turns_H (t : ℝ) :
    japply (halfWave t) (createPolarization .H : PolState ℝ).jones
      = ((⟨0, -1⟩ : Cx ℝ).mul ⟨Real.cos (2 * t), 0⟩, (⟨0, -1⟩ : Cx ℝ).mul ⟨Real.sin (2 * t), 0⟩) := by
  rw [named_jones.1]
  simp only [halfWave, NumReal.pi_eq, retarder_eq, japply, cx_mul, cx_add, Real.cos_pi_div_two,
    Real.sin_pi_div_two, Prod.mk.injEq, Cx.mk.injEq]
  refine ⟨⟨?_, ?_⟩, ⟨?_, ?_⟩⟩ <;> ring

theorem halfWave_22_5 :
    japply (halfWave (Real.pi / 8)) (createPolarization .H : PolState ℝ).jones
      = ((⟨0, -1⟩ : Cx ℝ).mul (createPolarization .Lp45 : PolState ℝ).jones.1,
         (⟨0, -1⟩ : Cx ℝ).mul (createPolarization .Lp45 : PolState ℝ).jones.2) ∧
    japply (halfWave (-(Real.pi / 8))) (createPolarization .H : PolState ℝ).jones
      = ((⟨0, -1⟩ : Cx ℝ).mul (createPolarization .Lm45 : PolState ℝ).jones.1,
         (⟨0, -1⟩ : Cx ℝ).mul (createPolarization .Lm45 : PolState ℝ).jones.2) := by
  obtain ⟨-, -, h3, h4, -, -⟩ := named_jones
  rw [halfWave_turns_H, halfWave_turns_H, h3, h4,
    show 2 * (Real.pi / 8) = Real.pi / 4 by ring, show 2 * -(Real.pi / 8) = -(Real.pi / 4) by ring,
    Real.cos_neg, Real.sin_neg, Real.cos_pi_div_four, Real.sin_pi_div_four]
  exact ⟨rfl, rfl⟩

/-- **a quarter-wave plate with the fast axis at +45° turns H into the state `create_polarization('RCP')`**
(exactly, no global phase), the one the `JonesPolarizerRCP` passes; at −45° (the slipped element) the
output is `'LCP'` -/
theorem quarterWave_45 :
    japply (quarterWave (Real.pi / 4)) (createPolarization .H : PolState ℝ).jones
      = (createPolarization .RCP : PolState ℝ).jones ∧
    japply (quarterWave (-(Real.pi / 4))) (createPolarization .H : PolState ℝ).jones
      = (createPolarization .LCP : PolState ℝ).jones ∧
    japply polarizerRCP (japply (quarterWave (Real.pi / 4)) (createPolarization .H : PolState ℝ).jones)
      = japply (quarterWave (Real.pi / 4)) (createPolarization .H : PolState ℝ).jones ∧
    japply polarizerLCP (japply (quarterWave (Real.pi / 4)) (createPolarization .H : PolState ℝ).jones)
      = (Cx.zero, Cx.zero) := by
  obtain ⟨h1, -, -, -, h5, h6⟩ := named_jones
  -- the plate is `(√2/2)·(1 − i S(2t))`
  have plate : ∀ t : ℝ, japply (quarterWave t) (createPolarization .H : PolState ℝ).jones
      = (⟨Real.sqrt 2 / 2, -(Real.sqrt 2 / 2) * Real.cos (2 * t)⟩,
         ⟨0, -(Real.sqrt 2 / 2) * Real.sin (2 * t)⟩) := by
    intro t
    rw [h1]
    simp only [quarterWave, NumReal.pi_eq, retarder_eq, japply, cx_mul, cx_add,
      show Real.pi / 2 / 2 = Real.pi / 4 by ring, Real.cos_pi_div_four, Real.sin_pi_div_four,
      mul_one, mul_zero, sub_zero, add_zero, zero_add]
  have e1 := plate (Real.pi / 4)
  have e2 := plate (-(Real.pi / 4))
  rw [show 2 * (Real.pi / 4) = Real.pi / 2 by ring, Real.cos_pi_div_two, Real.sin_pi_div_two, mul_zero, mul_one,
    ← h5] at e1
  rw [show 2 * -(Real.pi / 4) = -(Real.pi / 2) by ring, Real.cos_neg, Real.sin_neg, Real.cos_pi_div_two,
    Real.sin_pi_div_two, mul_zero, mul_neg, mul_one, neg_neg, ← h6] at e2
  obtain ⟨-, -, -, -, p5, p6⟩ := polarizer_pass_block
  refine ⟨e1, e2, ?_, ?_⟩
  · rw [e1]; exact p5.1
  · rw [e1]
    apply p6.2
    rw [h5, h6]
    simp only [cx_mul, cx_conj, cx_add, cx_zero, Cx.mk.injEq]
    constructor <;> ring


/-! ### Fresnel coefficients depend on the relative index only -/

/-- **only the ratio n₂/n₁ enters**: scaling both indices by a common factor changes no coefficient
(so a glass–glass interface `1.5 → 3` behaves as `1 → 2`; the variant with `sin θt = sin θ / n₂`
breaks this) -/
theorem fresnel_relative_index (n1 n2 c θ : ℝ) (hc : c ≠ 0) (refl : Bool) :
    fresnel (c * n1) (c * n2) θ refl = fresnel n1 n2 θ refl := by
  have e : c * n2 / (c * n1) = n2 / n1 := mul_div_mul_left n2 n1 hc
  unfold fresnel fresnelRs fresnelRp fresnelTs fresnelTp fresnelRoot
  num_real
  simp only [e]

/-- **equal indices reflect nothing**, whatever their common value: `r_s = r_p = 0`, `t_s = t_p = 1`
for `n₁ = n₂ = n ≠ 0` at every angle with `0 < cos θ` -/
theorem fresnel_equal_indices (n θ : ℝ) (hn : n ≠ 0) (hc : 0 < Real.cos θ) :
    fresnel n n θ true = ⟨Cx.zero, Cx.zero, ⟨-1, 0⟩⟩ ∧ fresnel n n θ false = ⟨Cx.one, Cx.one, ⟨1, 0⟩⟩ := by
  have h1 : n / n = 1 := div_self hn
  have hr : fresnelRoot n n θ = ⟨Real.cos θ, 0⟩ := by
    have e : (n / n) ^ 2 - Real.sin θ ^ 2 = Real.cos θ ^ 2 := by
      rw [h1]; linear_combination (-1 : ℝ) * Real.sin_sq_add_cos_sq θ
    rw [fresnelRoot_real n n θ (sub_nonneg.mp (by rw [e]; exact sq_nonneg _)), e, Real.sqrt_sq hc.le]
  have h2 : 2 * Real.cos θ ≠ 0 := mul_ne_zero two_ne_zero hc.ne'
  obtain ⟨hR, hT⟩ := fresnel_real n n θ _ hr
  rw [hR, hT]
  simp only [h1, one_pow, one_mul, mul_one, sub_self, zero_div, neg_zero, ← two_mul, div_self h2]
  exact ⟨rfl, rfl⟩

example : ∃ n θ : ℝ, n ≠ 0 ∧ n ≠ 1 ∧ 0 < Real.cos θ ∧ Real.sin θ ≠ 0 :=
  ⟨3 / 2, Real.pi / 6, by norm_num, by norm_num, by rw [Real.cos_pi_div_six]; positivity,
    by rw [Real.sin_pi_div_six]; norm_num⟩

/-- the variant with the absolute `n₂` where the relative index belongs (`JonesFresnel` evaluated as if
`n₁ = 1`) is visible on an index-matched interface: `2 → 2` at normal incidence it reflects
`r_s = −1/3` where the code reflects nothing -/
theorem fresnel_absolute_index_slip_visible :
    (fresnel (1:ℝ) 2 0 true).s = ⟨-(1 / 3), 0⟩ ∧ (fresnel (2:ℝ) 2 0 true).s = Cx.zero := by
  refine ⟨?_, by rw [(fresnel_equal_indices 2 0 two_ne_zero (by rw [Real.cos_zero]; exact one_pos)).1]⟩
  rw [(fresnel_real 1 2 0 _ (fresnelRoot_zero 1 2 (by norm_num))).1, Real.cos_zero]
  norm_num

/-- **the coefficients are real below the critical angle** (all four, any positive indices) -/
theorem fresnel_real_below_critical (n1 n2 θ : ℝ) (hcrit : Real.sin θ ^ 2 ≤ (n2 / n1) ^ 2) :
    (fresnel n1 n2 θ true).s.im = 0 ∧ (fresnel n1 n2 θ true).p.im = 0 ∧
    (fresnel n1 n2 θ false).s.im = 0 ∧ (fresnel n1 n2 θ false).p.im = 0 := by
  obtain ⟨hR, hT⟩ := fresnel_real n1 n2 θ _ (fresnelRoot_real n1 n2 θ hcrit)
  rw [hR, hT]
  exact ⟨rfl, rfl, rfl, rfl⟩

/-- non-vacuity with `n₁ ≠ 1` (glass → denser glass, 30°): the hypotheses of
`fresnel_energy_below_critical`, `fresnel_real_below_critical` hold, and by `fresnel_relative_index`
the coefficients are those of `1 → 2` -/
example : 0 < (3 / 2 : ℝ) ∧ 0 < (3 : ℝ) ∧ 0 < Real.cos (Real.pi / 6) ∧
    Real.sin (Real.pi / 6) ^ 2 < ((3 : ℝ) / (3 / 2)) ^ 2 ∧
    ∀ r, fresnel (3 / 2 * 1 : ℝ) (3 / 2 * 2) (Real.pi / 6) r = fresnel 1 2 (Real.pi / 6) r := by
  rw [Real.cos_pi_div_six, Real.sin_pi_div_six]
  exact ⟨by norm_num, by norm_num, by positivity, by norm_num,
    fun r => fresnel_relative_index 1 2 (3 / 2) _ (by norm_num) r⟩

/-- **sign of r_p on either side of Brewster's angle**: below the critical angle, for `n = n₂/n₁ ≠ 1`,
the code's `r_p` has the sign of `(n − 1)(n cos θ − sin θ)`: for `n > 1` positive below Brewster's angle
and negative above it (a sign slip in `p` would reverse this) -/
theorem rp_sign (n1 n2 θ : ℝ) (h1 : 0 < n1) (h2 : 0 < n2) (hc : 0 < Real.cos θ) (hs : 0 ≤ Real.sin θ)
    (hcrit : Real.sin θ ^ 2 < (n2 / n1) ^ 2) :
    (0 < (fresnelRp n1 n2 θ).re ↔ 0 < (n2 / n1 - 1) * (n2 / n1 * Real.cos θ - Real.sin θ)) ∧
    ((fresnelRp n1 n2 θ).re < 0 ↔ (n2 / n1 - 1) * (n2 / n1 * Real.cos θ - Real.sin θ) < 0) := by
  have hr := fresnelRoot_real n1 n2 θ hcrit.le
  rw [fresnelRp_real _ _ _ _ hr]
  have hn : 0 < n2 / n1 := div_pos h2 h1
  have hp := Real.sin_sq_add_cos_sq θ
  have hρ := Real.sqrt_pos.mpr (sub_pos.mpr hcrit)
  have hρ2 := Real.sq_sqrt (sub_pos.mpr hcrit).le
  generalize Real.sqrt ((n2 / n1) ^ 2 - Real.sin θ ^ 2) = ρ at *
  generalize n2 / n1 = n at *
  generalize Real.cos θ = c at *
  generalize Real.sin θ = s at *
  have hden : 0 < n ^ 2 * c + ρ := by positivity
  -- `r_p = (n−1)(nc−s)·κ` with `κ > 0`, from `rp_factor`
  have hκ : 0 < (n + 1) * (n * c + s) / (n ^ 2 * c + ρ) ^ 2 := by positivity
  have key : (n ^ 2 * c - ρ) / (n ^ 2 * c + ρ)
      = (n - 1) * (n * c - s) * ((n + 1) * (n * c + s) / (n ^ 2 * c + ρ) ^ 2) := by
    rw [mul_div_assoc', div_eq_div_iff hden.ne' (pow_ne_zero 2 hden.ne')]
    linear_combination (n ^ 2 * c + ρ) * rp_factor n c s ρ hp hρ2
  rw [key]
  exact ⟨mul_pos_iff_of_pos_right hκ, by rw [← not_le, ← not_le, mul_nonneg_iff_of_pos_right hκ]⟩

example : ∃ n1 n2 θ : ℝ, 0 < n1 ∧ 0 < n2 ∧ 0 < Real.cos θ ∧ 0 ≤ Real.sin θ ∧
    Real.sin θ ^ 2 < (n2 / n1) ^ 2 ∧ n2 / n1 ≠ 1 :=
  ⟨3 / 2, 3, 0, by norm_num, by norm_num, by rw [Real.cos_zero]; exact one_pos, Real.sin_zero.ge,
    by rw [Real.sin_zero]; norm_num, by norm_num⟩

/-! ### `PolarizationState`: normalisation with a vanishing component, launch intensity -/

/-- **normalisation when one component is exactly 0**: `PolarizationState(Ex=a, Ey=0)` stores
`(a/|a|, 0)` = `(±1, 0)`, and likewise for `Ex = 0` — the division by `mag` is not skipped -/
theorem polarized_zero_component (a px py : ℝ) (ha : a ≠ 0) :
    polarized a 0 px py = ⟨true, a / |a|, 0, px, py⟩ ∧ polarized 0 a px py = ⟨true, 0, a / |a|, px, py⟩ ∧
    (a / |a|) ^ 2 = 1 := by
  have e1 : Real.sqrt (a * a + 0 * 0) = |a| := by
    rw [mul_zero, add_zero]; exact Real.sqrt_mul_self_eq_abs a
  have e2 : Real.sqrt (0 * 0 + a * a) = |a| := by
    rw [mul_zero, zero_add]; exact Real.sqrt_mul_self_eq_abs a
  have habs : |a| ≠ 0 := abs_ne_zero.mpr ha
  refine ⟨?_, ?_, ?_⟩
  · unfold polarized; num_real; rw [e1, zero_div]
  · unfold polarized; num_real; rw [e2, zero_div]
  · rw [div_pow, sq_abs, div_self (pow_ne_zero 2 ha)]

example : ∃ a : ℝ, a ≠ 0 ∧ |a| ≠ 1 := ⟨3, by norm_num, by norm_num⟩

/-- the variant of the constructor that tests truthiness, `if self.Ex and self.Ey:` instead of
`is not None`: a state with a zero component is stored as given -/
noncomputable def polarized_slip (Ex Ey px py : ℝ) : PolState ℝ :=
  if Ex ≠ 0 ∧ Ey ≠ 0 then polarized Ex Ey px py else ⟨true, Ex, Ey, px, py⟩

/-- the slipped constructor agrees with the code when both components are non-zero and leaves the
intensity `a²` (instead of 1) when one of them vanishes -/
theorem polarized_slip_not_normalised (a b px py : ℝ) :
    (a ≠ 0 → b ≠ 0 → polarized_slip a b px py = polarized a b px py) ∧
    ((polarized_slip a 0 px py).Ex ^ 2 + (polarized_slip a 0 px py).Ey ^ 2 = a ^ 2) ∧
    (a ≠ 0 → (polarized a 0 px py).Ex ^ 2 + (polarized a 0 px py).Ey ^ 2 = 1) := by
  refine ⟨fun ha hb => ?_, ?_, fun ha => polarized_unit a 0 px py (Or.inl ha)⟩
  · unfold polarized_slip; rw [if_pos ⟨ha, hb⟩]
  · unfold polarized_slip; rw [if_neg (fun h => h.2 rfl)]; ring

/-- **the launched state has intensity 1 for every valid input**: for all amplitudes `(Ex, Ey) ≠ (0, 0)`
(one of them may be exactly 0), all phases, and every unit initial direction not along x̂, the 3-D field
`_get_3d_electric_field` builds has `Σ|E|² = 1`, and `update_intensity` before any surface returns 1 -/
theorem launch_intensity_one (a b px py i0 : ℝ) (hab : a ≠ 0 ∨ b ≠ 0) (k : V3 ℝ) (hk : dot k k = 1)
    (hx : k.y ≠ 0 ∨ k.z ≠ 0) :
    sumAbsSq (field3d (polarized a b px py) k) = 1 ∧
    updateIntensity (tracePol []) (polarized a b px py) k i0 = 1 := by
  refine ⟨?_, uncoated_preserves_intensity [] (by simp) k hk hx a b px py i0 hab⟩
  rw [(field3d_spec _ k hk hx).1, polarized_unit a b px py hab]

example : ∃ (a b : ℝ) (k : V3 ℝ), (a ≠ 0 ∨ b ≠ 0) ∧ b = 0 ∧ dot k k = 1 ∧ (k.y ≠ 0 ∨ k.z ≠ 0) :=
  ⟨3, 0, ⟨0, 3 / 5, 4 / 5⟩, Or.inl (by norm_num), rfl, by unfold dot; num_real; norm_num,
    Or.inl (by norm_num)⟩

/-- … whereas a state stored without normalisation (the slip, `Ex = a`, `Ey = 0`) is launched with
intensity `a²` -/
theorem launch_intensity_slip (a px py : ℝ) (k : V3 ℝ) (hk : dot k k = 1) (hx : k.y ≠ 0 ∨ k.z ≠ 0) :
    sumAbsSq (field3d (polarized_slip a 0 px py) k) = a ^ 2 := by
  rw [(field3d_spec _ k hk hx).1]
  exact (polarized_slip_not_normalised a 0 px py).2.1

/-! ### unpolarized light with attenuation on the way -/

/-- `update_intensity` for unpolarized light is linear in the launch intensity `_i0` it is given -/
theorem unpolarized_linear_in_i0 (P : PMat ℝ) (k : V3 ℝ) (a i0 : ℝ) :
    updateIntensity P unpolarized k (a * i0) = a * updateIntensity P unpolarized k i0 := by
  have hu : (unpolarized : PolState ℝ).isPol = false := rfl
  unfold updateIntensity
  rw [hu]
  simp only [Bool.false_eq_true, if_false]
  num_real
  ring

/-- **unpolarized = launch intensity × mean of any two orthogonal unit states**, for every polarization
matrix (whatever coatings attenuated the field on the way), every ray, every ORIGINAL launch intensity
`i0` (`_i0 = intensity.copy()`), every orthonormal pair of input states -/
theorem unpolarized_is_mean_scaled (P : PMat ℝ) (k : V3 ℝ) (st1 st2 : PolState ℝ)
    (h : OrthonormalStates st1 st2) (i0 : ℝ) :
    updateIntensity P unpolarized k i0 = i0 * ((polIntensity P st1 k + polIntensity P st2 k) / 2) := by
  have := unpolarized_linear_in_i0 P k i0 1
  rw [mul_one] at this
  rw [this, unpolarized_is_mean P k st1 st2 h]

/-- the variant that aliases the launch intensity (`_i0 = intensity`, so that `_i0` follows the live array which apertures,
absorption and earlier `update_intensity` calls have scaled by `a`) returns `a` times the specified
value: it is wrong exactly when `a ≠ 1` and the specified value is not 0 -/
theorem unpolarized_alias_slip_differs (P : PMat ℝ) (k : V3 ℝ) (a i0 : ℝ) :
    updateIntensity P unpolarized k (a * i0) = updateIntensity P unpolarized k i0 ↔
      a = 1 ∨ updateIntensity P unpolarized k i0 = 0 := by
  rw [unpolarized_linear_in_i0]
  constructor
  · intro h
    have : (a - 1) * updateIntensity P unpolarized k i0 = 0 := by linear_combination h
    rcases mul_eq_zero.mp this with h | h
    · exact Or.inl (by linarith)
    · exact Or.inr h
  · rintro (h | h)
    · rw [h, one_mul]
    · rw [h, mul_zero]

/-- non-vacuity of the slip: through no surface at all, launch intensity 1, attenuation `a = 1/2`, the
specified unpolarized intensity is 1 and the slipped one 1/2 -/
theorem unpolarized_alias_slip_example (k : V3 ℝ) (hk : dot k k = 1) (hx : k.y ≠ 0 ∨ k.z ≠ 0) :
    updateIntensity (tracePol []) unpolarized k 1 = 1 ∧
    updateIntensity (tracePol []) unpolarized k (1 / 2 * 1) = 1 / 2 := by
  have h1 : updateIntensity (tracePol []) unpolarized k (1:ℝ) = 1 := by
    rw [unpolarized_is_mean _ k _ _ xy_states]
    have e1 : polIntensity (tracePol []) (polarized (1:ℝ) 0 0 0) k = 1 :=
      uncoated_preserves_intensity [] (by simp) k hk hx 1 0 0 0 1 (Or.inl one_ne_zero)
    have e2 : polIntensity (tracePol []) (polarized (0:ℝ) 1 0 0) k = 1 :=
      uncoated_preserves_intensity [] (by simp) k hk hx 0 1 0 0 1 (Or.inr one_ne_zero)
    rw [e1, e2]; norm_num
  exact ⟨h1, by rw [unpolarized_linear_in_i0, h1]; norm_num⟩


end C17
