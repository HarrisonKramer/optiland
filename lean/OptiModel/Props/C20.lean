import OptiModel.Model.Zmx
/-!
# C20  Zemax import reproduces the prescription written in the file

Theorems about `Model/Zmx.lean` (core Lean only; numbers are an abstract type `ν` with an
arbitrary `Num`/`BEq` structure — no law of arithmetic is used).

* `parse_print`            — for every well-formed prescription `p` (any number of surfaces,
  STANDARD / EVENASPH, any aperture kind, any fields, any number of wavelengths, any primary):
  `zload (printZmx p) = ok (expected p)`: one `add_surface` call per written surface with the written
  curvature (as radius), thickness, conic, coefficients, stop flag and medium decision, the written
  aperture, field type, the field *set* sorted by y, the wavelengths and the primary index.
  Itemised corollaries, each about the lens `o` with `zload known (printZmx p) = .ok o`:
  `surface_count`, `surface_data`, `stop_index_read`, `aperture_read`, `fields_read`,
  `wavelengths_read` (helpers about the specification function `expected` only: `expected_*`,
  `stop_index_unique`, `fields_mem`, `fields_nodup`, `fields_sorted`, `fields_exact`).
  The theorems are about the dispatched lines `ZLine`; the text → `ZLine` step (`Model/ZmxLex.lean`,
  both encodings, `float()` parsing) is only run by the harness, not reasoned about.
* `unknown_lines_ignored`, `parse_print_noise` — lines the reader does not dispatch never matter.
* `zstep_comm`, `parse_print_reordered` — nor does the order of the attribute lines inside a surface block.
* `nonsequential_rejected`, `bad_number_rejected` — the load fails with `ValueError`.
* `glass_known`, `glass_vendor`, `glass_model`, `vendor_branch_dead` — decision logic of `_read_glass`.
-/
namespace C20
open Zmx
open scoped Num
variable {ν : Type}

/-! ### lines that are not dispatched -/

theorem foldl_filter_other (st : ZState ν) (ls : List (ZLine ν)) :
    (ls.filter (fun l => !l.isOther)).foldl zstep st = ls.foldl zstep st := by
  induction ls generalizing st with
  | nil => rfl
  | cons l ls ih => cases l <;> exact ih _

/-- unknown keywords, blank lines and short lines without effect can be inserted or removed
anywhere without changing what the reader holds -/
theorem unknown_lines_ignored (ls : List (ZLine ν)) :
    zparse (ls.filter (fun l => !l.isOther)) = zparse ls :=
  foldl_filter_other _ ls

/-! ### errors are sticky -/

/-- No branch of `zstep` clears the error flag.  (The model keeps consuming lines after an error, whereas the Python
raises at once; only the flag is compared, not the rest of the state.) -/
theorem err_zstep (st : ZState ν) (l : ZLine ν) (h : st.err = true) : (zstep st l).err = true := by
  cases l <;> simp only [zstep, upd] <;> (repeat' split) <;> first | exact h | rfl

theorem err_foldl (st : ZState ν) (ls : List (ZLine ν)) (h : st.err = true) :
    (ls.foldl zstep st).err = true := by
  induction ls generalizing st with
  | nil => exact h
  | cons l ls ih => exact ih _ (err_zstep st l h)

theorem err_of_mem (st : ZState ν) (ls : List (ZLine ν)) (l : ZLine ν) (hl : l ∈ ls)
    (hs : ∀ s : ZState ν, (zstep s l).err = true) : (ls.foldl zstep st).err = true := by
  induction ls generalizing st with
  | nil => cases hl
  | cons a ls ih =>
    rcases List.mem_cons.mp hl with rfl | h
    · exact err_foldl _ ls (hs st)
    · exact ih _ h

/-- a file whose `MODE` line is not `SEQ` is rejected with `ValueError`, whatever else it says -/
theorem nonsequential_rejected [Num ν] [BEq ν] (known : String → Option String → Bool)
    (ls : List (ZLine ν)) (h : ZLine.mode false ∈ ls) : zload known ls = .error .value := by
  have : (zparse ls).err = true := err_of_mem _ ls _ h (fun s => by simp [zstep])
  simp [zload, zread, zfinish, this]

/-- a number `float()` / `int()` rejects makes the load fail with `ValueError` -/
theorem bad_number_rejected [Num ν] [BEq ν] (known : String → Option String → Bool)
    (ls : List (ZLine ν)) (h : ZLine.bad ∈ ls) : zload known ls = .error .value := by
  have : (zparse ls).err = true := err_of_mem _ ls _ h (fun s => by simp [zstep])
  simp [zload, zread, zfinish, this]

/-! ### glass resolution (`_read_glass`) -/

/-- catalogue name known ⇒ catalogue glass -/
theorem glass_known (known : String → Option String → Bool) (name : String) (cats : List String)
    (nd vd : ν) (h : known name none = true) :
    resolveGlass known name cats nd vd = .catalog name none := by
  simp [resolveGlass, h]

/-- otherwise the first vendor catalogue of `GCAT` that knows the name -/
theorem glass_vendor (known : String → Option String → Bool) (name : String) (cats : List String)
    (nd vd : ν) (c : String) (h : known name none = false)
    (hc : cats.find? (fun c => known name (some c.toLower)) = some c) :
    resolveGlass known name cats nd vd = .catalog name (some c.toLower) := by
  simp [resolveGlass, h, hc]

/-- name unknown everywhere ⇒ the model glass with the file's index and Abbe number -/
theorem glass_model (known : String → Option String → Bool) (name : String) (cats : List String)
    (nd vd : ν) (h : known name none = false)
    (hc : ∀ c ∈ cats, known name (some c.toLower) = false) :
    resolveGlass known name cats nd vd = .abbe nd vd := by
  have : cats.find? (fun c => known name (some c.toLower)) = none :=
    List.find?_eq_none.mpr fun c hmem => by simp [hc c hmem]
  simp [resolveGlass, h, this]

/-- `Material(name, reference)` only narrows the candidates of `Material(name)`: then the vendor
loop can never succeed and the decision is "known ⇒ catalogue, else model glass" -/
theorem vendor_branch_dead (known : String → Option String → Bool)
    (mono : ∀ n r, known n (some r) = true → known n none = true)
    (name : String) (cats : List String) (nd vd : ν) :
    resolveGlass known name cats nd vd =
      if known name none then .catalog name none else .abbe nd vd := by
  cases h : known name none
  · have := glass_model known name cats nd vd h (fun c _ => by
      cases h' : known name (some c.toLower)
      · rfl
      · rw [mono _ _ h'] at h; cases h)
    simpa [h] using this
  · simp [resolveGlass, h]

/-! ### surface blocks -/

theorem foldl_parmLines (st : ZState ν) (c : ZSurf ν) (hc : st.cur = some c) (k : Nat) (cs : List ν) :
    (parmLines k cs).foldl zstep st =
      { st with cur := some { c with parms := c.parms ++ enumParms k cs } } := by
  induction cs generalizing st c k with
  | nil => cases st; simp_all [parmLines, enumParms]
  | cons v vs ih =>
    simp only [parmLines, enumParms, List.foldl_cons]
    have : zstep st (ZLine.parm ((k : Int) + 1) v) =
        { st with cur := some { c with parms := c.parms ++ [((k : Int), v)] } } := by
      simp [zstep, upd, hc]
    rw [this, ih _ { c with parms := c.parms ++ [((k : Int), v)] } rfl]
    simp [List.append_assoc]

/-- a block written for one surface is read back as exactly that surface, the surface that was open
before is flushed, and nothing else in the reader changes -/
theorem foldl_printSurf (st : ZState ν) (s : ZPSurf ν) :
    (printSurf s).foldl zstep st =
      { st with cur := some (recOf (st.gcat.getD []) s), done := st.done ++ st.cur.toList } := by
  obtain ⟨ea, isStop, curv, thick, conic, glass, coeffs⟩ := s
  -- the lines before the `PARM` lines open a block and write type, stop flag and curvature into it
  have h1 : ([.surf] ++ (if isStop then [.stop] else []) ++
        [.stype (if ea then .evenAsph else .standard), .curv curv] : List (ZLine ν)).foldl zstep st =
      { st with cur := some { stype := if ea then .evenAsph else .standard, isStop := isStop, curv := some curv },
                done := st.done ++ st.cur.toList } := by
    cases isStop <;> rfl
  simp only [printSurf, List.foldl_append, List.foldl_cons, List.foldl_nil] at h1 ⊢
  rw [h1, foldl_parmLines _ _ rfl]
  cases glass <;> cases conic <;> rfl

/-- all blocks of a file: every block but the last is flushed in order, the last one stays open -/
theorem foldl_blocks (st : ZState ν) (bs : List (ZPSurf ν)) (b : ZPSurf ν) :
    ((bs ++ [b]).flatMap printSurf).foldl zstep st =
      { st with cur := some (recOf (st.gcat.getD []) b),
                done := st.done ++ st.cur.toList ++ bs.map (recOf (st.gcat.getD [])) } := by
  induction bs generalizing st with
  | nil => simp [foldl_printSurf]
  | cons a bs ih =>
    simp only [List.cons_append, List.flatMap_cons, List.foldl_append, foldl_printSurf]
    rw [ih]
    simp [List.append_assoc]

/-! ### header -/

theorem takeFloats_some (xs pad : List ν) :
    takeFloats xs.length ((xs ++ pad).map some) = some xs := by
  induction xs with
  | nil => simp [takeFloats]
  | cons x xs ih =>
    simp only [takeFloats, List.length_cons, List.cons_append, List.map_cons, List.take_succ_cons,
      List.foldr_cons] at ih ⊢
    rw [ih]

theorem foldl_wavm_pad (st : ZState ν) (n : Nat) (hn : st.nw = some n) (hl : st.waves.length = n)
    (pad : List ν) : (pad.map ZLine.wavm).foldl zstep st = st := by
  induction pad with
  | nil => rfl
  | cons v vs ih => simp [zstep, hn, hl, ih]

theorem foldl_wavm (st : ZState ν) (n : Nat) (hn : st.nw = some n) (ws pad : List ν)
    (hl : st.waves.length + ws.length = n) :
    ((ws ++ pad).map ZLine.wavm).foldl zstep st = { st with waves := st.waves ++ ws } := by
  induction ws generalizing st with
  | nil =>
    simp only [List.nil_append, List.append_nil]
    exact foldl_wavm_pad st n hn (by simpa using hl) pad
  | cons w ws ih =>
    have hlt : st.waves.length < n := by simp only [List.length_cons] at hl; omega
    simp only [List.cons_append, List.map_cons, List.foldl_cons]
    have hs : zstep st (ZLine.wavm w) = { st with waves := st.waves ++ [w] } := by
      simp [zstep, hn, hlt]
    rw [hs, ih { st with waves := st.waves ++ [w] } hn
      (by simp only [List.length_append, List.length_cons, List.length_nil] at hl ⊢; omega)]
    simp [List.append_assoc]

theorem zip_fst_snd (l : List (ν × ν)) : (l.map fun f => f.1).zip (l.map fun f => f.2) = l := by
  induction l with
  | nil => rfl
  | cons a l ih => simp [ih]

/-- the reader's state after the header of a well-formed file -/
theorem foldl_header (p : ZPresc ν) :
    (header p).foldl zstep {} =
      { ap := [(p.apKind.key, some p.apValue)], gcat := p.gcat, ftype := some p.fieldType,
        tele := some p.tele, nf := some p.fields.length, nw := some p.waves.length,
        xs := some (p.fields.map fun f => f.1), ys := some (p.fields.map fun f => f.2),
        waves := p.waves, pw := some p.primary } := by
  obtain ⟨gcat, apKind, apValue, fieldType, tele, fields, xpad, ypad, waves, wpad, primary, obj, surfs, img⟩ := p
  have hx := takeFloats_some (fields.map fun f => f.1) xpad
  have hy := takeFloats_some (fields.map fun f => f.2) ypad
  simp only [List.length_map] at hx hy
  simp only [header, List.foldl_append, List.foldl_cons, List.foldl_nil]
  -- the lines before `FTYP` leave the aperture entry and the catalogue list
  generalize h1 : List.foldl zstep (zstep (zstep {} (.mode true)) (apLine apKind apValue)) _ = st
  replace h1 : st = { ap := [(apKind.key, some apValue)], gcat := gcat } := by
    subst h1; cases apKind <;> cases gcat <;> rfl
  subst h1
  simp only [zstep, hx, hy]
  rw [foldl_wavm _ waves.length rfl waves wpad (Nat.zero_add _), Int.add_sub_cancel]
  rfl

/-! ### conversion -/

theorem dedup_isEmpty [BEq ν] (l : List (ν × ν)) (h : l ≠ []) : (dedup l).isEmpty = false := by
  cases l with
  | nil => exact absurd rfl h
  | cons a l => rfl

theorem dedup_ne_nil [BEq ν] (l : List (ν × ν)) (h : l ≠ []) : dedup l ≠ [] :=
  fun e => by have := dedup_isEmpty l h; rw [e] at this; cases this

theorem coeffsOf_enum (a0 a1 a2 a3 a4 a5 a6 a7 : ν) :
    coeffsOf (enumParms 0 [a0, a1, a2, a3, a4, a5, a6, a7]) = some [a0, a1, a2, a3, a4, a5, a6, a7] := by
  rfl

theorem length_eq_eight (l : List ν) (h : l.length = 8) :
    ∃ a0 a1 a2 a3 a4 a5 a6 a7, l = [a0, a1, a2, a3, a4, a5, a6, a7] := by
  match l, h with
  | [a0, a1, a2, a3, a4, a5, a6, a7], _ => exact ⟨a0, a1, a2, a3, a4, a5, a6, a7, rfl⟩

/-- one flushed record of a written surface converts to the written `add_surface` arguments -/
theorem convSurf_recOf [Num ν] (known : String → Option String → Bool) (cats : List String)
    (s : ZPSurf ν) (h : s.evenAsph = true → s.coeffs.length = 8) :
    convSurf known (recOf cats s) = .ok (expSurf known cats s) := by
  obtain ⟨ea, isStop, curv, thick, conic, glass, coeffs⟩ := s
  cases ea
  · cases glass <;> simp [convSurf, recOf, expSurf]
  · obtain ⟨a0, a1, a2, a3, a4, a5, a6, a7, rfl⟩ := length_eq_eight coeffs (h rfl)
    cases glass <;> simp [convSurf, recOf, expSurf, coeffsOf_enum]

theorem convSurfs_recOf [Num ν] (known : String → Option String → Bool) (cats : List String)
    (l : List (ZPSurf ν)) (h : ∀ s ∈ l, s.evenAsph = true → s.coeffs.length = 8) :
    convSurfs known (l.map (recOf cats)) = .ok (l.map (expSurf known cats)) := by
  induction l with
  | nil => rfl
  | cons a l ih =>
    simp only [List.map_cons, convSurfs]
    rw [convSurf_recOf known cats a (h a (List.mem_cons_self ..)),
      ih (fun s hs => h s (List.mem_cons_of_mem _ hs))]

/-! ### primary wavelength (`WavelengthGroup.add_wavelength`) -/

theorem addWave_length (flags : List Bool) (b : Bool) : (addWave flags b).length = flags.length + 1 := by
  unfold addWave; split <;> simp

theorem addWaves_length (pw : Int) (flags : List Bool) (idx n : Nat) :
    (addWaves pw flags idx n).length = flags.length + n := by
  induction n generalizing flags idx with
  | zero => rfl
  | succ n ih => simp only [addWaves, ih, addWave_length]; omega

theorem addWaves_add (pw : Int) (flags : List Bool) (idx a b : Nat) :
    addWaves pw flags idx (a + b) = addWaves pw (addWaves pw flags idx a) (idx + a) b := by
  induction a generalizing flags idx with
  | zero => simp [addWaves]
  | succ a ih =>
    have : a + 1 + b = (a + b) + 1 := by omega
    rw [this]
    simp only [addWaves, ih]
    congr 1
    omega

theorem addWaves_after (k : Nat) (flags : List Bool) (hne : flags ≠ []) (idx m : Nat) (hk : k < idx) :
    addWaves (k : Int) flags idx m = flags ++ List.replicate m false := by
  induction m generalizing flags idx with
  | zero => simp [addWaves]
  | succ m ih =>
    have hd : decide ((idx : Int) = (k : Int)) = false := by
      simp only [decide_eq_false_iff_not]; omega
    have hlen : flags.length ≠ 0 := by
      intro h; exact hne (List.length_eq_zero_iff.mp h)
    have hstep : addWave flags false = flags ++ [false] := by
      simp [addWave, hlen]
    simp only [addWaves, hd, hstep]
    rw [ih _ (by simp) _ (by omega)]
    simp [List.replicate_succ]

theorem primaryIndex_replicate (k : Nat) (r : List Bool) :
    primaryIndex (List.replicate k false ++ true :: r) = some k := by
  induction k with
  | zero => simp [primaryIndex]
  | succ k ih => simp [List.replicate_succ, primaryIndex, ih]

/-- the wavelength with the written primary number ends up as the only primary one -/
theorem primary_read (k n : Nat) (h : k < n) :
    primaryIndex (addWaves (k : Int) [] 0 n) = some k := by
  obtain ⟨m, rfl⟩ : ∃ m, n = k + (1 + m) := ⟨n - k - 1, by omega⟩
  rw [addWaves_add, addWaves_add]
  generalize hf : addWaves (k : Int) [] 0 k = fl
  have hl : fl.length = k := by rw [← hf, addWaves_length]; simp
  have hstep : addWaves (k : Int) fl (0 + k) 1 = List.replicate k false ++ [true] := by
    simp only [addWaves, Nat.zero_add, decide_true, addWave, if_true, List.length_map]
    rw [List.map_const', hl]
    simp
  rw [hstep, addWaves_after k _ (by simp) _ _ (by omega)]
  simp only [List.append_assoc, List.cons_append, List.nil_append]
  exact primaryIndex_replicate k _

/-! ### the round trip -/

/-- well-formed prescription: at least one field point, the primary number names one of the
wavelengths, every EVENASPH surface carries its eight `PARM` lines -/
structure WF (p : ZPresc ν) : Prop where
  fields_ne : p.fields ≠ []
  primary_lt : p.primary < p.waves.length
  asph : ∀ s ∈ p.obj :: p.surfs, s.evenAsph = true → s.coeffs.length = 8

/-- what the reader holds after a well-formed file: the header data and one record per written
surface; the image block stays unflushed -/
theorem zparse_printZmx (p : ZPresc ν) :
    zparse (printZmx p) =
      { cur := some (recOf (p.gcat.getD []) p.img),
        done := (p.obj :: p.surfs).map (recOf (p.gcat.getD [])),
        ap := [(p.apKind.key, some p.apValue)], gcat := p.gcat, ftype := some p.fieldType,
        tele := some p.tele, nf := some p.fields.length, nw := some p.waves.length,
        xs := some (p.fields.map fun f => f.1), ys := some (p.fields.map fun f => f.2),
        waves := p.waves, pw := some p.primary } := by
  have hb : blocks p = (p.obj :: p.surfs) ++ [p.img] := by simp [blocks]
  simp only [zparse, printZmx, List.foldl_append, foldl_header, hb]
  rw [foldl_blocks]
  simp

/-- parse ∘ print: loading the file written for a well-formed prescription yields exactly the
lens that prescription describes -/
theorem parse_print [Num ν] [BEq ν] (known : String → Option String → Bool) (p : ZPresc ν) (wf : WF p) :
    zload known (printZmx p) = .ok (expected known p) := by
  have hd := dedup_isEmpty p.fields wf.fields_ne
  have hs := convSurfs_recOf known (p.gcat.getD []) (p.obj :: p.surfs) wf.asph
  have hp := primary_read p.primary p.waves.length wf.primary_lt
  simp only [List.map_cons] at hs
  simp only [zload, zread, zparse_printZmx, zfinish, zip_fst_snd, hd, convert, expected]
  cases p.apKind <;> simp [ApKind.key, hs, hp]

/-- `_spec` variant (finding F-C20-1): a reader that also keeps the block open at the end of the file
returns every written surface, the image surface with its written curvature and conic included -/
theorem parse_print_spec [Num ν] [BEq ν] (known : String → Option String → Bool) (p : ZPresc ν) (wf : WF p)
    (wfi : p.img.evenAsph = true → p.img.coeffs.length = 8) :
    zloadSpec known (printZmx p) = .ok (expectedSpec known p) := by
  have hd := dedup_isEmpty p.fields wf.fields_ne
  have hs := convSurfs_recOf known (p.gcat.getD []) (blocks p) (by
    simp only [blocks, ← List.cons_append, List.forall_mem_append, List.forall_mem_singleton]
    exact ⟨wf.asph, wfi⟩)
  have hp := primary_read p.primary p.waves.length wf.primary_lt
  simp only [blocks, List.map_cons, List.map_append, List.map_nil] at hs
  simp only [zloadSpec, zread, zparse_printZmx, zfinish, zip_fst_snd, hd, convertSpec, convert,
    expectedSpec, expected]
  cases p.apKind <;> simp [ApKind.key, hp, hs, blocks]

/-- the same with lines the reader does not dispatch inserted anywhere -/
theorem parse_print_noise [Num ν] [BEq ν] (known : String → Option String → Bool) (p : ZPresc ν)
    (wf : WF p) (ls : List (ZLine ν)) (h : ls.filter (fun l => !l.isOther) = printZmx p) :
    zload known ls = .ok (expected known p) := by
  rw [← parse_print known p wf, ← h]
  simp only [zload, zread, unknown_lines_ignored]

/-! ### the order of the attribute lines inside a surface block does not matter -/

/-- which attribute of `_current_surf_data` a line writes (`none`: not a per-surface attribute line) -/
def attrKind : ZLine ν → Option Nat
  | .stop => some 0
  | .stype _ => some 1
  | .curv _ => some 2
  | .disz _ => some 3
  | .coni _ => some 4
  | .glas .. => some 5
  | .glasShort _ => some 5
  | .parm .. => some 6
  | _ => none

/-- what an attribute line writes into the open block (`cats`: the catalogues named so far) -/
def attrAct (cats : List String) : ZLine ν → ZSurf ν → ZSurf ν
  | .stop, s => { s with isStop := true }
  | .stype t, s => { s with stype := t }
  | .parm n v, s => { s with parms := s.parms ++ [(n - 1, v)] }
  | .curv v, s => { s with curv := some v }
  | .disz v, s => { s with thick := some v }
  | .coni v, s => { s with conic := some v }
  | .glas nm a b, s => { s with glass := some (.full nm a b cats) }
  | .glasShort nm, s => { s with glass := some (.nameOnly nm) }
  | _, s => s

/-- an attribute line touches nothing but the open block -/
theorem zstep_attr (st : ZState ν) (a : ZLine ν) (i : Nat) (ha : attrKind a = some i) :
    zstep st a = upd st (attrAct (st.gcat.getD []) a) := by
  cases a <;> first | rfl | cases ha

/-- case analysis on an attribute line -/
theorem attr_rec {motive : (a : ZLine ν) → (i : Nat) → attrKind a = some i → Prop}
    (stop : motive .stop 0 rfl) (stype : ∀ t, motive (.stype t) 1 rfl) (curv : ∀ v, motive (.curv v) 2 rfl)
    (disz : ∀ v, motive (.disz v) 3 rfl) (coni : ∀ v, motive (.coni v) 4 rfl)
    (glas : ∀ n x y, motive (.glas n x y) 5 rfl) (glasShort : ∀ n, motive (.glasShort n) 5 rfl)
    (parm : ∀ n v, motive (.parm n v) 6 rfl) (a : ZLine ν) (i : Nat) (ha : attrKind a = some i) : motive a i ha := by
  cases a <;> cases ha <;>
    first | exact stop | apply stype | apply curv | apply disz | apply coni | apply glas | apply glasShort | apply parm

theorem attrAct_comm (cats : List String) (a b : ZLine ν) (i j : Nat) (ha : attrKind a = some i)
    (hb : attrKind b = some j) (hij : i ≠ j) (s : ZSurf ν) :
    attrAct cats b (attrAct cats a s) = attrAct cats a (attrAct cats b s) := by
  induction a, i, ha using attr_rec <;> induction b, j, hb using attr_rec <;> first | rfl | contradiction

/-- two attribute lines that write different attributes commute -/
theorem zstep_comm (st : ZState ν) (a b : ZLine ν) (i j : Nat) (ha : attrKind a = some i)
    (hb : attrKind b = some j) (hij : i ≠ j) : zstep (zstep st a) b = zstep (zstep st b) a := by
  rw [zstep_attr st a i ha, zstep_attr st b j hb, zstep_attr _ b j hb, zstep_attr _ a i ha]
  obtain ⟨cur, done, ap, gcat, ftype, tele, nf, nw, xs, ys, waves, pw, err, unm⟩ := st
  cases cur
  · rfl
  · simp only [upd, attrAct_comm _ a b i j ha hb hij]

/-- `l'` arises from `l` by exchanging, any number of times, two adjacent attribute lines that write
different attributes (e.g. `CONI` before `GLAS`, `DISZ` before the `PARM` lines, `STOP` after `TYPE`) -/
inductive Reorder : List (ZLine ν) → List (ZLine ν) → Prop
  | refl (l : List (ZLine ν)) : Reorder l l
  | swap (pre post : List (ZLine ν)) (a b : ZLine ν) (i j : Nat) (ha : attrKind a = some i)
      (hb : attrKind b = some j) (hij : i ≠ j) : Reorder (pre ++ a :: b :: post) (pre ++ b :: a :: post)
  | trans {l1 l2 l3 : List (ZLine ν)} : Reorder l1 l2 → Reorder l2 l3 → Reorder l1 l3

theorem zparse_reorder {l l' : List (ZLine ν)} (h : Reorder l l') : zparse l = zparse l' := by
  induction h with
  | refl => rfl
  | swap pre post a b i j ha hb hij =>
    simp only [zparse, List.foldl_append, List.foldl_cons]
    rw [zstep_comm _ a b i j ha hb hij]
  | trans _ _ ih1 ih2 => exact ih1.trans ih2

/-- parse ∘ print for every line order inside the surface blocks: a file whose dispatched lines are the
lines of `printZmx p` with attribute lines of different kinds exchanged inside the blocks (and with
undispatched lines anywhere) loads as the same lens.  (The relative order of the `PARM` lines among
themselves, of the header lines, and of the blocks is still that of `printZmx`.) -/
theorem parse_print_reordered [Num ν] [BEq ν] (known : String → Option String → Bool) (p : ZPresc ν)
    (wf : WF p) (ls : List (ZLine ν)) (h : Reorder (printZmx p) (ls.filter (fun l => !l.isOther))) :
    zload known ls = .ok (expected known p) := by
  rw [← parse_print known p wf]
  simp only [zload, zread, zparse_reorder h, unknown_lines_ignored]

/-! ### itemised clauses of the property (corollaries of `parse_print`)

Each clause is stated about the lens `o` that `load_zemax_file` returns for the written file
(`zload known (printZmx p) = .ok o`), not about the specification function `expected` (the
`expected_*` lemmas, which only unfold that definition, are kept as helpers). -/

/-- the loaded lens is the expected one (the form in which the corollaries use `parse_print`) -/
theorem loaded_eq [Num ν] [BEq ν] (known : String → Option String → Bool) (p : ZPresc ν) (wf : WF p)
    (o : OPresc ν) (h : zload known (printZmx p) = .ok o) : o = expected known p := by
  rw [parse_print known p wf] at h
  exact (Except.ok.inj h).symm

theorem expected_surface_count [Num ν] [BEq ν] (known : String → Option String → Bool) (p : ZPresc ν) :
    (expected known p).surfs.length = p.surfs.length + 1 := by
  simp [expected]

/-- surface count: one surface per written block except the image block, which the converter
replaces by its default image surface -/
theorem surface_count [Num ν] [BEq ν] (known : String → Option String → Bool) (p : ZPresc ν) (wf : WF p)
    (o : OPresc ν) (h : zload known (printZmx p) = .ok o) : o.surfs.length = p.surfs.length + 1 := by
  rw [loaded_eq known p wf o h]; exact expected_surface_count known p

theorem expected_surface_data [Num ν] [BEq ν] (known : String → Option String → Bool) (p : ZPresc ν) (i : Nat)
    (s : ZPSurf ν) (h : (p.obj :: p.surfs)[i]? = some s) :
    (expected known p).surfs[i]? =
      some { evenAsph := s.evenAsph, radius := radiusOf s.curv, conic := s.conic.getD 0,
             thick := thickOf s.thick, isStop := s.isStop,
             medium := match s.glass with
               | none => .air
               | some g => resolveGlass known g.1 (p.gcat.getD []) g.2.1 g.2.2,
             coeffs := if s.evenAsph then some s.coeffs else none } := by
  simp only [expected, List.getElem?_map, h, Option.map_some, expSurf]
  rfl

/-- radius (from the written curvature, `0 → inf`), thickness (`INFINITY → inf`), conic (default 0),
coefficients (all eight, `PARM n` at index `n-1`), stop flag and medium of the `i`-th surface of the
loaded lens are those written in the `i`-th block -/
theorem surface_data [Num ν] [BEq ν] (known : String → Option String → Bool) (p : ZPresc ν) (wf : WF p)
    (o : OPresc ν) (hl : zload known (printZmx p) = .ok o) (i : Nat)
    (s : ZPSurf ν) (h : (p.obj :: p.surfs)[i]? = some s) :
    o.surfs[i]? =
      some { evenAsph := s.evenAsph, radius := radiusOf s.curv, conic := s.conic.getD 0,
             thick := thickOf s.thick, isStop := s.isStop,
             medium := match s.glass with
               | none => .air
               | some g => resolveGlass known g.1 (p.gcat.getD []) g.2.1 g.2.2,
             coeffs := if s.evenAsph then some s.coeffs else none } := by
  rw [loaded_eq known p wf o hl]; exact expected_surface_data known p i s h

theorem lastStopFrom_none (i m : Nat) : lastStopFrom i (List.replicate m false) = none := by
  induction m generalizing i with
  | zero => rfl
  | succ m ih => simp [List.replicate_succ, lastStopFrom, ih]

theorem lastStopFrom_unique (i a b : Nat) :
    lastStopFrom i (List.replicate a false ++ true :: List.replicate b false) = some (i + a) := by
  induction a generalizing i with
  | zero => simp [lastStopFrom, lastStopFrom_none]
  | succ a ih =>
    simp only [List.replicate_succ, List.cons_append, lastStopFrom, ih]
    congr 1; omega

/-- stop surface: when exactly one optical surface (number `a+1`) carries `STOP`, that surface is
the stop of the loaded lens (whatever the object block says) -/
theorem stop_index_unique (o : Bool) (a b : Nat) :
    stopIndex (o :: (List.replicate a false ++ true :: List.replicate b false)) = some (a + 1) := by
  simp only [stopIndex, lastStopFrom_unique]
  congr 1; omega

/-- stop surface of the loaded lens: when exactly one optical surface of the file (number `a+1`)
carries `STOP`, `stopIndex` of the `is_stop` flags of the `add_surface` calls (what the driver compares
with `surface_group.stop_index`) is that surface, whatever the object block says -/
theorem stop_index_read [Num ν] [BEq ν] (known : String → Option String → Bool) (p : ZPresc ν) (wf : WF p)
    (o : OPresc ν) (h : zload known (printZmx p) = .ok o) (a b : Nat)
    (hs : p.surfs.map (fun s => s.isStop) = List.replicate a false ++ true :: List.replicate b false) :
    stopIndex (o.surfs.map fun s => s.isStop) = some (a + 1) := by
  rw [loaded_eq known p wf o h]
  have : (expected known p).surfs.map (fun s => s.isStop) = p.obj.isStop :: p.surfs.map (fun s => s.isStop) := by
    simp [expected, expSurf, List.map_map, Function.comp_def]
  rw [this, hs]
  exact stop_index_unique _ a b

/-- aperture type and value of the loaded lens -/
theorem aperture_read [Num ν] [BEq ν] (known : String → Option String → Bool) (p : ZPresc ν) (wf : WF p)
    (o : OPresc ν) (h : zload known (printZmx p) = .ok o) :
    o.apKey = p.apKind.key ∧ o.apValue = p.apValue := by
  rw [loaded_eq known p wf o h]; exact ⟨rfl, rfl⟩

/-- field type, wavelengths (the first `num_wavelengths` slots, in order) and primary index of the
loaded lens -/
theorem wavelengths_read [Num ν] [BEq ν] (known : String → Option String → Bool) (p : ZPresc ν) (wf : WF p)
    (o : OPresc ν) (h : zload known (printZmx p) = .ok o) :
    o.fieldType = p.fieldType ∧ o.waves = p.waves ∧ o.primary = some p.primary := by
  rw [loaded_eq known p wf o h]; exact ⟨rfl, rfl, rfl⟩

theorem mem_dedup [BEq ν] [LawfulBEq ν] (l : List (ν × ν)) (x : ν × ν) : x ∈ dedup l ↔ x ∈ l := by
  induction l with
  | nil => simp [dedup]
  | cons a l ih =>
    simp only [dedup, List.mem_cons, List.mem_filter, ih, Bool.not_eq_true', beq_eq_false_iff_ne]
    by_cases h : x = a <;> simp [h]

theorem nodup_dedup [BEq ν] [LawfulBEq ν] (l : List (ν × ν)) : (dedup l).Nodup := by
  induction l with
  | nil => simp [dedup]
  | cons a l ih =>
    simp only [dedup, List.nodup_cons, List.mem_filter, Bool.not_eq_true', beq_eq_false_iff_ne]
    exact ⟨fun h => h.2 rfl, List.Pairwise.filter _ ih⟩

/-- the field points of `expected p` are, as a set, exactly the written ones (`LawfulBEq`: `==` of the
carrier is equality, i.e. no NaN among the written values; for the loaded lens see `fields_read`) -/
theorem fields_mem [Num ν] [BEq ν] [LawfulBEq ν] (known : String → Option String → Bool) (p : ZPresc ν)
    (f : ν × ν) : f ∈ (expected known p).fields ↔ f ∈ p.fields := by
  simp only [expected, sortY, List.mem_mergeSort, mem_dedup]

/-- … without repetitions -/
theorem fields_nodup [Num ν] [BEq ν] [LawfulBEq ν] (known : String → Option String → Bool) (p : ZPresc ν) :
    (expected known p).fields.Nodup := by
  simp only [expected, sortY]
  exact (List.mergeSort_perm _ _).symm.nodup (nodup_dedup _)

/-- … in non-decreasing order of y, provided `<` of the carrier is a strict weak order on the written
values (true for floats without NaN) -/
theorem fields_sorted [Num ν] [BEq ν] (known : String → Option String → Bool) (p : ZPresc ν)
    (trans : ∀ a b c : ν, Num.lt b a = false → Num.lt c b = false → Num.lt c a = false)
    (asymm : ∀ a b : ν, Num.lt b a = false ∨ Num.lt a b = false) :
    (expected known p).fields.Pairwise (fun a b => Num.lt b.2 a.2 = false) := by
  simp only [expected, sortY]
  have := List.pairwise_mergeSort (le := fun (a b : ν × ν) => !(Num.lt b.2 a.2))
    (fun a b c h1 h2 => by
      simp only [Bool.not_eq_eq_eq_not, Bool.not_true] at h1 h2 ⊢
      exact trans _ _ _ h1 h2)
    (fun a b => by
      rcases asymm a.2 b.2 with h | h <;> simp [h])
    (dedup p.fields)
  exact this.imp (fun h => by simpa using h)

/-- a file that lists distinct field points already in non-decreasing order of y gets them back
unchanged, in order -/
theorem fields_exact [Num ν] [BEq ν] [LawfulBEq ν] (known : String → Option String → Bool) (p : ZPresc ν)
    (nd : p.fields.Nodup) (sorted : p.fields.Pairwise (fun a b => Num.lt b.2 a.2 = false)) :
    (expected known p).fields = p.fields := by
  have hd : dedup p.fields = p.fields := by
    generalize p.fields = l at nd
    induction l with
    | nil => rfl
    | cons a l ih =>
      rw [List.nodup_cons] at nd
      simp only [dedup, ih nd.2]
      congr 1
      rw [List.filter_eq_self]
      intro b hb
      simp only [Bool.not_eq_true', beq_eq_false_iff_ne]
      rintro rfl; exact nd.1 hb
  simp only [expected, sortY, hd]
  exact List.mergeSort_of_pairwise (sorted.imp (fun h => by simp [h]))

/-- the field clauses for the lens `load_zemax_file` returns: the written points as a set, without
repetition, sorted by y; and unchanged when the file lists distinct points in non-decreasing order of y -/
theorem fields_read [Num ν] [BEq ν] [LawfulBEq ν] (known : String → Option String → Bool) (p : ZPresc ν)
    (wf : WF p) (o : OPresc ν) (h : zload known (printZmx p) = .ok o) :
    (∀ f, f ∈ o.fields ↔ f ∈ p.fields) ∧ o.fields.Nodup ∧
    ((∀ a b c : ν, Num.lt b a = false → Num.lt c b = false → Num.lt c a = false) →
      (∀ a b : ν, Num.lt b a = false ∨ Num.lt a b = false) →
      o.fields.Pairwise (fun a b => Num.lt b.2 a.2 = false)) ∧
    (p.fields.Nodup → p.fields.Pairwise (fun a b => Num.lt b.2 a.2 = false) → o.fields = p.fields) := by
  rw [loaded_eq known p wf o h]
  exact ⟨fields_mem known p, fields_nodup known p, fields_sorted known p, fields_exact known p⟩

/-! ### non-vacuity: a concrete well-formed prescription over `Float` -/

/-- singlet, EVENASPH front surface with stop, model glass, three fields (one repeated, unsorted),
three wavelengths with the second primary -/
def demo : ZPresc Float :=
  { gcat := some ["SCHOTT"], apKind := .epd, apValue := 10.0, fieldType := 0, tele := false
    fields := [(0.0, 5.0), (0.0, 0.0), (0.0, 5.0)], xpad := [0.0], ypad := [0.0]
    waves := [0.4861, 0.5876, 0.6563], wpad := [0.55], primary := 1
    obj := ⟨false, false, 0.0, none, none, none, []⟩
    surfs := [⟨true, true, 0.02, some 4.0, some (-1.0), some ("ZQX1", 1.5, 60.0),
               [0.0, 1e-5, 0.0, 0.0, 0.0, 0.0, 0.0, 0.0]⟩,
              ⟨false, false, 0.0, some 95.0, none, none, []⟩]
    img := ⟨false, false, 0.0, some 0.0, none, none, []⟩ }

theorem demo_wf : WF demo := ⟨by simp [demo], by simp [demo], by simp [demo]⟩

example : WF demo := demo_wf

/-- the round trip and the stop clause instantiated at `demo` (the file has the stop on surface 1) -/
example (known : String → Option String → Bool) :
    zload known (printZmx demo) = .ok (expected known demo) ∧
    stopIndex ((expected known demo).surfs.map fun s => s.isStop) = some 1 :=
  ⟨parse_print known demo demo_wf,
   stop_index_read known demo demo_wf _ (parse_print known demo demo_wf) 0 1 rfl⟩

/-- non-vacuity: the file of `demo` with `CONI` written before `GLAS` on surface 1 -/
example : ∃ ls : List (ZLine Float), ls ≠ printZmx demo ∧ Reorder (printZmx demo) ls := by
  let pre : List (ZLine Float) := header demo ++ printSurf demo.obj ++
    [.surf, .stop, .stype .evenAsph, .curv 0.02] ++
    parmLines 0 [0.0, 1e-5, 0.0, 0.0, 0.0, 0.0, 0.0, 0.0] ++ [.disz (some 4.0)]
  let post : List (ZLine Float) := printSurf ⟨false, false, 0.0, some 95.0, none, none, []⟩ ++ printSurf demo.img
  have e : printZmx demo = pre ++ .glas "ZQX1" 1.5 60.0 :: .coni (-1.0) :: post := rfl
  refine ⟨pre ++ .coni (-1.0) :: .glas "ZQX1" 1.5 60.0 :: post, ?_, ?_⟩
  · rw [e]
    intro h
    have := List.append_cancel_left h
    simp at this
  · rw [e]
    exact .swap pre post _ _ 5 4 rfl rfl (by decide)

end C20
