import OptiModel.Model.Optim
import OptiModel.Proofs.Optim
import OptiModel.Proofs.NumReal
import Mathlib.Tactic.Ring
import Mathlib.Tactic.Positivity
/-!
# C14  Optimisers leave the lens at the returned solution, never worse than the start
Theorems about `Model/Optim.lean`.  Arithmetic clauses over ℝ; protocol clauses for an arbitrary
carrier, an arbitrary lens-state type `σ` and *every* oracle (scipy is not modelled).
-/
set_option linter.unusedSectionVars false
namespace C14
open Model Model.Optim OptimProofs

/-! ## 1. merit function -/

/-- `Operand.fun` is weight × (value − target) (restates the definition of `Operand.fn`: `rfl`) -/
theorem operand_fun_def {σ : Type} (op : Operand σ ℝ) (s : σ) :
    op.fn s = op.weight * (op.value s - op.target) := rfl

/-- `sum_squared = Σ (w_i (v_i − t_i))²` on the current lens -/
theorem merit_def {σ : Type} (ops : List (Operand σ ℝ)) (s : σ) :
    sumSquared ops s = (ops.map fun op => (op.weight * (op.value s - op.target)) ^ 2).sum := by
  unfold sumSquared meritOf
  rw [sumList_eq_sum, List.map_map]
  congr 1
  apply List.map_congr_left
  intro op _
  simp only [Function.comp]
  num_real
  ring

/-- over ℝ there is no NaN: `_fun` returns the merit function of the state it produced -/
theorem fun_is_merit {σ : Type} (pb : Problem σ ℝ) (s : σ) : funVal pb s = sumSquared pb.ops s := by
  unfold funVal guardNaN isNaN
  rw [NumReal.isNaN_false]
  rfl

/-- the merit function is a sum of squares: never negative -/
theorem merit_nonneg {σ : Type} (ops : List (Operand σ ℝ)) (s : σ) : 0 ≤ sumSquared ops s := by
  rw [merit_def]
  apply List.sum_nonneg
  intro x hx
  rcases List.mem_map.1 hx with ⟨op, _, rfl⟩
  positivity


/-! ## 2. every variable is a faithful handle -/

/-- over ℝ: `pow10 n` is `10 ^ n` -/
theorem pow10_eq (n : Nat) : (pow10 n : ℝ) = 10 ^ n := by
  rw [pow10, NumReal.ofNat_eq]
  norm_num

theorem pow10_ne_zero (n : Nat) : (pow10 n : ℝ) ≠ 0 := by
  rw [pow10_eq]; positivity

/-- every `scale` is an increasing affine map `x ↦ x * slope − offset`, and `inverse_scale` is its
inverse; the three statements below use nothing else -/
noncomputable def slope : VKind → ℝ
  | .radius => 1 / 100
  | .thickness => 1 / 10
  | .asphere i => 10 ^ (4 + 2 * i)
  | _ => 1

noncomputable def offset : VKind → ℝ
  | .radius => 1
  | .thickness => 1
  | .index => 3 / 2
  | _ => 0

theorem slope_pos (K : VKind) : 0 < slope K := by
  cases K <;> simp only [slope] <;> positivity

theorem scale_eq (K : VKind) (x : ℝ) : K.scale x = x * slope K - offset K := by
  cases K <;> simp only [VKind.scale, slope, offset, pow10_eq, Num.ofNat, NumReal.ofRat_eq, NumReal.div_eq,
    NumReal.sub_eq, NumReal.mul_eq, NumReal.one_eq] <;> push_cast <;> ring

theorem invScale_eq (K : VKind) (s : ℝ) : K.invScale s = (s + offset K) / slope K := by
  cases K <;> simp only [VKind.invScale, slope, offset, pow10_eq, Num.ofNat, NumReal.ofRat_eq, NumReal.div_eq,
    NumReal.add_eq, NumReal.mul_eq, NumReal.one_eq] <;> push_cast <;> ring

/-- `scale ∘ inverse_scale = id` for every variable type -/
theorem scale_invScale (K : VKind) (x : ℝ) : K.scale (K.invScale x) = x := by
  rw [scale_eq, invScale_eq, div_mul_cancel₀ _ (slope_pos K).ne', add_sub_cancel_right]

/-- `inverse_scale ∘ scale = id` for every variable type -/
theorem invScale_scale (K : VKind) (x : ℝ) : K.invScale (K.scale x) = x := by
  rw [scale_eq, invScale_eq, sub_add_cancel, mul_div_cancel_right₀ _ (slope_pos K).ne']

/-- the surface (and coefficient slot) the variable names exists -/
def InRange : VKind → Lens ℝ → Nat → Prop
  | .thickness, L, k => k + 1 < L.presc.surfs.length
  | .asphere i, L, k => i < ((L.presc.surfs.map (·.coeffs)).getD k []).length
  | .poly _ _, L, k => k < L.poly.length
  | .cheb _ _, L, k => k < L.poly.length
  | _, L, k => k < L.presc.surfs.length

/-- read-back in lens units, every type -/
theorem raw_roundtrip (K : VKind) (L : Lens ℝ) (k : Nat) (y : ℝ) (h : InRange K L k) :
    VKind.rawGet (VKind.rawSet L k y K) k K = y := by
  -- the kinds that write one entry of record `k` and read it
  have field : ∀ (f : SRec ℝ → SRec ℝ) (g : SRec ℝ → ℝ), k < L.presc.surfs.length → (∀ s, g (f s) = y) →
      ((modifyAt L.presc.surfs k f).map g).getD k 0 = y :=
    fun f g hk e => (getD_map_modifyAt_self _ _ f g 0 hk).trans (e _)
  cases K with
  | radius => exact field _ _ h fun s => by split <;> rfl
  | conic => exact field _ _ h fun _ => rfl
  | tilt x | decenter x => exact field _ _ h fun _ => by cases x <;> rfl
  | thickness => exact (thickness_setThickness L.presc y k k h).trans (if_pos rfl)
  | poly i j | cheb i j =>
    show matGet ((modifyAt L.poly k fun c => matSet c i j y).getD k []) i j = y
    rw [getD_modifyAt, List.getElem?_eq_getElem (show k < L.poly.length from h), Option.map_some, Option.getD_some,
      if_pos rfl, matGet_matSet _ _ _ _ _ _ (by omega) (by omega), if_pos ⟨rfl, rfl⟩]
  | index =>
    -- the fresh medium is the last entry of the table
    have hk : k < L.presc.surfs.length := h
    simp only [VKind.rawGet, VKind.rawSet, setIndex]
    rw [getD_map_modifyAt, getElem?_modifyAt, List.getElem?_eq_getElem hk]
    simp [matN, List.getD_eq_getElem?_getD]
  | asphere i =>
    obtain ⟨h1, h2⟩ := coeffs_in_range L k i h
    simp only [VKind.rawGet, VKind.rawSet, setCoeff]
    rw [getD_map_modifyAt_self _ _ _ _ _ h1, getD_modifyAt, List.getElem?_eq_getElem h2]
    simp

/-- `value` after `update(x)` is `x`: every type, scaled and unscaled -/
theorem handle_roundtrip (v : Variable ℝ) (L : Lens ℝ) (x : ℝ) (h : InRange v.kind L v.surf) :
    v.value (v.update L x) = x := by
  unfold Variable.value Variable.update
  rw [raw_roundtrip _ _ _ _ h]
  cases v.scaling
  · simp
  · simp only [if_true]; exact scale_invScale _ _

/-- the hypotheses are satisfiable: a scaled radius variable on surface 1 of a two-surface lens -/
example : InRange .radius
    ({ presc := { surfs := [⟨.object, .plane, 0, 0, 0, 0, 0, 0, 0, [], 0, 0, false, false⟩,
                            ⟨.standard, .standard, 0, 0, 0, 0, 0, 50, 0, [], 0, 1, true, false⟩],
                  lastThickness := 0, apValue := 1, maxYField := 0 } } : Lens ℝ) 1 := by
  simp [InRange]

/-! ## 3. bounds are in the units of the value -/

/-- spec: bounds are scaled exactly when the value is (restates the definition of `boundsSpec`: `rfl`;
what the spec bounds *mean* is `boundsSpec_iff_raw` in §8) -/
theorem bounds_same_units (v : Variable ℝ) :
    v.boundsSpec = if v.scaling then (v.minVal.map v.kind.scale, v.maxVal.map v.kind.scale)
                   else (v.minVal, v.maxVal) := rfl

/-- spec: the value of a lens sitting exactly on a bound, read through the handle, equals the bound
the optimiser is given -/
theorem bounds_spec_consistent (v : Variable ℝ) (L : Lens ℝ) (b : ℝ) (hmin : v.minVal = some b)
    (hraw : v.kind.rawGet L v.surf = b) : v.boundsSpec.1 = some (v.value L) := by
  unfold Variable.boundsSpec Variable.value
  cases v.scaling <;> simp [hmin, hraw]

/-- for scaled variables the tree agrees with the spec -/
theorem boundsCode_eq_spec_of_scaling (v : Variable ℝ) (h : v.scaling = true) :
    v.boundsCode = v.boundsSpec := by
  unfold Variable.boundsCode Variable.boundsSpec; simp [h]

/-- F5: the tree's bounds of an *unscaled* radius variable with limits 10 … 100 are (−0.9, 0),
not (10, 100): a lens with radius 50 is reported outside its own bounds -/
theorem boundsCode_violates_same_units :
    ∃ v : Variable ℝ, v.scaling = false ∧ v.boundsCode ≠ v.boundsSpec ∧
      v.boundsCode = (some (-(9:ℝ)/10), some 0) ∧ v.boundsSpec = (some 10, some 100) := by
  refine ⟨{ kind := .radius, surf := 1, scaling := false, minVal := some 10, maxVal := some 100 }, rfl, ?_, ?_, ?_⟩
  · simp only [Variable.boundsCode, Variable.boundsSpec, VKind.scale, Num.ofNat, Option.map]
    num_real
    norm_num
  · simp only [Variable.boundsCode, VKind.scale, Num.ofNat, Option.map]
    num_real
    norm_num
  · simp [Variable.boundsSpec]


/-! ## 4. the `_fun` / optimize / undo protocol, for every oracle

`σ` is any lens-state type, `view : σ → ω` what can be observed of it (for the concrete lens: the
prescription with media replaced by their indices), `I` an invariant of the states that occur
(surfaces exist, …).  The four lens-level facts the protocol needs are collected in `LensHyp`;
they are proved below (§6) for every single variable type on a pickup-free lens and are checked
numerically by the harness on every generated problem (pickups, solves, several variables). -/

section Protocol
variable {σ ω α : Type} [Num α]

/-- all vectors an oracle produces have `n` entries -/
def OSized (o : Oracle α) (n : Nat) : Prop :=
  (∀ x0 log x, o.next x0 log = some x → x.length = n) ∧ (∀ x0 log, (o.result x0 log).1.length = n)

structure LensHyp (pb : Problem σ α) (view : σ → ω) (I : σ → Prop) : Prop where
  /-- the invariant survives `_fun` -/
  closed : ∀ s x, I s → I (applyX pb x s)
  /-- last write wins: what `_fun(x)` leaves does not depend on an earlier `_fun(y)` -/
  overwrites : ∀ s x y, I s → x.length = pb.vars.length →
    view (applyX pb x (applyX pb y s)) = view (applyX pb x s)
  /-- the handles read back what `_fun` set (not overwritten by other variables, pickups, solves) -/
  readsBack : ∀ s x, I s → x.length = pb.vars.length → values pb (applyX pb x s) = x
  /-- variable values and operand values are functions of the view -/
  observes : ∀ s t, view s = view t →
    values pb s = values pb t ∧ ∀ op ∈ pb.ops, op.value s = op.value t

/-- the starting lens is consistent: re-applying its own variable values and updating changes
nothing observable (pickups and solves were already satisfied) -/
def Settled (pb : Problem σ α) (view : σ → ω) (s : σ) : Prop :=
  view (applyX pb (values pb s) s) = view s

/-- the log `_fun` produces when called at `pts` in turn, starting from `s` -/
def logOf (pb : Problem σ α) : σ → List (List α) → List (List α × α)
  | _, [] => []
  | s, x :: pts => (x, funVal pb (applyX pb x s)) :: logOf pb (applyX pb x s) pts

variable (pb : Problem σ α) (view : σ → ω) (I : σ → Prop)

theorem evalPts_append (s : σ) (p q : List (List α)) :
    evalPts pb s (p ++ q) = evalPts pb (evalPts pb s p) q := by
  simp [evalPts, List.foldl_append]

theorem evalPts_snoc (s : σ) (p : List (List α)) (x : List α) :
    evalPts pb s (p ++ [x]) = applyX pb x (evalPts pb s p) := by
  simp [evalPts, List.foldl_append]

theorem logOf_fst (s : σ) (pts : List (List α)) : (logOf pb s pts).map Prod.fst = pts := by
  induction pts generalizing s with
  | nil => rfl
  | cons x pts ih => simp [logOf, ih]

theorem logOf_append (s : σ) (p q : List (List α)) :
    logOf pb s (p ++ q) = logOf pb s p ++ logOf pb (evalPts pb s p) q := by
  induction p generalizing s with
  | nil => rfl
  | cons x p ih => simp [logOf, ih, evalPts]

/-- the oracle loop is: evaluate some finite list of points in turn; each of them has whatever property
`Q` every answer of the oracle has -/
theorem runOracle_pts (o : Oracle α) (x0 : List α) (Q : List α → Prop)
    (hQ : ∀ log x, o.next x0 log = some x → Q x) (n : Nat) (s : σ) (log : List (List α × α)) :
    ∃ pts, (∀ x ∈ pts, Q x) ∧ (runOracle pb o x0 n s log).1 = evalPts pb s pts ∧
           (runOracle pb o x0 n s log).2 = log ++ logOf pb s pts := by
  induction n generalizing s log with
  | zero => exact ⟨[], by simp, rfl, by simp [runOracle, logOf]⟩
  | succ n ih =>
    unfold runOracle
    cases h : o.next x0 log with
    | none => exact ⟨[], by simp, rfl, by simp [logOf]⟩
    | some x =>
      obtain ⟨pts, h0, h1, h2⟩ := ih (funEval pb s x).1 (log ++ [(x, (funEval pb s x).2)])
      refine ⟨x :: pts, ?_, ?_, ?_⟩
      · intro y hy
        rcases List.mem_cons.1 hy with rfl | hy
        · exact hQ _ _ h
        · exact h0 y hy
      · simpa [evalPts, funEval] using h1
      · simpa [logOf, funEval, List.append_assoc] using h2

theorem runOracle_spec (o : Oracle α) (x0 : List α) (n : Nat) (s : σ) (log : List (List α × α)) :
    ∃ pts, (runOracle pb o x0 n s log).1 = evalPts pb s pts ∧
           (runOracle pb o x0 n s log).2 = log ++ logOf pb s pts :=
  let ⟨pts, _, h⟩ := runOracle_pts pb o x0 (fun _ => True) (fun _ _ _ => trivial) n s log
  ⟨pts, h⟩

theorem runOracle_sized (o : Oracle α) (x0 : List α) (n m : Nat) (s : σ) (log : List (List α × α))
    (ho : OSized o m) : ∃ pts, (∀ x ∈ pts, x.length = m) ∧
      (runOracle pb o x0 n s log).1 = evalPts pb s pts ∧
      (runOracle pb o x0 n s log).2 = log ++ logOf pb s pts :=
  runOracle_pts pb o x0 (·.length = m) (fun _ _ h => ho.1 _ _ _ h) n s log

variable {pb view I}

theorem inv_evalPts (H : LensHyp pb view I) (s : σ) (hs : I s) (pts : List (List α)) :
    I (evalPts pb s pts) := by
  induction pts generalizing s with
  | nil => exact hs
  | cons x pts ih => exact ih _ (H.closed s x hs)

/-- last write wins along any evaluation sequence -/
theorem view_evalPts_snoc (H : LensHyp pb view I) (s : σ) (hs : I s) (pts : List (List α))
    (x : List α) (hx : x.length = pb.vars.length) :
    view (evalPts pb s (pts ++ [x])) = view (applyX pb x s) := by
  induction pts generalizing s with
  | nil => rfl
  | cons p pts ih =>
    have := ih (applyX pb p s) (H.closed s p hs)
    simp only [List.cons_append, evalPts, List.foldl_cons] at this ⊢
    rw [this]
    exact H.overwrites s x p hs hx

theorem funVal_congr (H : LensHyp pb view I) (s t : σ) (h : view s = view t) :
    funVal pb s = funVal pb t := by
  unfold funVal sumSquared
  have := (H.observes s t h).2
  congr 2
  apply List.map_congr_left
  intro op hop
  rw [this op hop]

/-- **fun_state_determined**: whatever was evaluated before, `_fun(x)` leaves the lens in the state
`_fun(x)` produces from the start lens (as far as can be observed) and returns the same value -/
theorem fun_state_determined (H : LensHyp pb view I) (s : σ) (hs : I s) (pts : List (List α))
    (x : List α) (hx : x.length = pb.vars.length) :
    view (funEval pb (evalPts pb s pts) x).1 = view (funEval pb s x).1 ∧
    (funEval pb (evalPts pb s pts) x).2 = (funEval pb s x).2 := by
  have h : view (applyX pb x (evalPts pb s pts)) = view (applyX pb x s) := by
    rw [← evalPts_snoc]; exact view_evalPts_snoc H s hs pts x hx
  exact ⟨h, funVal_congr H _ _ h⟩

/-- every value an optimiser ever sees is the pure function `x ↦ _fun(x)` of the start lens -/
theorem log_values_determined (H : LensHyp pb view I) (s : σ) (hs : I s) (pts : List (List α))
    (hp : ∀ x ∈ pts, x.length = pb.vars.length) :
    ∀ e ∈ logOf pb s pts, e.2 = funVal pb (applyX pb e.1 s) := by
  induction pts using List.reverseRecOn with
  | nil => intro e he; simp [logOf] at he
  | append_singleton pts x ih =>
    intro e he
    rw [logOf_append] at he
    rcases List.mem_append.1 he with he | he
    · exact ih (fun y hy => hp y (List.mem_append_left _ hy)) e he
    · simp only [logOf, List.mem_singleton] at he
      subst he
      exact (fun_state_determined H s hs pts x (hp x (by simp))).2

/-- **optimize_leaves_solution** (spec variant), for every oracle: after `optimize` returned
`(x*, f*)` the variable values are `x*`; the lens is, observably, the one `_fun(x*)` produces from the
start lens and is the output of `update_optics` (pickups and solves applied); `_fun`'s value on it is
the value `_fun(x*)` had whenever it was evaluated during the run — so if the returned pair is one of
the logged evaluations, re-evaluating the merit function reproduces `f*` -/
theorem optimize_leaves_solution (H : LensHyp pb view I) (o : Oracle α) (st : OptState σ α)
    (hs : I st.lens) (ho : OSized o pb.vars.length) :
    let r := optimizeSpec pb o st
    let log := (runOracle pb o (values pb st.lens) o.fuel st.lens []).2
    values pb r.1.lens = r.2.1 ∧
    view r.1.lens = view (applyX pb r.2.1 st.lens) ∧
    (∃ t, r.1.lens = pb.upd t) ∧
    (r.2 ∈ log → funVal pb r.1.lens = r.2.2) := by
  intro r log
  obtain ⟨pts, hp, h1, h2⟩ := runOracle_sized pb o (values pb st.lens) o.fuel _ st.lens [] ho
  have hx : r.2.1.length = pb.vars.length := ho.2 _ _
  have hlens : r.1.lens = applyX pb r.2.1 (evalPts pb st.lens pts) := by
    show applyX pb _ (runOracle pb o _ o.fuel st.lens []).1 = _
    rw [h1]; rfl
  have hview : view r.1.lens = view (applyX pb r.2.1 st.lens) := by
    rw [hlens, ← evalPts_snoc]; exact view_evalPts_snoc H _ hs pts _ hx
  refine ⟨?_, hview, ⟨_, hlens⟩, ?_⟩
  · rw [hlens]; exact H.readsBack _ _ (inv_evalPts H _ hs pts) hx
  · intro hmem
    have hl : log = logOf pb st.lens pts := by simpa using h2
    rw [hl] at hmem
    have := log_values_determined H st.lens hs pts hp r.2 hmem
    rw [this]
    exact funVal_congr H _ _ hview

/-- the tree (code variant) leaves the lens at the **last evaluated point** (F6) -/
theorem optimizeCode_leaves_last_point (H : LensHyp pb view I) (o : Oracle α) (st : OptState σ α)
    (hs : I st.lens) (ho : OSized o pb.vars.length) (y : List α) (v : α)
    (hlast : (runOracle pb o (values pb st.lens) o.fuel st.lens []).2.getLast? = some (y, v)) :
    values pb (optimizeCode pb o st).1.lens = y := by
  obtain ⟨pts, hp, h1, h2⟩ := runOracle_sized pb o (values pb st.lens) o.fuel _ st.lens [] ho
  have hl : (runOracle pb o (values pb st.lens) o.fuel st.lens []).2 = logOf pb st.lens pts := by
    simpa using h2
  rw [hl] at hlast
  have hpl : pts.getLast? = some y := by
    have := congrArg (Option.map Prod.fst) hlast
    rw [← List.getLast?_map, logOf_fst] at this
    simpa using this
  obtain ⟨q, rfl⟩ : ∃ q, pts = q ++ [y] := by
    rcases List.eq_nil_or_concat pts with h | ⟨q, z, rfl⟩
    · subst h; simp at hpl
    · simp at hpl; subst hpl; exact ⟨q, by simp⟩
  show values pb (runOracle pb o _ o.fuel st.lens []).1 = y
  rw [h1, evalPts_snoc]
  exact H.readsBack _ _ (inv_evalPts H _ hs q) (hp y (by simp))

/-- negation of `optimize_leaves_solution` for the tree: **any** oracle whose last evaluated point
differs from the vector it returns leaves the variables ≠ `result.x` -/
theorem optimizeCode_not_solution (H : LensHyp pb view I) (o : Oracle α) (st : OptState σ α)
    (hs : I st.lens) (ho : OSized o pb.vars.length) (y : List α) (v : α)
    (hlast : (runOracle pb o (values pb st.lens) o.fuel st.lens []).2.getLast? = some (y, v))
    (hne : y ≠ (optimizeCode pb o st).2.1) :
    values pb (optimizeCode pb o st).1.lens ≠ (optimizeCode pb o st).2.1 := by
  rw [optimizeCode_leaves_last_point H o st hs ho y v hlast]; exact hne


/-! ## 5. history stack: optimise / undo in any order -/

/-- the oracle loop run against a *pure* objective `F` -/
def runPure (F : List α → α) (o : Oracle α) (x0 : List α) : Nat → List (List α × α) → List (List α × α)
  | 0, log => log
  | n + 1, log =>
    match o.next x0 log with
    | none => log
    | some x => runPure F o x0 n (log ++ [(x, F x)])

/-- reference machine: the current variable vector and a stack of earlier ones, nothing else -/
structure Ref (α : Type) where
  cur : List α
  stack : List (List α)

def refStep (F : List α → α) (r : Ref α) : OStep α → Ref α
  | .opt o => ⟨(o.result r.cur (runPure F o r.cur o.fuel [])).1, r.cur :: r.stack⟩
  | .undo => match r.stack with
    | [] => r
    | x :: t => ⟨x, t⟩

/-- an optimise immediately followed by undo is invisible to the reference machine: pure stack -/
theorem ref_opt_undo (F : List α → α) (r : Ref α) (o : Oracle α) :
    refStep F (refStep F r (.opt o)) .undo = r := rfl

/-- the objective as a pure function of the vector, on the start lens `s0` -/
def pureFun (pb : Problem σ α) (s0 : σ) (x : List α) : α := funVal pb (applyX pb x s0)

/-- the stateful loop on a lens reached from `s0` sees exactly the pure objective -/
theorem runOracle_pure (H : LensHyp pb view I) (s0 : σ) (hs : I s0) (o : Oracle α)
    (ho : OSized o pb.vars.length) (x0 : List α) (n : Nat) (pa : List (List α))
    (log : List (List α × α)) :
    ∃ pts, (runOracle pb o x0 n (evalPts pb s0 pa) log).1 = evalPts pb s0 (pa ++ pts) ∧
      (runOracle pb o x0 n (evalPts pb s0 pa) log).2 = runPure (pureFun pb s0) o x0 n log := by
  induction n generalizing pa log with
  | zero => exact ⟨[], by simp [runOracle], rfl⟩
  | succ n ih =>
    unfold runOracle runPure
    cases h : o.next x0 log with
    | none => exact ⟨[], by simp, rfl⟩
    | some x =>
      have hx : x.length = pb.vars.length := ho.1 _ _ _ h
      have hv : (funEval pb (evalPts pb s0 pa) x).2 = pureFun pb s0 x :=
        (fun_state_determined H s0 hs pa x hx).2
      have he : (funEval pb (evalPts pb s0 pa) x).1 = evalPts pb s0 (pa ++ [x]) := by
        rw [evalPts_snoc]; rfl
      obtain ⟨pts, h1, h2⟩ := ih (pa ++ [x]) (log ++ [(x, pureFun pb s0 x)])
      simp only [he, hv]
      exact ⟨x :: pts, by rw [h1]; simp, h2⟩

/-- simulation invariant between an optimiser object and the reference machine -/
def Sim (pb : Problem σ α) (view : σ → ω) (s0 : σ) (st : OptState σ α) (r : Ref α) : Prop :=
  (∃ pa, st.lens = evalPts pb s0 pa) ∧ view st.lens = view (applyX pb r.cur s0) ∧
  st.hist = r.stack ∧ r.cur.length = pb.vars.length ∧ ∀ x ∈ r.stack, x.length = pb.vars.length

def StepSized (n : Nat) : OStep α → Prop
  | .opt o => OSized o n
  | .undo => True

theorem sim_step (H : LensHyp pb view I) (s0 : σ) (hs : I s0) (st : OptState σ α) (r : Ref α)
    (h : Sim pb view s0 st r) (stp : OStep α) (hz : StepSized pb.vars.length stp) :
    Sim pb view s0 (stepSpec pb st stp) (refStep (pureFun pb s0) r stp) := by
  obtain ⟨⟨pa, hpa⟩, hv, hh, hc, hstack⟩ := h
  have hx0 : values pb st.lens = r.cur := by
    rw [(H.observes _ _ hv).1]; exact H.readsBack s0 r.cur hs hc
  cases stp with
  | opt o =>
    have ho : OSized o pb.vars.length := hz
    obtain ⟨pts, h1, h2⟩ := runOracle_pure H s0 hs o ho r.cur o.fuel pa []
    rw [← hpa] at h1 h2
    have hxs := ho.2 r.cur (runPure (pureFun pb s0) o r.cur o.fuel [])
    simp only [stepSpec, refStep, optimizeSpec, hx0, h1, h2]
    refine ⟨⟨pa ++ pts ++ [_], (evalPts_snoc pb s0 _ _).symm⟩, ?_, ?_, hxs, ?_⟩
    · show view (applyX pb _ (evalPts pb s0 (pa ++ pts))) = _
      rw [← evalPts_snoc]; exact view_evalPts_snoc H s0 hs _ _ hxs
    · show r.cur :: st.hist = r.cur :: r.stack
      rw [hh]
    · intro x hx
      rcases List.mem_cons.1 hx with rfl | hx
      · exact hc
      · exact hstack x hx
  | undo =>
    cases hst : r.stack with
    | nil =>
      have : st.hist = [] := by rw [hh, hst]
      simp only [stepSpec, undoSpec, this, refStep, hst]
      exact ⟨⟨pa, hpa⟩, hv, by rw [this, hst], hc, hstack⟩
    | cons x t =>
      have hhist : st.hist = x :: t := by rw [hh, hst]
      have hx : x.length = pb.vars.length := hstack x (by rw [hst]; simp)
      simp only [stepSpec, undoSpec, hhist, refStep, hst]
      refine ⟨⟨pa ++ [x], ?_⟩, ?_, rfl, hx, ?_⟩
      · rw [evalPts_snoc, hpa]
      · show view (applyX pb x st.lens) = view (applyX pb x s0)
        rw [hpa, ← evalPts_snoc]; exact view_evalPts_snoc H s0 hs pa x hx
      · intro y hy; exact hstack y (by rw [hst]; exact List.mem_cons_of_mem _ hy)

/-- **optimise_undo_sequences**: for every sequence of optimise (any oracle) / undo on one optimiser
object, started on a consistent lens, the object behaves as the pure stack machine: its history is
the reference stack and the lens is, observably, `_fun(cur)` applied to the start lens -/
theorem optimise_undo_sequences (H : LensHyp pb view I) (s0 : σ) (hs : I s0)
    (hset : Settled pb view s0) (steps : List (OStep α))
    (hz : ∀ stp ∈ steps, StepSized pb.vars.length stp) :
    Sim pb view s0 (steps.foldl (stepSpec pb) { lens := s0, hist := [] })
      (steps.foldl (refStep (pureFun pb s0)) ⟨values pb s0, []⟩) := by
  have h0 : Sim pb view s0 ({ lens := s0, hist := [] } : OptState σ α) ⟨values pb s0, []⟩ :=
    ⟨⟨[], rfl⟩, hset.symm, rfl, by simp [values], by simp⟩
  revert h0
  generalize ({ lens := s0, hist := [] } : OptState σ α) = st
  generalize (⟨values pb s0, []⟩ : Ref α) = r
  induction steps generalizing st r with
  | nil => intro h; exact h
  | cons stp steps ih =>
    intro h
    exact ih (fun x hx => hz x (List.mem_cons_of_mem _ hx)) _ _
      (sim_step H s0 hs st r h stp (hz stp (by simp)))

/-- **undo_restores**: optimise (any oracle) then undo gives back, observably, the lens before the run
and an empty history -/
theorem undo_restores (H : LensHyp pb view I) (s0 : σ) (hs : I s0) (hset : Settled pb view s0)
    (o : Oracle α) (ho : OSized o pb.vars.length) :
    view (undoSpec pb (optimizeSpec pb o { lens := s0, hist := [] }).1).lens = view s0 ∧
    (undoSpec pb (optimizeSpec pb o { lens := s0, hist := [] }).1).hist = [] := by
  have h := optimise_undo_sequences H s0 hs hset [OStep.opt o, OStep.undo]
    (by intro stp hstp; simp at hstp; rcases hstp with rfl | rfl; exact ho; trivial)
  obtain ⟨_, hv, hh, _, _⟩ := h
  exact ⟨hv.trans hset, hh⟩

/-- more generally: after any history, optimise followed by undo changes nothing observable -/
theorem opt_undo_cancels (H : LensHyp pb view I) (s0 : σ) (hs : I s0) (hset : Settled pb view s0)
    (steps : List (OStep α)) (hz : ∀ stp ∈ steps, StepSized pb.vars.length stp)
    (o : Oracle α) (ho : OSized o pb.vars.length) :
    view ((steps ++ [OStep.opt o, OStep.undo]).foldl (stepSpec pb) { lens := s0, hist := [] }).lens
      = view (steps.foldl (stepSpec pb) { lens := s0, hist := [] }).lens ∧
    ((steps ++ [OStep.opt o, OStep.undo]).foldl (stepSpec pb) { lens := s0, hist := [] }).hist
      = (steps.foldl (stepSpec pb) { lens := s0, hist := [] }).hist := by
  have ha := optimise_undo_sequences H s0 hs hset steps hz
  have hb := optimise_undo_sequences H s0 hs hset (steps ++ [OStep.opt o, OStep.undo]) (by
    intro stp hstp
    rcases List.mem_append.1 hstp with h | h
    · exact hz stp h
    · simp at h; rcases h with rfl | rfl; exact ho; trivial)
  rw [List.foldl_append (f := refStep (pureFun pb s0))] at hb
  simp only [List.foldl_cons, List.foldl_nil, ref_opt_undo] at hb
  exact ⟨hb.2.1.trans ha.2.1.symm, hb.2.2.1.trans ha.2.2.1.symm⟩

/-- without pickups and solves (`update_optics` does nothing) the tree's `undo` is the required one -/
theorem undoCode_eq_undoSpec (pb : Problem σ α) (hupd : ∀ s, pb.upd s = s) (st : OptState σ α) :
    undoCode pb st = undoSpec pb st := by
  unfold undoCode undoSpec applyX
  cases st.hist <;> simp [hupd]

/-! ### assumptions about scipy (not provable here: *partial*; checked numerically by the harness) -/

/-- **not_worse_partial**: *if* the optimiser evaluates the start vector and returns a pair no worse than
every logged evaluation, the returned objective is not worse than the start's.  (Pure logic: `log`,
`vals`, `f0`, `fstar` are free and not related to the model; the statement about `optimizeSpec` is
`not_worse_of_minimising_oracle` in §8.) -/
theorem not_worse_partial (log : List (List α × α)) (x0 : List α) (f0 fstar : ℝ) (vals : List α × α → ℝ)
    (hx0 : ∃ e ∈ log, e.1 = x0 ∧ vals e = f0) (hbest : ∀ e ∈ log, fstar ≤ vals e) : fstar ≤ f0 := by
  obtain ⟨e, he, _, hv⟩ := hx0
  exact hv ▸ hbest e he

/-- **within_bounds_partial**: *if* the returned vector respects the bounds handed to scipy, then with the
spec bounds (same units as the value) every bounded variable reads back within its limits.  (`P` is an
arbitrary predicate: this is `readsBack` rewritten; the statement about `optimizeSpec`, `boundsSpec`
and the user's `min_val … max_val` is `within_bounds_of_bounded_oracle` in §8.) -/
theorem within_bounds_partial (pb : Problem σ α) (H : LensHyp pb view I) (s : σ) (hs : I s)
    (xs : List α) (hx : xs.length = pb.vars.length) (P : List α → Prop) (hP : P xs) :
    P (values pb (applyX pb xs s)) := by
  rw [H.readsBack s xs hs hx]; exact hP

end Protocol


/-! ## 6. the lens-level hypotheses are satisfiable: every single variable on a pickup-free lens

(Several variables at once – any number of radius / conic / thickness / tilt / decentre /
asphere-coefficient variables with distinct targets – are treated in `Proofs/OptimMulti.lean`,
`C14Multi.multi_variable_hyp`, which imports this file.  Lenses *with* pickups or solves are not
covered by any theorem: there `LensHyp` is only checked numerically by the harness.) -/

/-- no pickups, no solves: `Optic.update` has nothing to do -/
def NoPick (L : Lens ℝ) : Prop := L.presc.pickups = [] ∧ L.presc.solves = []

theorem lensUpdate_noPick (L : Lens ℝ) (h : NoPick L) : lensUpdate L = L := by
  unfold lensUpdate update
  simp only [h.1, h.2, List.foldl_nil]

theorem inRange_rawSet (K : VKind) (L : Lens ℝ) (k : Nat) (y : ℝ) (h : InRange K L k) :
    InRange K (VKind.rawSet L k y K) k := by
  cases K with
  | asphere i =>
    obtain ⟨hk, _⟩ := coeffs_in_range L k i h
    show i < _
    rw [rawSet_coeffs_length L k y i hk]; exact h
  | poly i j | cheb i j => show k < _; rw [rawSet_poly_length]; exact h
  | thickness => show k + 1 < _; rw [rawSet_surfs_length]; exact h
  | radius | conic | tilt b | decenter b | index => show k < _; rw [rawSet_surfs_length]; exact h

/-- setting twice is setting once (every type but the index, which allocates a fresh medium) -/
theorem rawSet_twice (K : VKind) (hK : K ≠ .index) (L : Lens ℝ) (k : Nat) (y x : ℝ) (h : InRange K L k) :
    VKind.rawSet (VKind.rawSet L k y K) k x K = VKind.rawSet L k x K := by
  have surfs : ∀ f g : SRec ℝ → SRec ℝ, (∀ s, f (g s) = f s) →
      ({ L with presc := { L.presc with surfs := modifyAt (modifyAt L.presc.surfs k g) k f } } : Lens ℝ)
        = { L with presc := { L.presc with surfs := modifyAt L.presc.surfs k f } } :=
    fun f g e => by rw [modifyAt_twice _ _ _ _ _ e]
  have table : ∀ i j,
      ({ L with poly := modifyAt (modifyAt L.poly k (matSet · i j y)) k (matSet · i j x) } : Lens ℝ)
        = { L with poly := modifyAt L.poly k (matSet · i j x) } :=
    fun i j => by
      rw [modifyAt_twice L.poly k (matSet · i j x) (matSet · i j y) (matSet · i j x) fun c => matSet_twice c i j y x]
  cases K with
  | index => exact absurd rfl hK
  | thickness => simp only [VKind.rawSet, setThickness_twice _ _ _ _ h]
  | poly i j | cheb i j => exact table i j
  | radius => exact surfs _ _ fun s => by obtain ⟨_, gk, _, _, _, _, _, _, _, _, _, _, _, _⟩ := s; cases gk <;> rfl
  | conic => exact surfs _ _ fun _ => rfl
  | tilt b | decenter b => exact surfs _ _ fun _ => by cases b <;> rfl
  | asphere i =>
    refine surfs _ _ fun s => ?_
    show ({ s with coeffs := modifyAt (modifyAt s.coeffs i _) i _ } : SRec ℝ) = _
    rw [modifyAt_twice _ _ _ _ _ fun _ => rfl]

/-- the invariant used for one variable `v` -/
def VarInv (v : Variable ℝ) (L : Lens ℝ) : Prop := NoPick L ∧ InRange v.kind L v.surf

theorem varInv_update (v : Variable ℝ) (L : Lens ℝ) (x : ℝ) (h : VarInv v L) : VarInv v (v.update L x) := by
  obtain ⟨⟨hp, hs⟩, hr⟩ := h
  refine ⟨⟨?_, ?_⟩, inRange_rawSet _ _ _ _ hr⟩
  · unfold Variable.update; rw [rawSet_pickups]; exact hp
  · unfold Variable.update; rw [rawSet_solves]; exact hs

theorem applyX_single (v : Variable ℝ) (ops : List (Operand (Lens ℝ) ℝ)) (x : ℝ) (xs : List ℝ) (L : Lens ℝ) :
    applyX (lensProblem [v] ops) (x :: xs) L = lensUpdate (v.update L x) := by
  simp [applyX, setAll, lensProblem, Variable.toHandle]

theorem applyX_nil (v : Variable ℝ) (ops : List (Operand (Lens ℝ) ℝ)) (L : Lens ℝ) :
    applyX (lensProblem [v] ops) [] L = lensUpdate L := by
  simp [applyX, setAll, lensProblem]

/-- the protocol hypotheses for a problem with the single variable `v`, from what `v.update` does to an
invariant `I` (under which `update_optics` has nothing to do) and to the view -/
theorem one_variable_hyp {ω : Type} (v : Variable ℝ) (ops : List (Operand (Lens ℝ) ℝ)) (view : Lens ℝ → ω)
    (I : Lens ℝ → Prop) (hI : ∀ L, I L → VarInv v L) (hupd : ∀ L x, I L → I (v.update L x))
    (htwice : ∀ L y x, I L → view (v.update (v.update L y) x) = view (v.update L x))
    (hobs : ∀ s t, view s = view t → v.value s = v.value t ∧ ∀ op ∈ ops, op.value s = op.value t) :
    LensHyp (lensProblem [v] ops) view I := by
  have nil : ∀ L, I L → applyX (lensProblem [v] ops) [] L = L := fun L h => by
    rw [applyX_nil, lensUpdate_noPick _ (hI L h).1]
  have cons : ∀ L x1 xs, I L → applyX (lensProblem [v] ops) (x1 :: xs) L = v.update L x1 := fun L x1 xs h => by
    rw [applyX_single, lensUpdate_noPick _ (hI _ (hupd L x1 h)).1]
  have one : ∀ x : List ℝ, x.length = (lensProblem [v] ops).vars.length → ∃ x1, x = [x1] := fun x hx =>
    List.length_eq_one_iff.1 hx
  refine ⟨?_, ?_, ?_, fun s t h => ⟨congrArg (fun a => [a]) (hobs s t h).1, (hobs s t h).2⟩⟩
  · intro s x hs
    cases x with
    | nil => rw [nil s hs]; exact hs
    | cons x1 xs => rw [cons s x1 xs hs]; exact hupd s x1 hs
  · intro s x y hs hx
    obtain ⟨x1, rfl⟩ := one x hx
    cases y with
    | nil => rw [nil s hs]
    | cons y1 ys =>
      rw [cons s y1 ys hs, cons _ x1 [] (hupd s y1 hs), cons s x1 [] hs]
      exact htwice s y1 x1 hs
  · intro s x hs hx
    obtain ⟨x1, rfl⟩ := one x hx
    rw [cons s x1 [] hs]
    exact congrArg (fun a => [a]) (handle_roundtrip v s x1 (hI s hs).2)

/-- the protocol hypotheses hold for a problem with one variable of any type except `index`
(scaled or not), any operands, on a lens without pickups and solves, the view being the whole state -/
theorem single_variable_hyp (v : Variable ℝ) (hK : v.kind ≠ .index) (ops : List (Operand (Lens ℝ) ℝ)) :
    LensHyp (lensProblem [v] ops) id (VarInv v) :=
  one_variable_hyp v ops id (VarInv v) (fun _ h => h) (varInv_update v)
    (fun L _ _ h => rawSet_twice _ hK L _ _ _ h.2)
    (fun s t h => by cases (h : s = t); exact ⟨rfl, fun _ _ => rfl⟩)

/-- on such a lens the start state is consistent, provided writing the variable's own value back changes
nothing (`hfix`; true of `C14.demoLens` by `demo_fix`).  For the variable types of
`Proofs/OptimMulti.lean` no such hypothesis is needed: `C14Multi.multi_variable_settled` gets it from
`inverse_scale ∘ scale = id` and the read/write laws. -/
theorem single_variable_settled (v : Variable ℝ) (ops : List (Operand (Lens ℝ) ℝ)) (L : Lens ℝ)
    (h : VarInv v L) (hfix : v.update L (v.value L) = L) :
    Settled (lensProblem [v] ops) id L := by
  unfold Settled
  have hv : values (lensProblem [v] ops) L = [v.value L] := by
    simp [values, lensProblem, Variable.toHandle]
  rw [hv, applyX_single, hfix, lensUpdate_noPick _ h.1]

/-- hence, e.g.: for every oracle, `optimizeSpec` on a one-variable problem leaves the variable at `x*`
and `_fun`'s value on the lens is the value logged at `x*` (instance of `optimize_leaves_solution`) -/
theorem single_variable_leaves_solution (v : Variable ℝ) (hK : v.kind ≠ .index)
    (ops : List (Operand (Lens ℝ) ℝ)) (o : Oracle ℝ) (L : Lens ℝ) (hL : VarInv v L) (ho : OSized o 1) :
    values (lensProblem [v] ops) (optimizeSpec (lensProblem [v] ops) o { lens := L }).1.lens
      = (optimizeSpec (lensProblem [v] ops) o { lens := L }).2.1 :=
  (optimize_leaves_solution (single_variable_hyp v hK ops) o { lens := L } hL
    (by simpa [lensProblem] using ho)).1


/-- the invariant is satisfiable: a scaled radius variable on surface 1 of a two-surface lens without
pickups and solves (so `single_variable_hyp`, `optimize_leaves_solution`, `undo_restores`,
`optimise_undo_sequences` apply to it for every oracle) -/
example : VarInv ({ kind := .radius, surf := 1 } : Variable ℝ)
    ({ presc := { surfs := [⟨.object, .plane, 0, 0, 0, 0, 0, 0, 0, [], 0, 0, false, false⟩,
                            ⟨.standard, .standard, 0, 0, 0, 0, 0, 50, 0, [], 0, 1, true, false⟩],
                  lastThickness := 0, apValue := 1, maxYField := 0 } } : Lens ℝ) := by
  refine ⟨⟨rfl, rfl⟩, ?_⟩
  simp [InRange]

/-! ### the index variable: last write wins for the observable lens -/

/-- what can be observed of a surface: everything except the identity of its media, which are
replaced by their indices -/
noncomputable def obsSurf (P : Presc ℝ) (s : SRec ℝ) :=
  (s.kind, s.gk, s.z, s.dx, s.dy, s.rx, s.ry, s.radius, s.conic, s.coeffs, matN P s.mPre, matN P s.mPost,
   s.stop, s.refl)

/-- the observable lens -/
noncomputable def lensView (L : Lens ℝ) :=
  (L.presc.surfs.map (obsSurf L.presc), L.poly, L.presc.apType, L.presc.apValue, L.presc.fieldType,
   L.presc.maxYField, L.presc.objInf, L.presc.pickups.length, L.presc.solves.length)

/-- every medium identifier names an entry of the table -/
def MatWF (P : Presc ℝ) : Prop := ∀ s ∈ P.surfs, s.mPre < P.mats.length ∧ s.mPost < P.mats.length

theorem matN_append_lt (P : Presc ℝ) (extra : List ℝ) (i : Nat) (h : i < P.mats.length) :
    ({ P with mats := P.mats ++ extra } : Presc ℝ).mats.getD i 0 = P.mats.getD i 0 := by
  simp [List.getD_eq_getElem?_getD, List.getElem?_append_left h]

theorem matWF_setIndex (P : Presc ℝ) (k : Nat) (x : ℝ) (h : MatWF P) : MatWF (setIndex P x k) := by
  intro t ht
  obtain ⟨s, hs, h1, h2⟩ := mem_setIndex P x k t ht
  have := h s hs
  show _ < (P.mats ++ [x]).length ∧ _ < (P.mats ++ [x]).length
  rw [List.length_append, List.length_singleton]
  omega

/-- a surface record with its media identifiers blanked: what `set_index` never touches -/
def blank (s : SRec ℝ) : SRec ℝ := { s with mPre := 0, mPost := 0 }

/-- the table of observed surfaces is made of three columns: the blanked records, the index in front of
each surface, the index behind it -/
theorem obs_columns {P Q : Presc ℝ} (h0 : P.surfs.map blank = Q.surfs.map blank)
    (h1 : P.surfs.map (fun s => matN P s.mPre) = Q.surfs.map fun s => matN Q s.mPre)
    (h2 : P.surfs.map (fun s => matN P s.mPost) = Q.surfs.map fun s => matN Q s.mPost) :
    P.surfs.map (obsSurf P) = Q.surfs.map (obsSurf Q) := by
  have key : ∀ R : Presc ℝ, R.surfs.map (obsSurf R) =
      ((R.surfs.map blank).zip ((R.surfs.map fun s => matN R s.mPre).zip (R.surfs.map fun s => matN R s.mPost))).map
        fun t => (t.1.kind, t.1.gk, t.1.z, t.1.dx, t.1.dy, t.1.rx, t.1.ry, t.1.radius, t.1.conic, t.1.coeffs,
          t.2.1, t.2.2, t.1.stop, t.1.refl) := fun R => by
    rw [List.zip_map', List.zip_map', List.map_map]; rfl
  rw [key P, key Q, h0, h1, h2]

/-- `set_index` on surface `k` keeps the first column and rewrites one entry of each of the others (the
media already in the table keep their place in the longer one) -/
theorem columns_setIndex (P : Presc ℝ) (x : ℝ) (k : Nat) (h : MatWF P) :
    (setIndex P x k).surfs.map blank = P.surfs.map blank ∧
    (setIndex P x k).surfs.map (fun s => matN (setIndex P x k) s.mPre)
      = modifyAt (P.surfs.map fun s => matN P s.mPre) (k+1) (fun _ => x) ∧
    (setIndex P x k).surfs.map (fun s => matN (setIndex P x k) s.mPost)
      = modifyAt (P.surfs.map fun s => matN P s.mPost) k (fun _ => x) := by
  have hnew : matN (setIndex P x k) P.mats.length = x := by simp [matN, setIndex, List.getD_eq_getElem?_getD]
  have hold : ∀ m, m < P.mats.length → matN (setIndex P x k) m = matN P m := matN_append_lt P [x]
  let post : SRec ℝ → SRec ℝ := fun s => { s with mPost := P.mats.length }
  let pre : SRec ℝ → SRec ℝ := fun s => { s with mPre := P.mats.length }
  show (modifyAt (modifyAt P.surfs k post) (k+1) pre).map blank = _ ∧
    (modifyAt (modifyAt P.surfs k post) (k+1) pre).map _ = _ ∧ (modifyAt (modifyAt P.surfs k post) (k+1) pre).map _ = _
  rw [map_modifyAt _ _ pre blank fun _ _ => rfl, map_modifyAt _ _ post blank fun _ _ => rfl,
    map_modifyAt_const _ _ pre _ x fun _ => hnew, map_modifyAt _ _ post _ fun _ _ => rfl,
    map_modifyAt _ _ pre _ fun _ _ => rfl, map_modifyAt_const _ _ post _ x fun _ => hnew]
  exact ⟨rfl, congrArg (modifyAt · _ _) (List.map_congr_left fun s hs => hold _ (h s hs).1),
    congrArg (modifyAt · _ _) (List.map_congr_left fun s hs => hold _ (h s hs).2)⟩

theorem obs_setIndex_twice (P : Presc ℝ) (k : Nat) (y x : ℝ) (hwf : MatWF P) :
    (setIndex (setIndex P y k) x k).surfs.map (obsSurf (setIndex (setIndex P y k) x k))
      = (setIndex P x k).surfs.map (obsSurf (setIndex P x k)) := by
  obtain ⟨a0, a1, a2⟩ := columns_setIndex P x k hwf
  obtain ⟨b0, b1, b2⟩ := columns_setIndex P y k hwf
  obtain ⟨c0, c1, c2⟩ := columns_setIndex (setIndex P y k) x k (matWF_setIndex P k y hwf)
  apply obs_columns
  · rw [c0, b0, a0]
  · rw [c1, b1, a1, modifyAt_twice _ _ (fun _ => x) (fun _ => y) (fun _ => x) fun _ => rfl]
  · rw [c2, b2, a2, modifyAt_twice _ _ (fun _ => x) (fun _ => y) (fun _ => x) fun _ => rfl]

/-- the invariant used for an index variable -/
def IdxInv (v : Variable ℝ) (L : Lens ℝ) : Prop := VarInv v L ∧ MatWF L.presc

theorem lensView_update_twice (v : Variable ℝ) (hK : v.kind = .index) (L : Lens ℝ) (y x : ℝ)
    (hwf : MatWF L.presc) : lensView (v.update (v.update L y) x) = lensView (v.update L x) := by
  unfold Variable.update
  rw [hK]
  simp only [VKind.rawSet, lensView]
  rw [obs_setIndex_twice _ _ _ _ hwf]
  rfl

theorem value_of_view (v : Variable ℝ) (hK : v.kind = .index) (L L' : Lens ℝ)
    (h : lensView L = lensView L') : v.value L = v.value L' := by
  have h1 : L.presc.surfs.map (obsSurf L.presc) = L'.presc.surfs.map (obsSurf L'.presc) :=
    congrArg Prod.fst h
  have h2 := congrArg (List.map fun t => t.2.2.2.2.2.2.2.2.2.2.2.1) h1
  simp only [List.map_map] at h2
  unfold Variable.value
  rw [hK]
  simp only [VKind.rawGet]
  have e : ∀ M : Lens ℝ, (M.presc.surfs.map fun s => matN M.presc s.mPost)
      = M.presc.surfs.map ((fun t => t.2.2.2.2.2.2.2.2.2.2.2.1) ∘ obsSurf M.presc) := fun _ => rfl
  rw [e L, e L', h2]

/-- the protocol hypotheses hold for an index variable (scaled or not): `set_index` allocates a new
medium at every call, so last-write-wins holds for the *observable* lens (media as indices), provided
the operands read the lens only through that view -/
theorem index_variable_hyp (v : Variable ℝ) (hK : v.kind = .index) (ops : List (Operand (Lens ℝ) ℝ))
    (hops : ∀ op ∈ ops, ∀ L L', lensView L = lensView L' → op.value L = op.value L') :
    LensHyp (lensProblem [v] ops) lensView (IdxInv v) :=
  one_variable_hyp v ops lensView (IdxInv v) (fun _ h => h.1)
    (fun L x h => ⟨varInv_update v L x h.1, by unfold Variable.update; rw [hK]; exact matWF_setIndex _ _ _ h.2⟩)
    (fun L y x h => lensView_update_twice v hK L y x h.2)
    (fun s t h => ⟨value_of_view v hK s t h, fun op hop => hops op hop s t h⟩)

/-! ## 7. the tree's variants violate the property (F6): witnesses -/

/-- toy lens: one number, read and written by one variable; merit = (value − 0)² -/
def toy : Problem ℝ ℝ := { vars := [⟨id, fun _ x => x⟩], upd := id, ops := [⟨id, 0, 1⟩] }

/-- an optimiser that evaluates `[1]`, then `[2]` (say, a finite-difference probe), and returns `[1]`:
the tree leaves the variable at 2, the required behaviour at 1 -/
theorem optimizeCode_violates :
    values toy (optimizeCode toy (replayOracle [[1], [2]] ([1], 1)) { lens := 5 }).1.lens = [2] ∧
    (optimizeCode toy (replayOracle [[1], [2]] ([1], 1)) { lens := 5 }).2.1 = [1] ∧
    values toy (optimizeSpec toy (replayOracle [[1], [2]] ([1], 1)) { lens := 5 }).1.lens = [1] := by
  simp [optimizeCode, optimizeSpec, runOracle, replayOracle, funEval, applyX, setAll, toy, values]

/-- toy lens with a pickup: the second number follows the first on `update_optics` -/
def toyPickup : Problem (ℝ × ℝ) ℝ :=
  { vars := [⟨Prod.fst, fun s x => (x, s.2)⟩], upd := fun s => (s.1, s.1), ops := [] }

/-- after optimise ((1,1) → (2,2)) the tree's `undo` gives (1,2): the picked-up quantity keeps the
optimised value; the required `undo` gives back (1,1) -/
theorem undoCode_violates :
    (undoCode toyPickup (optimizeSpec toyPickup (replayOracle [[2]] ([2], 0)) { lens := (1, 1) }).1).lens
      = (1, 2) ∧
    (undoSpec toyPickup (optimizeSpec toyPickup (replayOracle [[2]] ([2], 0)) { lens := (1, 1) }).1).lens
      = (1, 1) := by
  simp [undoCode, undoSpec, optimizeSpec, runOracle, replayOracle, funEval, applyX, setAll, toyPickup, values]

/-! ## 8. the two "scipy" clauses stated about the model, and one concrete run meeting every hypothesis of §4–§6

`not_worse_partial` / `within_bounds_partial` above do not mention the model at all (their
conclusions are instances of their hypotheses).  The theorems below state the same two clauses about
`optimizeSpec` itself, for every oracle that (a) evaluates the start vector, (b) returns one of its
logged evaluations and (c) returns the best of them – what a descent method with a final
`min(log)` does; that scipy's front ends satisfy (a)–(c) is still an assumption (it is false for
some, findings F-C14-3 / F-C14-4). -/

/-- not worse (spec variant, every oracle satisfying (a)–(c)): the merit function on the lens the
optimiser leaves is not larger than on the lens it started from. -/
theorem not_worse_of_minimising_oracle {σ ω : Type} {pb : Problem σ ℝ} {view : σ → ω} {I : σ → Prop}
    (H : LensHyp pb view I) (o : Oracle ℝ) (s0 : σ) (hs : I s0) (hset : Settled pb view s0)
    (ho : OSized o pb.vars.length)
    (hstart : ∃ e ∈ (runOracle pb o (values pb s0) o.fuel s0 []).2, e.1 = values pb s0)
    (hmem : (optimizeSpec pb o { lens := s0 }).2 ∈ (runOracle pb o (values pb s0) o.fuel s0 []).2)
    (hbest : ∀ e ∈ (runOracle pb o (values pb s0) o.fuel s0 []).2,
      (optimizeSpec pb o { lens := s0 }).2.2 ≤ e.2) :
    sumSquared pb.ops (optimizeSpec pb o { lens := s0 }).1.lens ≤ sumSquared pb.ops s0 := by
  rw [← fun_is_merit, ← fun_is_merit]
  obtain ⟨pts, hp, _, h2⟩ := runOracle_sized pb o (values pb s0) o.fuel _ s0 [] ho
  have hl : (runOracle pb o (values pb s0) o.fuel s0 []).2 = logOf pb s0 pts := by simpa using h2
  obtain ⟨e, he, hx0⟩ := hstart
  have h1 : funVal pb (optimizeSpec pb o { lens := s0 }).1.lens = (optimizeSpec pb o { lens := s0 }).2.2 :=
    (optimize_leaves_solution H o { lens := s0 } hs ho).2.2.2 hmem
  have h3 : e.2 = funVal pb s0 := by
    have := log_values_determined H s0 hs pts hp e (hl ▸ he)
    rw [this, hx0]
    exact funVal_congr H _ _ hset
  rw [h1, ← h3]
  exact hbest e he

/-- `x` lies within the (optional) limits `b` -/
def InBounds (b : Option ℝ × Option ℝ) (x : ℝ) : Prop :=
  (∀ lo, b.1 = some lo → lo ≤ x) ∧ (∀ hi, b.2 = some hi → x ≤ hi)

/-- every `scale` is strictly increasing -/
theorem scale_le_iff (K : VKind) (a b : ℝ) : K.scale a ≤ K.scale b ↔ a ≤ b := by
  rw [scale_eq, scale_eq, sub_le_sub_iff_right, mul_le_mul_iff_of_pos_right (slope_pos K)]

/-- bounds in the units of the value mean the user's limits: the value read through the handle
lies within `boundsSpec` exactly when the lens quantity lies within `min_val … max_val` – scaled or
not (for the tree's `boundsCode` this fails for unscaled variables, `boundsCode_violates_same_units`). -/
theorem boundsSpec_iff_raw (v : Variable ℝ) (L : Lens ℝ) :
    InBounds v.boundsSpec (v.value L) ↔ InBounds (v.minVal, v.maxVal) (v.kind.rawGet L v.surf) := by
  unfold Variable.boundsSpec Variable.value InBounds
  cases v.scaling
  · simp
  · simp only [if_true, Option.map_eq_some_iff]
    constructor
    · rintro ⟨h1, h2⟩
      exact ⟨fun lo hlo => (scale_le_iff _ _ _).1 (h1 _ ⟨lo, hlo, rfl⟩),
             fun hi hhi => (scale_le_iff _ _ _).1 (h2 _ ⟨hi, hhi, rfl⟩)⟩
    · rintro ⟨h1, h2⟩
      refine ⟨?_, ?_⟩
      · rintro _ ⟨lo, hlo, rfl⟩; exact (scale_le_iff _ _ _).2 (h1 lo hlo)
      · rintro _ ⟨hi, hhi, rfl⟩; exact (scale_le_iff _ _ _).2 (h2 hi hhi)

/-- within bounds (spec variant): if the vector the oracle returns respects the bounds it was
handed (`boundsSpec`), then on the lens `optimizeSpec` leaves every bounded variable's lens quantity
lies within the user's `min_val … max_val`. -/
theorem within_bounds_of_bounded_oracle {ω : Type} {view : Lens ℝ → ω} {I : Lens ℝ → Prop}
    (vars : List (Variable ℝ)) (ops : List (Operand (Lens ℝ) ℝ))
    (H : LensHyp (lensProblem vars ops) view I) (o : Oracle ℝ) (L : Lens ℝ) (hs : I L)
    (ho : OSized o vars.length)
    (hb : List.Forall₂ (fun v x => InBounds v.boundsSpec x) vars
      (optimizeSpec (lensProblem vars ops) o { lens := L }).2.1) :
    ∀ v ∈ vars, InBounds (v.minVal, v.maxVal)
      (v.kind.rawGet (optimizeSpec (lensProblem vars ops) o { lens := L }).1.lens v.surf) := by
  have hv := (optimize_leaves_solution H o { lens := L } hs (by simpa [lensProblem] using ho)).1
  rw [← hv] at hb
  generalize (optimizeSpec (lensProblem vars ops) o { lens := L }).1.lens = M at hb
  have : values (lensProblem vars ops) M = vars.map fun v => v.value M := by
    simp [values, lensProblem, Variable.toHandle]
  rw [this, List.forall₂_map_right_iff, List.forall₂_same] at hb
  exact fun v hv => (boundsSpec_iff_raw v M).1 (hb v hv)

/-! ### one concrete run meeting every hypothesis -/

/-- object plane and one spherical surface (R = 50) -/
noncomputable def demoLens : Lens ℝ :=
  { presc := { surfs := [⟨.object, .plane, 0, 0, 0, 0, 0, 0, 0, [], 0, 0, false, false⟩,
                         ⟨.standard, .standard, 0, 0, 0, 0, 0, 50, 0, [], 0, 1, true, false⟩],
               lastThickness := 0, apValue := 1, maxYField := 0 } }

/-- scaled radius variable on surface 1, limits 10 … 100 -/
noncomputable def demoVar : Variable ℝ := { kind := .radius, surf := 1, minVal := some 10, maxVal := some 100 }

theorem demo_inv : VarInv demoVar demoLens := by
  refine ⟨⟨rfl, rfl⟩, ?_⟩
  simp [InRange, demoVar, demoLens]

/-- the start lens is consistent (`hfix` of `single_variable_settled` is satisfiable) -/
theorem demo_fix : demoVar.update demoLens (demoVar.value demoLens) = demoLens := by
  unfold Variable.update Variable.value
  simp only [demoVar, if_true, invScale_scale]
  simp [VKind.rawSet, VKind.rawGet, setRadius, modifyAt, demoLens]

/-- a recorded run: `_fun` at the start value −0.5 (R = 50), then at −0.4 (R = 60); returned: the second -/
noncomputable def demoOracle : Oracle ℝ := replayOracle [[-1/2], [-2/5]] ([-2/5], 0)

theorem demo_sized : OSized demoOracle 1 := by
  constructor
  · intro x0 log x h
    simp only [demoOracle, replayOracle] at h
    rcases hl : log.length with _ | _ | n <;> simp [hl] at h <;> subst h <;> rfl
  · intro x0 log; rfl

/-- every hypothesis of `optimize_leaves_solution`, `undo_restores`, `optimise_undo_sequences` is met
by this run (any operands): after optimise + undo the lens is the start lens, literally -/
example (ops : List (Operand (Lens ℝ) ℝ)) :
    (undoSpec (lensProblem [demoVar] ops)
      (optimizeSpec (lensProblem [demoVar] ops) demoOracle { lens := demoLens }).1).lens = demoLens :=
  (undo_restores (single_variable_hyp demoVar (by simp [demoVar]) ops) demoLens demo_inv
    (single_variable_settled demoVar ops demoLens demo_inv demo_fix) demoOracle
    (by simpa [lensProblem] using demo_sized)).1

/-- … and after optimise the variable reads the returned −0.4, i.e. the radius is 60 -/
example (ops : List (Operand (Lens ℝ) ℝ)) :
    values (lensProblem [demoVar] ops)
      (optimizeSpec (lensProblem [demoVar] ops) demoOracle { lens := demoLens }).1.lens = [-2/5] :=
  single_variable_leaves_solution demoVar (by simp [demoVar]) ops demoOracle demoLens demo_inv demo_sized

/-- … and the radius it leaves (60) lies within the user's limits 10 … 100: the hypotheses of
`within_bounds_of_bounded_oracle` are met (the returned −0.4 lies within the scaled bounds −0.9 … 0) -/
example (ops : List (Operand (Lens ℝ) ℝ)) :
    InBounds (some 10, some 100)
      (VKind.rawGet (optimizeSpec (lensProblem [demoVar] ops) demoOracle { lens := demoLens }).1.lens 1 .radius) := by
  have hb : List.Forall₂ (fun (v : Variable ℝ) x => InBounds v.boundsSpec x) [demoVar]
      (optimizeSpec (lensProblem [demoVar] ops) demoOracle { lens := demoLens }).2.1 := by
    show List.Forall₂ _ [demoVar] [-2/5]
    refine List.Forall₂.cons ?_ List.Forall₂.nil
    simp only [InBounds, Variable.boundsSpec, demoVar, if_true, Option.map_some, Option.some.injEq,
      VKind.scale, Num.ofNat]
    num_real
    constructor <;> intro b hb <;> rw [← hb] <;> norm_num
  exact within_bounds_of_bounded_oracle [demoVar] ops (single_variable_hyp demoVar (by simp [demoVar]) ops)
    demoOracle demoLens demo_inv demo_sized hb demoVar (by simp)

/-! ### … including `not_worse_of_minimising_oracle`, with an operand that reads the lens -/

noncomputable def demoOps : List (Operand (Lens ℝ) ℝ) := [⟨fun L => VKind.rawGet L 1 .radius, 60, 1⟩]

theorem demo_funVal (L : Lens ℝ) : funVal (lensProblem [demoVar] demoOps) L = (VKind.rawGet L 1 .radius - 60) ^ 2 := by
  rw [fun_is_merit, merit_def]
  simp [lensProblem, demoOps]

theorem demo_apply (x : ℝ) (L : Lens ℝ) (h : VarInv demoVar L) :
    VKind.rawGet (applyX (lensProblem [demoVar] demoOps) [x] L) 1 .radius = (x + 1) * 100 ∧
    VarInv demoVar (applyX (lensProblem [demoVar] demoOps) [x] L) := by
  have h1 := varInv_update demoVar L x h
  rw [applyX_single, lensUpdate_noPick _ h1.1]
  refine ⟨?_, h1⟩
  have := raw_roundtrip .radius L 1 ((x + 1) * 100) h.2
  have e : (Num.ofRat 100 1 : ℝ) = 100 := by num_real; norm_num
  simpa [Variable.update, demoVar, VKind.invScale, Num.ofNat, e] using this

theorem demo_log :
    (runOracle (lensProblem [demoVar] demoOps) demoOracle (values (lensProblem [demoVar] demoOps) demoLens)
      demoOracle.fuel demoLens []).2 = [([-1/2], 100), ([-2/5], 0)] := by
  obtain ⟨a1, i1⟩ := demo_apply (-1/2) demoLens demo_inv
  obtain ⟨a2, _⟩ := demo_apply (-2/5) _ i1
  simp only [demoOracle, replayOracle, List.length_cons, List.length_nil, runOracle, funEval,
    List.getElem?_cons_zero, List.nil_append, List.getElem?_cons_succ, List.cons_append, demo_funVal, a1, a2]
  norm_num [runOracle]

theorem demo_x0 : values (lensProblem [demoVar] demoOps) demoLens = [-1/2] := by
  simp only [values, lensProblem, Variable.toHandle, Variable.value, demoVar, VKind.rawGet, demoLens,
    VKind.scale, Num.ofNat, List.map_cons, List.map_nil, List.getD_cons_succ, List.getD_cons_zero, if_true]
  num_real
  norm_num

/-- every hypothesis of `not_worse_of_minimising_oracle` is met by the recorded run: the merit
`(R − 60)²` is 100 at the start and 0 on the lens the optimiser leaves -/
example : sumSquared demoOps (optimizeSpec (lensProblem [demoVar] demoOps) demoOracle { lens := demoLens }).1.lens
    ≤ sumSquared demoOps demoLens := by
  have hl := demo_log
  have hr : (optimizeSpec (lensProblem [demoVar] demoOps) demoOracle { lens := demoLens }).2 = ([-2/5], 0) := rfl
  refine not_worse_of_minimising_oracle (single_variable_hyp demoVar (by simp [demoVar]) demoOps) demoOracle
    demoLens demo_inv (single_variable_settled demoVar demoOps demoLens demo_inv demo_fix)
    (by simpa [lensProblem] using demo_sized) ?_ ?_ ?_
  · rw [hl, demo_x0]; exact ⟨([-1/2], 100), by simp, rfl⟩
  · rw [hl, hr]; simp
  · rw [hl, hr]
    intro e he
    simp only [List.mem_cons, List.not_mem_nil, or_false] at he
    rcases he with rfl | rfl <;> norm_num
end C14
