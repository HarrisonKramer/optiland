import OptiModel.Model.Parax
import OptiModel.Proofs.NumReal
import OptiModel.Proofs.Cardinal
import Mathlib.Tactic.FieldSimp
import Mathlib.Tactic.Ring
import Mathlib.Tactic.LinearCombination
import Mathlib.Tactic.NormNum
/-!
# C04  Paraxial properties equal matrix optics

Theorems about `Model/Parax.lean` over ℝ.  Planes are encoded as `r = 0` (curvature
`1/r = 0` in Mathlib), matching `(n2-n1)/inf = 0` over `Float`.

Specification side: 2×2 ray-transfer matrices, `T(t) = [[1,t],[0,1]]`,
`R(n,n',c) = [[1,0],[-(n'-n)c/n', n/n']]`, mirror `[[1,0],[-2c,-1]]` (index sign reversal).

Hypotheses on a surface list, from weak to strong (each theorem asks for the weakest that its proof needs):

| predicate | every surface has | used by |
|---|---|---|
| `DY0` | `dy = 0` | linearity: `pfinal_lin`, `pfinal_smul`, `pfinal_axial`, `XPL_is_stop_conjugate` |
| `WFL` | `dy = 0`, `n2 ≠ 0` | Lagrange invariant: `lagrange_invariant`, `pfinal_lagrange`, `magnification_def` |
| `WF` | `dy = 0`, `n2 ≠ 0`, kind not `.image` | trace = matrix product: `ptrace_eq_matrix`, `pfinal_eq_sysMat` |
| `Std` | `dy = 0`, `n1 ≠ 0`, `n2 ≠ 0`, kind `.standard` | time reversal: `reverse_ray`, `roundtrip`, chief ray, `EPL` |
| `IsLens` | object surface, a non-empty `Std` list, image surface with `dy = 0` | cardinal points |

`Std L → WF L` (`Std_WF`), `Std L → DY0 L` (`Std_DY0`).  `Chained n L` says that the media join up.
-/
namespace C04
open Model Cardinal

/-- 2×2 real matrix `[[a,b],[c,d]]` -/
structure M2 where
  a : ℝ
  b : ℝ
  c : ℝ
  d : ℝ

def M2.one : M2 := ⟨1, 0, 0, 1⟩
def M2.mul (m n : M2) : M2 :=
  ⟨m.a*n.a + m.b*n.c, m.a*n.b + m.b*n.d, m.c*n.a + m.d*n.c, m.c*n.b + m.d*n.d⟩
def M2.det (m : M2) : ℝ := m.a*m.d - m.b*m.c
/-- apply to the column vector (y,u) -/
def M2.ap (m : M2) (y u : ℝ) : ℝ × ℝ := (m.a*y + m.b*u, m.c*y + m.d*u)

/-- transfer over axial distance `t` -/
def T (t : ℝ) : M2 := ⟨1, t, 0, 1⟩
/-- refraction from index `n` to `n'` at a surface of curvature `c` -/
noncomputable def R (n n' c : ℝ) : M2 := ⟨1, 0, -((n' - n) * c) / n', n / n'⟩
/-- mirror of curvature `c` (the refraction matrix with `n' = -n`) -/
def Mir (c : ℝ) : M2 := ⟨1, 0, -(2*c), -1⟩

theorem mirror_is_index_reversal (n c : ℝ) (hn : n ≠ 0) : R n (-n) c = Mir c := by
  simp only [R, Mir, M2.mk.injEq, true_and]
  constructor <;> field_simp <;> ring

/-- element matrix of a surface reached after an axial transfer `t` -/
noncomputable def elem (s : PSurf ℝ) (t : ℝ) : M2 :=
  match s.kind with
  | .object => M2.one
  | .standard => (if s.refl then Mir (1 / s.r) else R s.n1 s.n2 (1 / s.r)).mul (T t)
  | .image => T t

/-- axially symmetric, standard-or-object surfaces with non-zero back index -/
def WF (ss : List (PSurf ℝ)) : Prop :=
  ∀ s ∈ ss, s.dy = 0 ∧ s.kind ≠ .image ∧ s.n2 ≠ 0

/-- `Surface._trace_paraxial` over ℝ: the ray is carried to the vertex plane and reflected or refracted
there; the decentre only enters the height on which the power acts. -/
theorem pstepStd_real (r : PRay ℝ) (s : PSurf ℝ) :
    pstepStd r s = ⟨r.y + (s.z - r.z) * r.u,
      if s.refl then -r.u - 2 * (r.y + (s.z - r.z) * r.u - s.dy) / s.r
      else 1 / s.n2 * (s.n1 * r.u - (r.y + (s.z - r.z) * r.u - s.dy) * ((s.n2 - s.n1) / s.r)), s.z⟩ := by
  have h : r.y - s.dy + -(r.z - s.z) * r.u = r.y + (s.z - r.z) * r.u - s.dy := by ring
  unfold pstepStd
  num_real
  rw [h]
  congr 1 <;> ring

/-- `ImageSurface._trace_paraxial` over ℝ (the recorded `z` is the local one, 0) -/
theorem pstepImg_real (r : PRay ℝ) (s : PSurf ℝ) :
    pstepImg r s = ⟨r.y - s.dy + (s.z - r.z) * r.u, r.u, 0⟩ := by
  unfold pstepImg
  num_real
  congr 1 <;> ring

/-- axial position recorded by a surface for a ray that arrives with position `z` -/
def zAfter (z : ℝ) (s : PSurf ℝ) : ℝ :=
  match s.kind with
  | .object => z
  | .standard => s.z
  | .image => 0

/-- every kind of surface acts on `(y,u)` by its element matrix.  `n2 = 0` needs no guard: both sides
divide by it. -/
theorem pstep_matrix (r : PRay ℝ) (s : PSurf ℝ) (hdy : s.dy = 0) :
    pstep r s = ⟨((elem s (s.z - r.z)).ap r.y r.u).1, ((elem s (s.z - r.z)).ap r.y r.u).2, zAfter r.z s⟩ := by
  obtain ⟨y, u, z⟩ := r
  unfold pstep elem zAfter
  cases hk : s.kind with
  | object => simp only [M2.one, M2.ap]; congr 1 <;> ring
  | image => rw [pstepImg_real, hdy]; simp only [T, M2.ap]; congr 1 <;> ring
  | standard =>
    rw [pstepStd_real, hdy]
    cases s.refl <;> simp only [Bool.false_eq_true, if_false, if_true, Mir, R, T, M2.mul, M2.ap] <;>
      congr 1 <;> ring

theorem pstepStd_eq_matrix (r : PRay ℝ) (s : PSurf ℝ) (hdy : s.dy = 0) (hk : s.kind = .standard)
    (hn : s.n2 ≠ 0) :
    ((pstepStd r s).y, (pstepStd r s).u) = (elem s (s.z - r.z)).ap r.y r.u ∧ (pstepStd r s).z = s.z := by
  have h := pstep_matrix r s hdy
  simp only [pstep, zAfter, hk] at h
  rw [h]
  exact ⟨rfl, rfl⟩

theorem pstepImg_eq_matrix (r : PRay ℝ) (s : PSurf ℝ) (hdy : s.dy = 0) :
    ((pstepImg r s).y, (pstepImg r s).u) = (T (s.z - r.z)).ap r.y r.u := by
  rw [pstepImg_real, hdy, sub_zero]
  simp only [T, M2.ap, one_mul, zero_mul, zero_add]

/-- records predicted by matrix optics: `M` is the matrix accumulated so far from the launch
vector `(y0,u0)`, `z` the axial position of the ray -/
noncomputable def mrecs (M : M2) (z y0 u0 : ℝ) : List (PSurf ℝ) → List (PRay ℝ)
  | [] => []
  | s :: ss =>
    match s.kind with
    | .object => ⟨(M.ap y0 u0).1, (M.ap y0 u0).2, z⟩ :: mrecs M z y0 u0 ss
    | _ =>
      let M' := (elem s (s.z - z)).mul M
      ⟨(M'.ap y0 u0).1, (M'.ap y0 u0).2, s.z⟩ :: mrecs M' s.z y0 u0 ss

theorem ap_mul (m n : M2) (y u : ℝ) : (m.mul n).ap y u = m.ap (n.ap y u).1 (n.ap y u).2 := by
  simp only [M2.mul, M2.ap, Prod.mk.injEq]; constructor <;> ring

theorem one_ap (y u : ℝ) : M2.one.ap y u = (y, u) := by
  simp only [M2.one, M2.ap, one_mul, zero_mul, add_zero, zero_add]

/-- **ptrace_eq_matrix**: every recorded (y,u) is the product of the element matrices applied to
the launch vector. -/
theorem ptrace_eq_matrix : ∀ (ss : List (PSurf ℝ)) (M : M2) (z y0 u0 : ℝ), WF ss →
    ptrace ⟨(M.ap y0 u0).1, (M.ap y0 u0).2, z⟩ ss = mrecs M z y0 u0 ss
  | [], _, _, _, _, _ => rfl
  | s :: ss, M, z, y0, u0, hwf => by
    obtain ⟨hs, hwf'⟩ := List.forall_mem_cons.mp hwf
    cases hk : s.kind with
    | object =>
      simp only [ptrace, pstep, hk, mrecs]
      rw [ptrace_eq_matrix ss M z y0 u0 hwf']
    | image => exact absurd hk hs.2.1
    | standard =>
      simp only [ptrace, mrecs, hk, pstep_matrix _ s hs.1, zAfter, ← ap_mul]
      rw [ptrace_eq_matrix ss _ s.z y0 u0 hwf']

theorem ptrace_eq_matrix' (ss : List (PSurf ℝ)) (r : PRay ℝ) (hwf : WF ss) :
    ptrace r ss = mrecs M2.one r.z r.y r.u ss := by
  rw [← ptrace_eq_matrix ss M2.one r.z r.y r.u hwf, one_ap]

/-- linear combination of two rays given at the same axial position -/
def lin (c1 c2 : ℝ) (a b : PRay ℝ) : PRay ℝ := ⟨c1*a.y + c2*b.y, c1*a.u + c2*b.u, a.z⟩

/-- `AllLin c1 c2 as bs cs`: record-wise, `cs = c1·as + c2·bs` in height and slope -/
def AllLin (c1 c2 : ℝ) : List (PRay ℝ) → List (PRay ℝ) → List (PRay ℝ) → Prop
  | [], [], [] => True
  | a :: as, b :: bs, c :: cs => c.y = c1*a.y + c2*b.y ∧ c.u = c1*a.u + c2*b.u ∧ AllLin c1 c2 as bs cs
  | _, _, _ => False

theorem ap_lin (M : M2) (c1 c2 ya ua yb ub : ℝ) :
    M.ap (c1*ya + c2*yb) (c1*ua + c2*ub) =
      (c1 * (M.ap ya ua).1 + c2 * (M.ap yb ub).1, c1 * (M.ap ya ua).2 + c2 * (M.ap yb ub).2) := by
  simp only [M2.ap, Prod.mk.injEq]; constructor <;> ring

theorem mrecs_linear (c1 c2 : ℝ) : ∀ (ss : List (PSurf ℝ)) (M : M2) (z ya ua yb ub : ℝ),
    AllLin c1 c2 (mrecs M z ya ua ss) (mrecs M z yb ub ss) (mrecs M z (c1*ya + c2*yb) (c1*ua + c2*ub) ss)
  | [], _, _, _, _, _, _ => trivial
  | s :: ss, M, z, ya, ua, yb, ub => by
    cases hk : s.kind <;> simp only [mrecs, hk, AllLin, ap_lin] <;>
      exact ⟨trivial, trivial, mrecs_linear c1 c2 ss _ _ ya ua yb ub⟩

/-- **ptrace_linear**: paraxial ray data are linear in launch height and slope. -/
theorem ptrace_linear (ss : List (PSurf ℝ)) (a b : PRay ℝ) (c1 c2 : ℝ) (hz : a.z = b.z) (hwf : WF ss) :
    AllLin c1 c2 (ptrace a ss) (ptrace b ss) (ptrace (lin c1 c2 a b) ss) := by
  rw [ptrace_eq_matrix' ss a hwf, ptrace_eq_matrix' ss b hwf, ptrace_eq_matrix' ss _ hwf]
  simp only [lin, ← hz]
  exact mrecs_linear c1 c2 ss M2.one a.z a.y a.u b.y b.u

/-- running orientation after a surface: mirrors flip it (index sign reversal) -/
noncomputable def sgnIdx (σ : ℝ) (s : PSurf ℝ) : ℝ :=
  if s.kind = .standard ∧ s.refl = true then -σ else σ

/-- Lagrange invariant of two rays in the medium of index `n`, orientation `σ` -/
def lag (σ n : ℝ) (a b : PRay ℝ) : ℝ := σ * n * (b.y * a.u - a.y * b.u)

/-- media chain, mirrors keep the index, object/image surfaces have one medium -/
def Chained : ℝ → List (PSurf ℝ) → Prop
  | _, [] => True
  | n, s :: ss => s.n1 = n ∧ (s.kind ≠ .standard ∨ s.refl = true → s.n2 = s.n1) ∧ Chained s.n2 ss

theorem det_mul (a b : M2) : (a.mul b).det = a.det * b.det := by
  simp only [M2.mul, M2.det]; ring

theorem ap_det (M : M2) (ya ua yb ub : ℝ) :
    (M.ap yb ub).1 * (M.ap ya ua).2 - (M.ap ya ua).1 * (M.ap yb ub).2 = M.det * (yb * ua - ya * ub) := by
  simp only [M2.ap, M2.det]; ring

/-- `det = n/n'` at a refraction, `−1` at a mirror, `1` for a mere transfer -/
theorem elem_det (s : PSurf ℝ) (t : ℝ) :
    (elem s t).det = if s.kind = .standard then (if s.refl then -1 else s.n1 / s.n2) else 1 := by
  unfold elem
  cases hk : s.kind with
  | object => simp only [reduceCtorEq, if_false, M2.one, M2.det]; ring
  | image => simp only [reduceCtorEq, if_false, T, M2.det]; ring
  | standard =>
    cases s.refl <;> simp only [Bool.false_eq_true, if_false, if_true, Mir, R, T, M2.mul, M2.det] <;> ring

/-- the step of the Lagrange invariant: `(ȳu − yū)` is multiplied by `det`, and `σ' n' det = σ n` -/
theorem pstep_lagrange (a b : PRay ℝ) (s : PSurf ℝ) (σ : ℝ) (hz : a.z = b.z) (hdy : s.dy = 0)
    (hn2 : s.n2 ≠ 0) (hmir : s.kind ≠ .standard ∨ s.refl = true → s.n2 = s.n1) :
    lag (sgnIdx σ s) s.n2 (pstep a s) (pstep b s) = lag σ s.n1 a b ∧ (pstep a s).z = (pstep b s).z := by
  rw [pstep_matrix a s hdy, pstep_matrix b s hdy, ← hz]
  refine ⟨?_, rfl⟩
  have hdet : sgnIdx σ s * s.n2 * (elem s (s.z - a.z)).det = σ * s.n1 := by
    rw [elem_det]
    unfold sgnIdx
    by_cases hk : s.kind = .standard
    · cases hr : s.refl
      · simp only [hk, Bool.false_eq_true, and_false, if_false, if_true]; field_simp
      · simp only [hk, and_self, if_true]; rw [hmir (Or.inr hr)]; ring
    · simp only [hk, false_and, if_false]; rw [hmir (Or.inl hk)]; ring
  simp only [lag]
  rw [ap_det, ← mul_assoc, hdet]

/-- `AllInv σ H ss as bs`: every recorded pair of rays has signed invariant `H` in the medium
behind its surface -/
def AllInv : ℝ → ℝ → List (PSurf ℝ) → List (PRay ℝ) → List (PRay ℝ) → Prop
  | _, _, [], [], [] => True
  | σ, H, s :: ss, a :: as, b :: bs =>
      lag (sgnIdx σ s) s.n2 a b = H ∧ AllInv (sgnIdx σ s) H ss as bs
  | _, _, _, _, _ => False

/-- what the Lagrange invariant needs of each surface (any kind): no decentre, division by `n2` allowed -/
def WFL (ss : List (PSurf ℝ)) : Prop := ∀ s ∈ ss, s.dy = 0 ∧ s.n2 ≠ 0

/-- **lagrange_invariant**: for any two rays launched at one axial position, the signed
invariant `σ_k n_k (ȳ_k u_k − y_k ū_k)` has the same value at every surface. -/
theorem lagrange_invariant : ∀ (ss : List (PSurf ℝ)) (a b : PRay ℝ) (σ n : ℝ),
    a.z = b.z → Chained n ss → WFL ss →
    AllInv σ (lag σ n a b) ss (ptrace a ss) (ptrace b ss)
  | [], _, _, _, _, _, _, _ => trivial
  | s :: ss, a, b, σ, n, hz, hch, hwf => by
    obtain ⟨hn1, hmir, hch'⟩ := hch
    obtain ⟨hs, hwf'⟩ := List.forall_mem_cons.mp hwf
    obtain ⟨hstep, hz'⟩ := pstep_lagrange a b s σ hz hs.1 hs.2 hmir
    have ih := lagrange_invariant ss _ _ (sgnIdx σ s) s.n2 hz' hch' hwf'
    rw [hstep, hn1] at ih
    simp only [ptrace, AllInv]
    exact ⟨by rw [hstep, hn1], ih⟩

/-- system matrix of a surface list for a ray given at axial position `z` -/
noncomputable def sysMat (z : ℝ) : List (PSurf ℝ) → M2
  | [] => M2.one
  | s :: ss =>
    match s.kind with
    | .object => sysMat z ss
    | _ => (sysMat s.z ss).mul (elem s (s.z - z))

theorem mul_assoc' (a b c : M2) : (a.mul b).mul c = a.mul (b.mul c) := by
  simp only [M2.mul, M2.mk.injEq]; refine ⟨?_, ?_, ?_, ?_⟩ <;> ring
theorem mul_one' (a : M2) : a.mul M2.one = a := by
  cases a; simp [M2.mul, M2.one]

theorem getLast?_cons_ne {β : Type} {l : List β} (h : l ≠ []) (a : β) : (a :: l).getLast? = l.getLast? := by
  cases l with
  | nil => contradiction
  | cons b l => simp [List.getLast?_cons_cons]

theorem mrecs_ne_nil (ss : List (PSurf ℝ)) (M : M2) (z y0 u0 : ℝ) (h : ss ≠ []) :
    mrecs M z y0 u0 ss ≠ [] := by
  cases ss with
  | nil => contradiction
  | cons s ss => cases hk : s.kind <;> simp only [mrecs, hk, ne_eq, reduceCtorEq, not_false_eq_true]

theorem one_mul' (a : M2) : M2.one.mul a = a := by
  cases a; simp [M2.mul, M2.one]

/-- the last record, with the accumulated vector as the default: true of the empty list too -/
theorem mrecs_getLastD : ∀ (ss : List (PSurf ℝ)) (M : M2) (z y0 u0 : ℝ),
    ((mrecs M z y0 u0 ss).map fun r => (r.y, r.u)).getLastD (M.ap y0 u0) = ((sysMat z ss).mul M).ap y0 u0
  | [], M, _, _, _ => by rw [sysMat, one_mul']; rfl
  | s :: ss, M, z, y0, u0 => by
    cases hk : s.kind <;> simp only [mrecs, hk, sysMat, List.map_cons, List.getLastD_cons, mul_assoc'] <;>
      exact mrecs_getLastD ss _ _ y0 u0

theorem mrecs_last : ∀ (ss : List (PSurf ℝ)) (M : M2) (z y0 u0 : ℝ), ss ≠ [] →
    ((mrecs M z y0 u0 ss).map fun r => (r.y, r.u)).getLast? = some (((sysMat z ss).mul M).ap y0 u0) := by
  intro ss M z y0 u0 h
  rw [← mrecs_getLastD, List.getLastD_eq_getLast?]
  cases hm : mrecs M z y0 u0 ss with
  | nil => exact absurd hm (mrecs_ne_nil ss M z y0 u0 h)
  | cons x xs => simp only [List.map_cons, List.getLast?_cons, Option.getD_some]

/-- final ray state after a list of surfaces -/
noncomputable def pfinal (r : PRay ℝ) (ss : List (PSurf ℝ)) : PRay ℝ := ss.foldl pstep r

theorem pfinal_nil (r : PRay ℝ) : pfinal r [] = r := rfl
theorem pfinal_cons (r : PRay ℝ) (s : PSurf ℝ) (ss : List (PSurf ℝ)) :
    pfinal r (s :: ss) = pfinal (pstep r s) ss := rfl
theorem pfinal_append (r : PRay ℝ) (a b : List (PSurf ℝ)) :
    pfinal r (a ++ b) = pfinal (pfinal r a) b := by
  simp only [pfinal, List.foldl_append]

theorem pfinal_eq_sysMat (L : List (PSurf ℝ)) (r : PRay ℝ) (hwf : WF L) (hne : L ≠ []) :
    (pfinal r L).y = (sysMat r.z L).a * r.y + (sysMat r.z L).b * r.u ∧
    (pfinal r L).u = (sysMat r.z L).c * r.y + (sysMat r.z L).d * r.u := by
  have h := mrecs_last L M2.one r.z r.y r.u hne
  rw [← ptrace_eq_matrix' L r hwf, mul_one', List.getLast?_map, ptrace_getLast? r L hne] at h
  exact Prod.mk.inj (Option.some.inj h)

/-- the code's `-y[0]/u[-1]` and `-y[-1]/u[-1]` of the ray `(1,0)` launched one unit in front of the first
surface, behind an object surface: the first record is the launch ray, the last the ray leaving `rest` -/
theorem f2_F2_pfinal (S : PSys ℝ) (obj : PSurf ℝ) (rest : List (PSurf ℝ)) (hS : S.surfs = obj :: rest)
    (hobj : obj.kind = .object) :
    f2 S = -1 / (pfinal ⟨1, 0, posOf S.surfs 1 - 1⟩ rest).u ∧
    F2 S = -(pfinal ⟨1, 0, posOf S.surfs 1 - 1⟩ rest).y / (pfinal ⟨1, 0, posOf S.surfs 1 - 1⟩ rest).u := by
  simp only [f2, f2raw, F2, traceGeneric, Bool.false_eq_true, if_false, List.drop_zero]
  num_real
  rw [hS, first_ys, last_us _ _ (List.cons_ne_nil _ _), last_ys _ _ (List.cons_ne_nil _ _)]
  simp only [List.foldl_cons, pstep, hobj]
  exact ⟨rfl, rfl⟩

/-- layout without an image surface (`WF` excludes the kind `.image`; `F2` is then measured from the last vertex):
the code's `-y[0]/u[-1]` and `-y[-1]/u[-1]` for the ray `(1,0)` launched one unit in front of the first surface
of `obj :: rest` are `-1/C` and `-A/C` of the system matrix taken from that launch plane.  `f2` is signed
(the variant with `|·|` is finding F8).  For optiland's layout with an image surface see `f2_F2_from_matrix`. -/
theorem f2_F2_eq_matrix (obj : PSurf ℝ) (rest : List (PSurf ℝ)) (ap : ApType) (v : ℝ) (ft : FieldType)
    (my : ℝ) (oi : Bool) (hobj : obj.kind = .object) (hne : rest ≠ []) (hwf : WF (obj :: rest)) :
    let S : PSys ℝ := ⟨obj :: rest, ap, v, ft, my, oi⟩
    let M := sysMat (posOf S.surfs 1 - 1) rest
    f2 S = -1 / M.c ∧ F2 S = -M.a / M.c := by
  intro S M
  obtain ⟨h2, hF⟩ := f2_F2_pfinal S obj rest rfl hobj
  obtain ⟨hy, hu⟩ := pfinal_eq_sysMat rest ⟨1, 0, posOf S.surfs 1 - 1⟩ (List.forall_mem_cons.mp hwf).2 hne
  rw [h2, hF, hy, hu]
  simp only [mul_one, mul_zero, add_zero, M, and_self]

/-! ### time reversal: the inverted system undoes the forward trace (entrance pupil = stop conjugate) -/

/-- one surface as `SurfaceGroup.inverted` rewrites it (`zl` = vertex of the last surface) -/
noncomputable def rv (zl : ℝ) (s : PSurf ℝ) : PSurf ℝ :=
  { s with r := s.r * (-1), z := zl - s.z, n1 := s.n2, n2 := s.n1 }

/-- standard surfaces of an axially symmetric lens with non-zero indices -/
def Std (ss : List (PSurf ℝ)) : Prop :=
  ∀ s ∈ ss, s.kind = .standard ∧ s.dy = 0 ∧ s.n1 ≠ 0 ∧ s.n2 ≠ 0

theorem inverted_eq (ss : List (PSurf ℝ)) (l : PSurf ℝ) (h : ss.getLast? = some l) :
    inverted ss = ss.reverse.map (rv l.z) := by
  unfold inverted rv
  rw [h]

theorem pstepStd_y (r : PRay ℝ) (s : PSurf ℝ) : (pstepStd r s).y = r.y + (s.z - r.z) * r.u := by
  rw [pstepStd_real]

theorem pstepStd_z (r : PRay ℝ) (s : PSurf ℝ) : (pstepStd r s).z = s.z := by
  rw [pstepStd_real]

/-- `pstepStd` only sees the ray through its height and slope at the surface: sliding the start point
along the ray changes nothing -/
theorem pstepStd_slide (y u z z' : ℝ) (s : PSurf ℝ) :
    pstepStd ⟨y, u, z⟩ s = pstepStd ⟨y + (z' - z) * u, u, z'⟩ s := by
  have h : y + (s.z - z) * u = y + (z' - z) * u + (s.z - z') * u := by ring
  rw [pstepStd_real, pstepStd_real]
  dsimp only
  rw [h]

/-- time reversal at one surface: any ray `m` that runs backwards along the outgoing ray (as seen in the
coordinates of the inverted system) leaves the inverted surface backwards along the incoming ray
(refraction and mirror) -/
theorem pstepStd_back (r m : PRay ℝ) (s : PSurf ℝ) (zl : ℝ) (hdy : s.dy = 0) (hn1 : s.n1 ≠ 0) (hn2 : s.n2 ≠ 0)
    (hu : m.u = -(pstepStd r s).u) (hy : m.y + (zl - s.z - m.z) * m.u = (pstepStd r s).y) :
    pstepStd m (rv zl s) = ⟨(pstepStd r s).y, -r.u, zl - s.z⟩ := by
  have hrefr : ∀ P h u : ℝ, 1 / s.n1 * (s.n2 * -(1 / s.n2 * (s.n1 * u - h * P)) - h * P) = -u := by
    intro P h u; field_simp; ring
  have hP : (s.n1 - s.n2) / (s.r * -1) = (s.n2 - s.n1) / s.r := by ring
  rw [pstepStd_real m]
  simp only [rv]
  rw [hy, hu, hdy, sub_zero, hP]
  congr 1
  rw [pstepStd_real r s, hdy, sub_zero]
  rcases Bool.eq_false_or_eq_true s.refl with h | h <;> simp only [h, if_true, Bool.false_eq_true, if_false]
  · ring
  · exact hrefr _ _ _

theorem pstep_reverse (r : PRay ℝ) (s : PSurf ℝ) (zl : ℝ) (hdy : s.dy = 0) (hn1 : s.n1 ≠ 0) (hn2 : s.n2 ≠ 0) :
    let r' := pstepStd r s
    pstepStd ⟨r'.y, -r'.u, zl - s.z⟩ (rv zl s) = ⟨r'.y, -r.u, zl - s.z⟩ :=
  pstepStd_back r _ s zl hdy hn1 hn2 rfl (by ring)

theorem pfinal_z (L : List (PSurf ℝ)) (s : PSurf ℝ) (r : PRay ℝ) (hs : s.kind = .standard) :
    (pfinal r (L ++ [s])).z = s.z := by
  rw [pfinal_append]
  simp only [pfinal, List.foldl_cons, List.foldl_nil, pstep, hs, pstepStd_z]

theorem pfinal_rev_z (s1 : PSurf ℝ) (ss : List (PSurf ℝ)) (zl : ℝ) (r : PRay ℝ) (hk : s1.kind = .standard) :
    (pfinal r ((s1 :: ss).reverse.map (rv zl))).z = zl - s1.z := by
  rw [List.reverse_cons, List.map_append]
  exact pfinal_z _ (rv zl s1) r hk

/-- time reversal of a lens: reverse the ray that leaves `L` and give it, anywhere on its line, to the
inverted surfaces: it leaves them with the launch slope reversed, on the line of the launch ray.
(No surface is needed for this to make sense: the statement holds for `L = []`.) -/
theorem reverse_ray (zl : ℝ) (L : List (PSurf ℝ)) : ∀ (r0 : PRay ℝ) (y' z' : ℝ), Std L →
    let rf := pfinal r0 L
    y' + (zl - rf.z - z') * -rf.u = rf.y →
    let out := pfinal ⟨y', -rf.u, z'⟩ (L.reverse.map (rv zl))
    out.u = -r0.u ∧ out.y + (zl - r0.z - out.z) * out.u = r0.y := by
  induction L with
  | nil => exact fun _ _ _ _ h => ⟨rfl, h⟩
  | cons s L ih =>
    intro r0 y' z' hstd rf h out
    obtain ⟨hs, hL⟩ := List.forall_mem_cons.mp hstd
    have hk : (rv zl s).kind = .standard := hs.1
    simp only [rf, out, pfinal_cons, pstep, hs.1] at h ⊢
    obtain ⟨hu, hy⟩ := ih (pstepStd r0 s) y' z' hL h
    rw [pstepStd_z] at hy
    simp only [List.reverse_cons, List.map_append, pfinal_append, List.map_cons, List.map_nil, pfinal_cons,
      pfinal_nil, pstep, hk]
    rw [pstepStd_back r0 _ s zl hs.2.1 hs.2.2.1 hs.2.2.2 hu hy, pstepStd_y]
    exact ⟨rfl, by ring⟩

/-- **reverse_trace**: tracing the final ray, reversed, through the inverted surfaces ends on the first
surface with the height the forward ray had there and the launch slope reversed. -/
theorem reverse_trace : ∀ (ss : List (PSurf ℝ)) (s1 : PSurf ℝ) (r0 : PRay ℝ) (zl : ℝ), Std (s1 :: ss) →
    let rf := pfinal r0 (s1 :: ss)
    pfinal ⟨rf.y, -rf.u, zl - rf.z⟩ ((s1 :: ss).reverse.map (rv zl)) =
      ⟨r0.y + (s1.z - r0.z) * r0.u, -r0.u, zl - s1.z⟩ := by
  intro ss s1 r0 zl hstd rf
  obtain ⟨hu, hy⟩ := reverse_ray zl (s1 :: ss) r0 rf.y (zl - rf.z) hstd (by ring)
  have hz := pfinal_rev_z s1 ss zl ⟨rf.y, -rf.u, zl - rf.z⟩ (hstd s1 List.mem_cons_self).1
  generalize pfinal ⟨rf.y, -rf.u, zl - rf.z⟩ ((s1 :: ss).reverse.map (rv zl)) = e at hu hy hz ⊢
  obtain ⟨ey, eu, ez⟩ := e
  dsimp only at hu hy hz
  subst hu hz
  congr 1
  linear_combination hy

/-- **EPL_is_stop_conjugate** (about the reverse trace that `EPL` performs, stated for an abstract front group; the
model's function `EPL S` itself is the subject of `EPL_model_is_stop_conjugate`): let a forward ray leave the axial point `zE` with slope `u0 ≠ 0` and,
after the surfaces in front of the stop, pass through the stop centre (height 0 at `zs`).  Then the
reverse trace the code performs — from the stop centre, through the inverted front surfaces — ends on
the first surface with height/slope ratio `y/u = zE − z₁`: `EPL` (measured from the first vertex)
is the axial position of the point conjugate to the stop centre. -/
theorem EPL_is_stop_conjugate (ss : List (PSurf ℝ)) (s1 : PSurf ℝ) (zE u0 zs zl : ℝ) (hstd : Std (s1 :: ss))
    (hu : u0 ≠ 0)
    (hstop : (pfinal ⟨0, u0, zE⟩ (s1 :: ss)).y + (zs - (pfinal ⟨0, u0, zE⟩ (s1 :: ss)).z) *
      (pfinal ⟨0, u0, zE⟩ (s1 :: ss)).u = 0) :
    let rf := pfinal ⟨0, u0, zE⟩ (s1 :: ss)
    let e := pfinal ⟨0, -rf.u, zl - zs⟩ ((s1 :: ss).reverse.map (rv zl))
    e.y / e.u = zE - s1.z := by
  intro rf e
  -- the code starts on the stop plane, which is a point of the reversed exit ray
  obtain ⟨hu', hy⟩ := reverse_ray zl (s1 :: ss) ⟨0, u0, zE⟩ 0 (zl - zs) hstd (by linear_combination -hstop)
  have hz : e.z = zl - s1.z := pfinal_rev_z s1 ss zl _ (hstd s1 List.mem_cons_self).1
  rw [div_eq_iff (by rw [hu']; exact neg_ne_zero.mpr hu)]
  rw [hz] at hy
  linear_combination hy

/-- the hypotheses `WF` of `ptrace_eq_matrix` and `Chained` of `lagrange_invariant` can be met: a singlet with a
mirror behind it -/
example :
    WF [⟨.object, 0, -100, 0, 1, 1, false, false⟩, ⟨.standard, 0, 0, 50, 1, 1.5, false, true⟩,
        ⟨.standard, 0, 5, -80, 1.5, 1.5, true, false⟩] ∧
    Chained 1 [⟨.object, 0, -100, 0, 1, 1, false, false⟩, ⟨.standard, 0, 0, 50, 1, 1.5, false, true⟩,
        ⟨.standard, 0, 5, -80, 1.5, 1.5, true, false⟩] := by
  constructor
  · intro s hs; simp at hs; rcases hs with rfl | rfl | rfl <;> (refine ⟨rfl, by simp, by norm_num⟩)
  · simp [Chained]

/-! ## Pupils, cardinal points, marginal/chief ray, invariant, aperture and magnification
(the model's own functions `XPL EPL f1 f2 F1 F2 P1 P2 N1 N2 marginalRay chiefRay invariant EPD FNO
magnification` over ℝ)

Layout assumed by the theorems below (optiland's): `S.surfs = obj :: … ++ [img]`, the object surface only
records, the image surface only transfers the ray to its plane (`pstepImg`).  `pfinal r ss` is the ray
recorded on the last surface of `ss`; on an image surface `y` is the height in the image plane.
List plumbing (`y[-1]`, `y[k]`, `positions[k]`, `stop_index`) is in `Proofs/Cardinal.lean`. -/

theorem pstep_lin (a b : PRay ℝ) (s : PSurf ℝ) (c1 c2 : ℝ) (hz : a.z = b.z) (hdy : s.dy = 0) :
    pstep (lin c1 c2 a b) s = lin c1 c2 (pstep a s) (pstep b s) ∧ (pstep a s).z = (pstep b s).z := by
  rw [pstep_matrix _ s hdy, pstep_matrix a s hdy, pstep_matrix b s hdy, ← hz]
  simp only [lin, ap_lin, and_self]

/-- axially symmetric surfaces of any kind: all that linearity in the launch ray needs -/
def DY0 (ss : List (PSurf ℝ)) : Prop := ∀ s ∈ ss, s.dy = 0

/-- **pfinal_lin**: the ray leaving a list of axially symmetric surfaces (of any kind, image surface
included) is linear in the launch ray -/
theorem pfinal_lin : ∀ (ss : List (PSurf ℝ)) (a b : PRay ℝ) (c1 c2 : ℝ), a.z = b.z → DY0 ss →
    pfinal (lin c1 c2 a b) ss = lin c1 c2 (pfinal a ss) (pfinal b ss) ∧ (pfinal a ss).z = (pfinal b ss).z
  | [], a, b, c1, c2, hz, _ => ⟨rfl, hz⟩
  | s :: ss, a, b, c1, c2, hz, h => by
    obtain ⟨hs, h'⟩ := List.forall_mem_cons.mp h
    obtain ⟨h1, h2⟩ := pstep_lin a b s c1 c2 hz hs
    simp only [pfinal_cons]
    rw [h1]
    exact pfinal_lin ss _ _ c1 c2 h2 h'

theorem pfinal_smul (ss : List (PSurf ℝ)) (y u z c : ℝ) (h : DY0 ss) :
    pfinal ⟨c * y, c * u, z⟩ ss =
      ⟨c * (pfinal ⟨y, u, z⟩ ss).y, c * (pfinal ⟨y, u, z⟩ ss).u, (pfinal ⟨y, u, z⟩ ss).z⟩ := by
  have e := (pfinal_lin ss ⟨y, u, z⟩ ⟨y, u, z⟩ c 0 rfl h).1
  simp only [lin, zero_mul, add_zero] at e
  exact e

theorem pfinal_scale (ss : List (PSurf ℝ)) (y u z c : ℝ) (h : DY0 ss) :
    (pfinal ⟨c * y, c * u, z⟩ ss).y = c * (pfinal ⟨y, u, z⟩ ss).y ∧
    (pfinal ⟨c * y, c * u, z⟩ ss).u = c * (pfinal ⟨y, u, z⟩ ss).u := by
  rw [pfinal_smul ss y u z c h]
  exact ⟨rfl, rfl⟩

theorem pfinal_scale_z (ss : List (PSurf ℝ)) (y u z c : ℝ) (h : DY0 ss) :
    (pfinal ⟨c * y, c * u, z⟩ ss).z = (pfinal ⟨y, u, z⟩ ss).z := by
  rw [pfinal_smul ss y u z c h]

/-- the rays from an axial point are multiples of one another -/
theorem pfinal_axial (ss : List (PSurf ℝ)) (z u v : ℝ) (hv : v ≠ 0) (h : DY0 ss) :
    pfinal ⟨0, u, z⟩ ss = ⟨u / v * (pfinal ⟨0, v, z⟩ ss).y, u / v * (pfinal ⟨0, v, z⟩ ss).u,
      (pfinal ⟨0, v, z⟩ ss).z⟩ := by
  rw [← pfinal_smul ss 0 v z (u / v) h, mul_zero, div_mul_cancel₀ u hv]

theorem drop_append_cons {β : Type} (a : List β) (s : β) (b : List β) :
    (a ++ s :: b).drop (a.length + 1) = b := by
  rw [show a ++ s :: b = (a ++ [s]) ++ b by simp]
  rw [List.drop_append_of_le_length (by simp)]
  simp

theorem tenth_eq : (tenth : ℝ) = 1/10 := by
  unfold tenth; num_real; norm_num

/-- **XPL_is_stop_conjugate**: every ray from the stop centre, traced through the surfaces behind the stop and
continued from the image surface over the distance `XPL S`, is on the axis: `XPL` (measured from the image
surface) is the axial position of the image of the stop.  `hu` guards the general branch only, where the code
divides by `u[-1]` of the ray of slope 0.1; the special branch `stop_index + 2 = n` (stop directly in front of
the image surface) returns a difference of positions and does not divide. -/
theorem XPL_is_stop_conjugate (S : PSys ℝ) (front back : List (PSurf ℝ)) (stop img : PSurf ℝ)
    (hS : S.surfs = front ++ stop :: (back ++ [img]))
    (hfront : ∀ s ∈ front, s.stop = false) (hstop : stop.stop = true)
    (hdy : DY0 back) (himg : img.kind = .image) (himgdy : img.dy = 0)
    (hu : back ≠ [] → (pfinal ⟨0, 1/10, stop.z⟩ (back ++ [img])).u ≠ 0)
    (u0 : ℝ) :
    let rf := pfinal ⟨0, u0, stop.z⟩ (back ++ [img])
    rf.y + XPL S * rf.u = 0 := by
  intro rf
  have hsi : stopIndex S.surfs = some front.length := by
    rw [hS]; exact stopIndex_append front stop _ hfront hstop
  have hX : XPL S = if front.length + 2 = S.surfs.length then
      posOf S.surfs (S.surfs.length - 2) - posOf S.surfs (S.surfs.length - 1)
    else -last (ys (ptrace ⟨0, 1/10, posOf S.surfs front.length⟩ (S.surfs.drop (front.length + 1)))) /
      last (us (ptrace ⟨0, 1/10, posOf S.surfs front.length⟩ (S.surfs.drop (front.length + 1)))) := by
    rw [← tenth_eq]; unfold XPL; rw [hsi]; rfl
  rw [hX, hS]
  cases back with
  | nil =>
    have p2 := posOf_append (front ++ [stop]) img []
    simp only [List.append_assoc, List.singleton_append, List.length_append, List.length_singleton] at p2
    have p1 := posOf_append front stop [img]
    -- `n − 2`, `n − 1` are the indices of `stop` and `img` (`p1`, `p2`); `rf` is the transfer to the image plane
    simp only [rf, List.nil_append, List.length_append, List.length_cons, List.length_nil, if_true,
      Nat.add_sub_cancel, Nat.add_succ_sub_one, zero_add, p1, p2, pfinal_cons, pfinal_nil, pstep, himg,
      pstepImg_real, himgdy]
    ring
  | cons b bs =>
    have hd : DY0 (b :: bs ++ [img]) := by
      intro s hs
      rcases List.mem_append.mp hs with h | h
      · exact hdy s h
      · rw [List.mem_singleton.mp h]; exact himgdy
    rw [if_neg (by simp), drop_append_cons, last_ys _ _ (by simp), last_us _ _ (by simp), posOf_append]
    simp only [rf]
    rw [pfinal_axial _ stop.z u0 (1/10) (by norm_num) hd]
    have hu' := hu (List.cons_ne_nil _ _)
    simp only [pfinal] at hu' ⊢
    generalize List.foldl pstep ⟨0, 1/10, stop.z⟩ (b :: bs ++ [img]) = p at hu' ⊢
    field_simp
    ring

/-- launch ray of `Paraxial.marginal_ray` -/
noncomputable def marginalLaunch (S : PSys ℝ) : PRay ℝ :=
  if S.objInf then ⟨EPD S / 2, 0, posOf S.surfs 1 - 10⟩
  else ⟨0, EPD S / (2 * (EPL S - posOf S.surfs 0)), posOf S.surfs 0⟩

theorem marginalRay_eq (S : PSys ℝ) : marginalRay S = ptrace (marginalLaunch S) S.surfs := by
  unfold marginalRay marginalLaunch traceGeneric
  num_real
  cases S.objInf <;> simp

/-- the reverse trace from the stop centre that `EPL` and `chief_ray` perform (last record) -/
noncomputable def stopBack (S : PSys ℝ) (u : ℝ) : List (PRay ℝ) :=
  let inv := inverted S.surfs
  let si := (stopIndex inv).getD 0
  traceGeneric S.surfs 0 u (posOf inv si) true (si + 1)

/-- the slope `u1` that `chief_ray` gives the second reverse trace -/
noncomputable def chiefU1 (S : PSys ℝ) : ℝ :=
  match S.fieldType with
  | .objectHeight =>
    1/10 * S.maxYField / (last (ys (stopBack S (1/10))) + last (us (stopBack S (1/10))) *
      (posOf S.surfs 1 - posOf S.surfs 0))
  | .angle => 1/10 * Real.tan (S.maxYField * (Real.pi / 180)) / last (us (stopBack S (1/10)))

/-- launch ray of the forward trace in `Paraxial.chief_ray` -/
noncomputable def chiefLaunch (S : PSys ℝ) : PRay ℝ :=
  ⟨-last (ys (stopBack S (chiefU1 S))), last (us (stopBack S (chiefU1 S))), posOf S.surfs 1⟩

theorem chiefRay_eq (S : PSys ℝ) : chiefRay S = ptrace (chiefLaunch S) S.surfs := by
  unfold chiefRay chiefLaunch chiefU1 stopBack deg2rad
  simp only [tenth_eq]
  num_real
  simp only [traceGeneric, Bool.false_eq_true, if_false, List.drop_zero, if_true, Nat.cast_ofNat,
    Nat.cast_one, div_one]
  cases S.fieldType <;> rfl

theorem EPL_eq (S : PSys ℝ) (h : stopIndex S.surfs ≠ some 0) :
    EPL S = last (ys (stopBack S (1/10))) / last (us (stopBack S (1/10))) := by
  unfold EPL stopBack
  simp only [tenth_eq]

/-- `Paraxial.invariant` reads the records of the marginal and the chief ray behind surface 1 -/
theorem invariant_eq_lag (S : PSys ℝ) (obj s1 : PSurf ℝ) (rest : List (PSurf ℝ))
    (hS : S.surfs = obj :: s1 :: rest) (hobj : obj.kind = .object) :
    marginalRay S = marginalLaunch S :: pstep (marginalLaunch S) s1 :: ptrace (pstep (marginalLaunch S) s1) rest ∧
    chiefRay S = chiefLaunch S :: pstep (chiefLaunch S) s1 :: ptrace (pstep (chiefLaunch S) s1) rest ∧
    invariant S = lag 1 s1.n2 (pstep (marginalLaunch S) s1) (pstep (chiefLaunch S) s1) := by
  refine ⟨by rw [marginalRay_eq, hS]; simp only [ptrace, pstep, hobj],
    by rw [chiefRay_eq, hS]; simp only [ptrace, pstep, hobj], ?_⟩
  unfold invariant
  rw [marginalRay_eq, chiefRay_eq]
  simp only [hS, ptrace, pstep, hobj, nList, nth, ys, us, List.map_cons, List.getD_cons_succ,
    List.getD_cons_zero, lag]
  num_real
  ring

/-- **invariant_is_lagrange**: `Paraxial.invariant` is `n (ȳ u − y ū)` of the model's marginal ray
`(y,u)` and chief ray `(ȳ,ū)` in the medium behind surface 1 (`lag 1 n₁ a₁ b₁`; the property text writes
the opposite overall sign, `n (ū y − u ȳ)`), and the same value is found behind every later surface
(with the orientation sign `σ` that flips at each mirror). -/
theorem invariant_is_lagrange (S : PSys ℝ) (obj s1 : PSurf ℝ) (rest : List (PSurf ℝ))
    (hS : S.surfs = obj :: s1 :: rest) (hobj : obj.kind = .object) (hk : s1.kind = .standard)
    (hch : Chained s1.n2 rest) (hwf : WFL rest) :
    let a1 := pstep (marginalLaunch S) s1
    let b1 := pstep (chiefLaunch S) s1
    marginalRay S = marginalLaunch S :: a1 :: ptrace a1 rest ∧
    chiefRay S = chiefLaunch S :: b1 :: ptrace b1 rest ∧
    invariant S = s1.n2 * (b1.y * a1.u - a1.y * b1.u) ∧
    AllInv 1 (invariant S) rest (ptrace a1 rest) (ptrace b1 rest) := by
  intro a1 b1
  obtain ⟨ha, hb, hinv⟩ := invariant_eq_lag S obj s1 rest hS hobj
  refine ⟨ha, hb, by rw [hinv, lag]; ring, ?_⟩
  rw [hinv]
  exact lagrange_invariant rest a1 b1 1 s1.n2 (by simp only [a1, b1, pstep, hk, pstepStd_z]) hch hwf

theorem rv_rv (zl : ℝ) (s : PSurf ℝ) : rv zl (rv zl s) = s := by
  cases s
  simp only [rv, PSurf.mk.injEq, true_and, and_true]
  constructor <;> ring

theorem rv_involution (zl : ℝ) (L : List (PSurf ℝ)) : (L.reverse.map (rv zl)).reverse.map (rv zl) = L := by
  rw [← List.map_reverse, List.reverse_reverse, List.map_map]
  have : rv zl ∘ rv zl = id := by funext s; exact rv_rv zl s
  rw [this, List.map_id]

theorem Std_rv (zl : ℝ) (L : List (PSurf ℝ)) (h : Std L) : Std (L.reverse.map (rv zl)) := by
  intro s hs
  obtain ⟨t, ht, hts⟩ := List.mem_map.mp hs
  have := h t (List.mem_reverse.mp ht)
  rw [← hts]
  exact ⟨this.1, this.2.1, this.2.2.2, this.2.2.1⟩

/-- what the reverse trace from the stop centre returns as `y[-1]`, `u[-1]`: the ray leaving the
inverted front group (the surfaces between object and stop) -/
theorem stopBack_last (S : PSys ℝ) (obj stop l : PSurf ℝ) (front back : List (PSurf ℝ))
    (hS : S.surfs = obj :: front ++ stop :: back) (hl : S.surfs.getLast? = some l)
    (hobj : obj.kind = .object) (hstop : stop.stop = true) (hback : ∀ s ∈ back, s.stop = false) (u : ℝ) :
    last (ys (stopBack S u)) = (pfinal ⟨0, u, l.z - stop.z⟩ (front.reverse.map (rv l.z))).y ∧
    last (us (stopBack S u)) = (pfinal ⟨0, u, l.z - stop.z⟩ (front.reverse.map (rv l.z))).u := by
  have hinv : inverted S.surfs = (back.reverse.map (rv l.z)) ++ rv l.z stop ::
      (front.reverse.map (rv l.z) ++ [rv l.z obj]) := by
    rw [inverted_eq S.surfs l hl, hS]
    simp [List.reverse_append, List.map_append]
  have hlen : (back.reverse.map (rv l.z)).length = back.length := by simp
  have hsi : stopIndex (inverted S.surfs) = some back.length := by
    rw [hinv, ← hlen]
    refine stopIndex_append _ _ _ (fun x hx => ?_) hstop
    obtain ⟨t, ht, rfl⟩ := List.mem_map.mp hx
    exact hback t (List.mem_reverse.mp ht)
  have hpos : posOf (inverted S.surfs) back.length = l.z - stop.z := by
    rw [hinv, ← hlen, posOf_append]; rfl
  have hdrop : (inverted S.surfs).drop (back.length + 1) = front.reverse.map (rv l.z) ++ [rv l.z obj] := by
    rw [hinv, ← hlen, drop_append_cons]
  have hk : (rv l.z obj).kind = .object := hobj
  simp only [stopBack, traceGeneric, if_true, hsi, Option.getD_some, hpos, hdrop]
  rw [last_ys _ _ (by simp), last_us _ _ (by simp)]
  simp only [List.foldl_append, List.foldl_cons, List.foldl_nil, pstep, hk]
  exact ⟨rfl, rfl⟩

theorem pfinal_slide (s1 : PSurf ℝ) (fs : List (PSurf ℝ)) (y u z z' : ℝ) (hk : s1.kind = .standard) :
    pfinal ⟨y, u, z⟩ (s1 :: fs) = pfinal ⟨y + (z' - z) * u, u, z'⟩ (s1 :: fs) := by
  simp only [pfinal_cons, pstep, hk]
  rw [pstepStd_slide y u z z']

theorem Std_DY0 (L : List (PSurf ℝ)) (h : Std L) : DY0 L := fun s hs => (h s hs).2.1

/-- time reversal, converse direction: launch `r0` into the inverted surfaces, reverse the ray `e` that
leaves them (and scale it by `c`), and trace it forward from the first vertex plane `z1`: it leaves `L` along
the reversed launch ray.  `L = []` is allowed. -/
theorem roundtrip (zl : ℝ) (L : List (PSurf ℝ)) (r0 : PRay ℝ) (z1 c : ℝ) (hstd : Std L)
    (hz : (pfinal r0 (L.reverse.map (rv zl))).z = zl - z1) :
    let e := pfinal r0 (L.reverse.map (rv zl))
    let g := pfinal ⟨c * e.y, c * -e.u, z1⟩ L
    g.u = c * -r0.u ∧ g.y + (zl - r0.z - g.z) * g.u = c * r0.y := by
  obtain ⟨hu, hy⟩ := reverse_ray zl (L.reverse.map (rv zl)) r0 (pfinal r0 (L.reverse.map (rv zl))).y z1
    (Std_rv zl L hstd) (by rw [hz]; ring)
  rw [rv_involution] at hu hy
  intro e g
  simp only [g, e, pfinal_smul L _ _ z1 c (Std_DY0 L hstd)]
  exact ⟨by rw [hu], by linear_combination c * hy⟩

/-- the ray that leaves the inverted front group when launched from the stop centre, reversed and traced
forward through the front group, comes back to the stop centre -/
theorem front_roundtrip (s1 : PSurf ℝ) (fs : List (PSurf ℝ)) (zl zs u : ℝ) (hstd : Std (s1 :: fs)) :
    let e := pfinal ⟨0, u, zl - zs⟩ ((s1 :: fs).reverse.map (rv zl))
    let g := pfinal ⟨e.y, -e.u, s1.z⟩ (s1 :: fs)
    g.y + (zs - g.z) * g.u = 0 := by
  intro e g
  have h := (roundtrip zl (s1 :: fs) ⟨0, u, zl - zs⟩ s1.z 1 hstd
    (pfinal_rev_z s1 fs zl _ (hstd s1 List.mem_cons_self).1)).2
  simp only [one_mul] at h
  linear_combination h

/-- **chiefRay_def**: the chief ray the model returns has height 0 on the stop surface, whatever the
field type and field value. -/
theorem chiefRay_def (S : PSys ℝ) (obj stop l : PSurf ℝ) (front back : List (PSurf ℝ))
    (hS : S.surfs = obj :: front ++ stop :: back) (hl : S.surfs.getLast? = some l)
    (hobj : obj.kind = .object) (hstop : stop.stop = true) (hback : ∀ s ∈ back, s.stop = false)
    (hstd : Std front) (hsk : stop.kind = .standard) :
    nth (ys (chiefRay S)) (front.length + 1) = 0 := by
  rw [chiefRay_eq, hS]
  have := nth_ys_append (chiefLaunch S) (obj :: front) stop back
  simp only [List.length_cons] at this
  rw [this]
  simp only [List.foldl_cons, pstep, hobj, hsk]
  obtain ⟨hy, hu⟩ := stopBack_last S obj stop l front back hS hl hobj hstop hback (chiefU1 S)
  unfold chiefLaunch
  rw [hy, hu, pstepStd_y]
  -- the launch ray is the reversed exit ray of the backward trace from the stop centre
  have hz : (pfinal ⟨0, chiefU1 S, l.z - stop.z⟩ (front.reverse.map (rv l.z))).z = l.z - posOf S.surfs 1 := by
    rw [hS]
    cases front with
    | nil => rfl
    | cons s1 fs => exact pfinal_rev_z s1 fs l.z _ (hstd s1 List.mem_cons_self).1
  have h := (roundtrip l.z front ⟨0, chiefU1 S, l.z - stop.z⟩ (posOf S.surfs 1) (-1) hstd hz).2
  simp only [neg_one_mul, neg_neg, neg_zero, pfinal] at h ⊢
  linear_combination h

/-- `EPL` when the object surface is not the stop: height over slope of the reverse ray from the stop centre -/
theorem EPL_pfinal (S : PSys ℝ) (obj stop l : PSurf ℝ) (front back : List (PSurf ℝ))
    (hS : S.surfs = obj :: front ++ stop :: back) (hl : S.surfs.getLast? = some l)
    (hobj : obj.kind = .object) (hos : obj.stop = false) (hstop : stop.stop = true)
    (hback : ∀ s ∈ back, s.stop = false) :
    EPL S = (pfinal ⟨0, 1/10, l.z - stop.z⟩ (front.reverse.map (rv l.z))).y /
      (pfinal ⟨0, 1/10, l.z - stop.z⟩ (front.reverse.map (rv l.z))).u := by
  obtain ⟨hy, hu⟩ := stopBack_last S obj stop l front back hS hl hobj hstop hback (1/10)
  rw [EPL_eq S (by rw [hS]; simp [stopIndex, List.findIdx?_cons, hos]), hy, hu]

/-- EPL (the model's function) is the stop conjugate: every forward ray launched from the axial point
`EPL S` behind the first vertex passes, after the surfaces in front of the stop, through the centre of the
stop.  Guard `hu`: the reverse ray of slope 0.1 does not leave the front group parallel to the axis
(entrance pupil at infinity: the code divides by `u[-1] = 0`). -/
theorem EPL_model_is_stop_conjugate (S : PSys ℝ) (obj stop l : PSurf ℝ) (front back : List (PSurf ℝ))
    (hS : S.surfs = obj :: front ++ stop :: back) (hl : S.surfs.getLast? = some l)
    (hobj : obj.kind = .object) (hos : obj.stop = false) (hstop : stop.stop = true)
    (hback : ∀ s ∈ back, s.stop = false) (hstd : Std front)
    (hu : (pfinal ⟨0, 1/10, l.z - stop.z⟩ (front.reverse.map (rv l.z))).u ≠ 0) (u0 : ℝ) :
    let g := pfinal ⟨0, u0, posOf S.surfs 1 + EPL S⟩ front
    g.y + (stop.z - g.z) * g.u = 0 := by
  intro g
  simp only [g, EPL_pfinal S obj stop l front back hS hl hobj hos hstop hback]
  cases front with
  | nil =>
    have hp : posOf S.surfs 1 = stop.z := by rw [hS]; rfl
    simp [hp, pfinal_nil]
  | cons s1 fs =>
    have hp : posOf S.surfs 1 = s1.z := by rw [hS]; rfl
    have hk := (hstd s1 List.mem_cons_self).1
    -- slid to the first vertex plane, the launch ray is a multiple of the reversed exit ray `e`
    have h := (roundtrip l.z (s1 :: fs) ⟨0, 1/10, l.z - stop.z⟩ s1.z
      (-u0 / (pfinal ⟨0, 1/10, l.z - stop.z⟩ ((s1 :: fs).reverse.map (rv l.z))).u) hstd
      (pfinal_rev_z s1 fs l.z _ hk)).2
    generalize pfinal ⟨0, 1/10, l.z - stop.z⟩ ((s1 :: fs).reverse.map (rv l.z)) = e at hu h ⊢
    rw [hp, pfinal_slide s1 fs 0 u0 (s1.z + e.y / e.u) s1.z hk]
    have e1 : (⟨0 + (s1.z - (s1.z + e.y / e.u)) * u0, u0, s1.z⟩ : PRay ℝ) =
        ⟨-u0 / e.u * e.y, -u0 / e.u * -e.u, s1.z⟩ := by
      congr 1
      · ring
      · field_simp
    rw [e1]
    linear_combination h

/-- marginalRay_def (object at infinity): the marginal ray is the trace of a ray parallel to the axis
at height `EPD/2` — its height in object space, in particular in the entrance-pupil plane, is `EPD/2`. -/
theorem marginalRay_def_infinite (S : PSys ℝ) (hinf : S.objInf = true) :
    marginalRay S = ptrace (marginalLaunch S) S.surfs ∧ (marginalLaunch S).u = 0 ∧
    ∀ z, (marginalLaunch S).y + (z - (marginalLaunch S).z) * (marginalLaunch S).u = EPD S / 2 := by
  refine ⟨marginalRay_eq S, ?_, ?_⟩ <;> simp [marginalLaunch, hinf]

/-- marginalRay_def (finite object): the marginal ray starts on the axis in the object plane and
has height `EPD/2` in the plane `z = EPL S`.  (`EPL` is measured from the first vertex; the code uses it as
a global coordinate, which is the entrance-pupil plane when the first surface sits at `z = 0` —
optiland's convention.)  Guard: the pupil is not in the object plane (the code divides by `EPL − z_obj`). -/
theorem marginalRay_def_finite (S : PSys ℝ) (hfin : S.objInf = false) (hz : EPL S ≠ posOf S.surfs 0) :
    marginalRay S = ptrace (marginalLaunch S) S.surfs ∧ (marginalLaunch S).y = 0 ∧
    (marginalLaunch S).z = posOf S.surfs 0 ∧
    (marginalLaunch S).y + (EPL S - (marginalLaunch S).z) * (marginalLaunch S).u = EPD S / 2 := by
  refine ⟨marginalRay_eq S, ?_, ?_, ?_⟩ <;> simp only [marginalLaunch, hfin, Bool.false_eq_true, if_false]
  have : EPL S - posOf S.surfs 0 ≠ 0 := sub_ne_zero.mpr hz
  field_simp
  ring

/-- field angle: the chief ray enters with slope `tan(field angle)` -/
theorem chiefRay_field_angle (S : PSys ℝ) (obj stop l : PSurf ℝ) (front back : List (PSurf ℝ))
    (hS : S.surfs = obj :: front ++ stop :: back) (hl : S.surfs.getLast? = some l)
    (hobj : obj.kind = .object) (hstop : stop.stop = true) (hback : ∀ s ∈ back, s.stop = false)
    (hstd : Std front) (hft : S.fieldType = .angle)
    (hu : (pfinal ⟨0, 1/10, l.z - stop.z⟩ (front.reverse.map (rv l.z))).u ≠ 0) :
    (chiefLaunch S).u = Real.tan (S.maxYField * (Real.pi / 180)) := by
  obtain ⟨_, hu1⟩ := stopBack_last S obj stop l front back hS hl hobj hstop hback (1/10)
  obtain ⟨_, hu2⟩ := stopBack_last S obj stop l front back hS hl hobj hstop hback (chiefU1 S)
  have hU : chiefU1 S = 1/10 * Real.tan (S.maxYField * (Real.pi / 180)) / last (us (stopBack S (1/10))) := by
    simp only [chiefU1, hft]
  simp only [chiefLaunch]
  rw [hu2, pfinal_axial _ _ (chiefU1 S) (1/10) (by norm_num) (Std_DY0 _ (Std_rv l.z front hstd)), hU, hu1]
  field_simp

/-- object-height field: the chief ray comes from the object point at height `−maxYField` -/
theorem chiefRay_field_height (S : PSys ℝ) (obj stop l : PSurf ℝ) (front back : List (PSurf ℝ))
    (hS : S.surfs = obj :: front ++ stop :: back) (hl : S.surfs.getLast? = some l)
    (hobj : obj.kind = .object) (hstop : stop.stop = true) (hback : ∀ s ∈ back, s.stop = false)
    (hstd : Std front) (hft : S.fieldType = .objectHeight)
    (hden : (pfinal ⟨0, 1/10, l.z - stop.z⟩ (front.reverse.map (rv l.z))).y +
      (pfinal ⟨0, 1/10, l.z - stop.z⟩ (front.reverse.map (rv l.z))).u * (posOf S.surfs 1 - posOf S.surfs 0) ≠ 0) :
    (chiefLaunch S).y + (posOf S.surfs 0 - (chiefLaunch S).z) * (chiefLaunch S).u = -S.maxYField := by
  obtain ⟨hy1, hu1⟩ := stopBack_last S obj stop l front back hS hl hobj hstop hback (1/10)
  obtain ⟨hy2, hu2⟩ := stopBack_last S obj stop l front back hS hl hobj hstop hback (chiefU1 S)
  have hU : chiefU1 S = 1/10 * S.maxYField / (last (ys (stopBack S (1/10))) + last (us (stopBack S (1/10))) *
      (posOf S.surfs 1 - posOf S.surfs 0)) := by
    simp only [chiefU1, hft]
  simp only [chiefLaunch]
  rw [hy2, hu2, pfinal_axial _ _ (chiefU1 S) (1/10) (by norm_num) (Std_DY0 _ (Std_rv l.z front hstd)), hU,
    hy1, hu1]
  generalize pfinal ⟨0, 1/10, l.z - stop.z⟩ (front.reverse.map (rv l.z)) = e at hden ⊢
  field_simp
  ring

/-! ### demonstration systems for the non-vacuity examples: a thick biconvex singlet (R = ±50, t = 5,
n = 3/2), finite object at z = −100, image surface in the paraxial image plane z = 105 (1:1 imaging); `demo` has the stop (a plane dummy surface)
behind the lens, `demo2` in front of it. -/
noncomputable def dObj : PSurf ℝ := ⟨.object, 0, -100, 0, 1, 1, false, false⟩
noncomputable def dS1 : PSurf ℝ := ⟨.standard, 0, 0, 50, 1, 3/2, false, false⟩
noncomputable def dS2 : PSurf ℝ := ⟨.standard, 0, 5, -50, 3/2, 1, false, false⟩
noncomputable def dStop : PSurf ℝ := ⟨.standard, 0, 10, 0, 1, 1, false, true⟩
noncomputable def dStopF : PSurf ℝ := ⟨.standard, 0, -5, 0, 1, 1, false, true⟩
noncomputable def dImg : PSurf ℝ := ⟨.image, 0, 105, 0, 1, 1, false, false⟩
noncomputable def demo : PSys ℝ := ⟨[dObj, dS1, dS2, dStop, dImg], .EPD, 10, .angle, 5, false⟩
noncomputable def demo2 : PSys ℝ := ⟨[dObj, dStopF, dS1, dS2, dImg], .EPD, 10, .objectHeight, 5, false⟩

theorem demo_std : Std [dS1, dS2] := by
  intro s hs; simp at hs
  rcases hs with rfl | rfl <;> simp [dS1, dS2]

/-- non-vacuity of `XPL_is_stop_conjugate`, special branch (stop is the last surface before the image) -/
example (u0 : ℝ) : (pfinal ⟨0, u0, dStop.z⟩ ([] ++ [dImg])).y + XPL demo * (pfinal ⟨0, u0, dStop.z⟩ ([] ++ [dImg])).u = 0 :=
  XPL_is_stop_conjugate demo [dObj, dS1, dS2] [] dStop dImg rfl (by simp [dObj, dS1, dS2]) rfl
    (by simp [DY0]) rfl rfl (by simp) u0

/-- non-vacuity of `XPL_is_stop_conjugate`, general branch (two refracting surfaces behind the stop) -/
example (u0 : ℝ) : (pfinal ⟨0, u0, dStopF.z⟩ ([dS1, dS2] ++ [dImg])).y +
    XPL demo2 * (pfinal ⟨0, u0, dStopF.z⟩ ([dS1, dS2] ++ [dImg])).u = 0 :=
  XPL_is_stop_conjugate demo2 [dObj] [dS1, dS2] dStopF dImg rfl (by simp [dObj]) rfl
    (Std_DY0 _ demo_std) rfl rfl (by
      intro _
      simp only [pfinal, List.cons_append, List.nil_append, List.foldl_cons, List.foldl_nil, pstep,
        pstepStd_real, pstepImg_real, dS1, dS2, dImg, dStopF, Bool.false_eq_true, if_false]
      norm_num) u0

theorem demo_last : demo.surfs.getLast? = some dImg := rfl
theorem demo2_last : demo2.surfs.getLast? = some dImg := rfl

/-- the reverse ray from the stop centre of `demo` leaves the lens towards the axis point 4900/521 behind
the first vertex -/
theorem demo_back : (pfinal ⟨0, 1/10, dImg.z - dStop.z⟩ ([dS1, dS2].reverse.map (rv dImg.z))).u = 521/6000 ∧
    (pfinal ⟨0, 1/10, dImg.z - dStop.z⟩ ([dS1, dS2].reverse.map (rv dImg.z))).y = 49/60 := by
  -- write out the inverted list `[rv dS2, rv dS1]`, then the two refractions by `pstepStd_real`, then the numbers
  simp only [pfinal, List.reverse_cons, List.reverse_nil, List.nil_append, List.cons_append, List.map_cons,
    List.map_nil, List.foldl_cons, List.foldl_nil, pstep, pstepStd_real, rv, dS1, dS2, dImg, dStop,
    Bool.false_eq_true, if_false]
  norm_num

theorem demo_EPL : EPL demo = 4900/521 := by
  rw [EPL_pfinal demo dObj dStop dImg [dS1, dS2] [dImg] rfl demo_last rfl rfl rfl (by simp [dImg]),
    demo_back.1, demo_back.2]
  norm_num

example (u0 : ℝ) : (pfinal ⟨0, u0, posOf demo.surfs 1 + EPL demo⟩ [dS1, dS2]).y +
    (dStop.z - (pfinal ⟨0, u0, posOf demo.surfs 1 + EPL demo⟩ [dS1, dS2]).z) *
      (pfinal ⟨0, u0, posOf demo.surfs 1 + EPL demo⟩ [dS1, dS2]).u = 0 :=
  EPL_model_is_stop_conjugate demo dObj dStop dImg [dS1, dS2] [dImg] rfl demo_last rfl rfl rfl
    (by simp [dImg]) demo_std (by rw [demo_back.1]; norm_num) u0

/-- non-vacuity of `chiefRay_def`: stop behind the lens, and stop in front of it (empty front group) -/
example : nth (ys (chiefRay demo)) 3 = 0 :=
  chiefRay_def demo dObj dStop dImg [dS1, dS2] [dImg] rfl demo_last rfl rfl (by simp [dImg]) demo_std rfl
example : nth (ys (chiefRay demo2)) 1 = 0 :=
  chiefRay_def demo2 dObj dStopF dImg [] [dS1, dS2, dImg] rfl demo2_last rfl rfl
    (by simp [dImg, dS1, dS2]) (by intro s hs; simp at hs) rfl

example : (chiefLaunch demo).u = Real.tan (5 * (Real.pi / 180)) :=
  chiefRay_field_angle demo dObj dStop dImg [dS1, dS2] [dImg] rfl demo_last rfl rfl (by simp [dImg])
    demo_std rfl (by rw [demo_back.1]; norm_num)

/-- non-vacuity of `chiefRay_field_height` (`demo2`: the stop is the first surface, empty front group) -/
example : (chiefLaunch demo2).y + (posOf demo2.surfs 0 - (chiefLaunch demo2).z) * (chiefLaunch demo2).u = -5 :=
  chiefRay_field_height demo2 dObj dStopF dImg [] [dS1, dS2, dImg] rfl demo2_last rfl rfl
    (by simp [dImg, dS1, dS2]) (by intro s hs; simp at hs) rfl (by
      simp [pfinal_nil, posOf, demo2, dObj, dStopF]; norm_num)

example : (marginalLaunch demo).y + (EPL demo - (marginalLaunch demo).z) * (marginalLaunch demo).u = EPD demo / 2 :=
  (marginalRay_def_finite demo rfl (by rw [demo_EPL]; simp [posOf, demo, dObj]; norm_num)).2.2.2

example : (marginalLaunch { demo with objInf := true }).u = 0 :=
  (marginalRay_def_infinite { demo with objInf := true } rfl).2.1

example : AllInv 1 (invariant demo) [dS2, dStop, dImg]
    (ptrace (pstep (marginalLaunch demo) dS1) [dS2, dStop, dImg])
    (ptrace (pstep (chiefLaunch demo) dS1) [dS2, dStop, dImg]) :=
  (invariant_is_lagrange demo dObj dS1 [dS2, dStop, dImg] rfl rfl rfl
    (by simp [Chained, dS1, dS2, dStop, dImg])
    (by intro s hs; simp at hs; rcases hs with rfl | rfl | rfl <;> simp [dS2, dStop, dImg])).2.2.2

theorem Std_WF (L : List (PSurf ℝ)) (h : Std L) : WF L := fun s hs =>
  ⟨(h s hs).2.1, by rw [(h s hs).1]; simp, (h s hs).2.2.2⟩

theorem pfinal_z_last (L : List (PSurf ℝ)) (sk : PSurf ℝ) (r : PRay ℝ) (hstd : Std L)
    (hk : L.getLast? = some sk) : (pfinal r L).z = sk.z := by
  obtain ⟨init, rfl⟩ := List.getLast?_eq_some_iff.mp hk
  exact pfinal_z init sk r (hstd sk (by simp)).1

/-- the four traces behind `f2`, `F2`, `f1`, `F1`, as rays leaving the lens `L` (forward) and the
inverted lens (backward) -/
theorem cardinal_eval (S : PSys ℝ) (obj img s1 sk : PSurf ℝ) (L : List (PSurf ℝ))
    (hS : S.surfs = obj :: L ++ [img]) (hobj : obj.kind = .object) (himg : img.kind = .image)
    (himgdy : img.dy = 0) (hstd : Std L) (h1 : L.head? = some s1) (hk : L.getLast? = some sk) :
    let p := pfinal ⟨1, 0, s1.z⟩ L
    let q := pfinal ⟨1, 0, 0⟩ (L.reverse.map (rv img.z))
    f2 S = -1 / p.u ∧ F2 S = -(p.y + (img.z - sk.z) * p.u) / p.u ∧ f1 S = 1 / q.u ∧ F1 S = q.y / q.u := by
  intro p q
  obtain ⟨ss, rfl⟩ := List.head?_eq_some_iff.mp h1
  -- forward: the object surface records the launch ray, the image surface transfers to its plane
  obtain ⟨e2, eF2⟩ := f2_F2_pfinal S obj (s1 :: ss ++ [img]) hS hobj
  have hp1 : posOf S.surfs 1 = s1.z := by rw [hS]; rfl
  have hfw : pfinal ⟨1, 0, posOf S.surfs 1 - 1⟩ (s1 :: ss ++ [img]) = pstepImg p img := by
    rw [hp1, List.cons_append, pfinal_slide s1 _ 1 0 _ s1.z (hstd s1 List.mem_cons_self).1, mul_zero,
      add_zero, ← List.cons_append, pfinal_append]
    simp only [pfinal_cons, pfinal_nil, pstep, himg, p]
  rw [hfw, pstepImg_real, himgdy, sub_zero, pfinal_z_last _ sk _ hstd hk] at e2 eF2
  -- backward: the inverted image surface comes first and puts the launch ray on its plane `z = 0`,
  -- the inverted object surface comes last and only records
  have hinv : inverted S.surfs = rv img.z img :: ((s1 :: ss).reverse.map (rv img.z) ++ [rv img.z obj]) := by
    rw [inverted_eq S.surfs img (by rw [hS]; exact List.getLast?_concat), hS]
    simp [List.reverse_append, List.map_append]
  have hki : (rv img.z img).kind = .image := himg
  have hko : (rv img.z obj).kind = .object := hobj
  have hdy : (rv img.z img).dy = 0 := himgdy
  refine ⟨e2, eF2, ?_⟩
  simp only [f1, F1, traceGeneric, if_true, List.drop_zero]
  num_real
  rw [hinv, first_ys, last_us _ _ (List.cons_ne_nil _ _), last_ys _ _ (List.cons_ne_nil _ _)]
  simp only [List.foldl_cons, List.foldl_append, List.foldl_nil, pstep, hki, hko, pstepImg_real, hdy, sub_zero,
    mul_zero, add_zero]
  exact ⟨rfl, rfl⟩

/-- time reversal for the unit-height parallel ray: the ray `q` leaving the inverted lens, reversed and
traced forward, leaves the lens at height 1 parallel to the axis -/
theorem cardinal_roundtrip (L : List (PSurf ℝ)) (s1 : PSurf ℝ) (zl : ℝ) (hstd : Std L)
    (h1 : L.head? = some s1) :
    let q := pfinal ⟨1, 0, 0⟩ (L.reverse.map (rv zl))
    (pfinal ⟨q.y, -q.u, s1.z⟩ L).y = 1 ∧ (pfinal ⟨q.y, -q.u, s1.z⟩ L).u = 0 := by
  intro q
  obtain ⟨ss, rfl⟩ := List.head?_eq_some_iff.mp h1
  obtain ⟨hu, hy⟩ := roundtrip zl (s1 :: ss) ⟨1, 0, 0⟩ s1.z 1 hstd
    (pfinal_rev_z s1 ss zl _ (hstd s1 List.mem_cons_self).1)
  simp only [one_mul, neg_zero] at hu hy
  exact ⟨by rw [hu, mul_zero, add_zero] at hy; exact hy, hu⟩

/-- `S` is a lens in optiland's layout: object surface, a non-empty list `L` of axially symmetric standard
surfaces with non-zero indices (first `s1`, last `sk`; refracting or reflecting), image surface -/
structure IsLens (S : PSys ℝ) (obj img s1 sk : PSurf ℝ) (L : List (PSurf ℝ)) : Prop where
  surfs : S.surfs = obj :: L ++ [img]
  hobj : obj.kind = .object
  himg : img.kind = .image
  himgdy : img.dy = 0
  std : Std L
  head : L.head? = some s1
  last : L.getLast? = some sk

theorem IsLens.ne_nil {S : PSys ℝ} {obj img s1 sk : PSurf ℝ} {L : List (PSurf ℝ)}
    (h : IsLens S obj img s1 sk L) : L ≠ [] := by
  intro hn; have := h.head; rw [hn] at this; simp at this

theorem IsLens.cons {S : PSys ℝ} {obj img s1 sk : PSurf ℝ} {L : List (PSurf ℝ)}
    (h : IsLens S obj img s1 sk L) : ∃ ss, L = s1 :: ss :=
  List.head?_eq_some_iff.mp h.head

theorem IsLens.matrix {S : PSys ℝ} {obj img s1 sk : PSurf ℝ} {L : List (PSurf ℝ)}
    (h : IsLens S obj img s1 sk L) (y u : ℝ) :
    pfinal ⟨y, u, s1.z⟩ L = ⟨(sysMat s1.z L).a * y + (sysMat s1.z L).b * u,
      (sysMat s1.z L).c * y + (sysMat s1.z L).d * u, sk.z⟩ := by
  obtain ⟨hy, hu⟩ := pfinal_eq_sysMat L ⟨y, u, s1.z⟩ (Std_WF L h.std) h.ne_nil
  simp only at hy hu
  rw [← hy, ← hu, ← pfinal_z_last L sk ⟨y, u, s1.z⟩ h.std h.last]

theorem IsLens.matrix_at {S : PSys ℝ} {obj img s1 sk : PSurf ℝ} {L : List (PSurf ℝ)}
    (h : IsLens S obj img s1 sk L) (y u z : ℝ) :
    pfinal ⟨y, u, z⟩ L = ⟨(sysMat s1.z L).a * (y + (s1.z - z) * u) + (sysMat s1.z L).b * u,
      (sysMat s1.z L).c * (y + (s1.z - z) * u) + (sysMat s1.z L).d * u, sk.z⟩ := by
  obtain ⟨ss, rfl⟩ := h.cons
  rw [← h.matrix]
  exact pfinal_slide s1 ss y u z s1.z (h.std s1 List.mem_cons_self).1

theorem IsLens.to_image {S : PSys ℝ} {obj img s1 sk : PSurf ℝ} {L : List (PSurf ℝ)}
    (h : IsLens S obj img s1 sk L) (r : PRay ℝ) :
    (pfinal r (L ++ [img])).y = (pfinal r L).y + (img.z - (pfinal r L).z) * (pfinal r L).u ∧
    (pfinal r (L ++ [img])).u = (pfinal r L).u := by
  rw [pfinal_append]
  simp only [pfinal_cons, pfinal_nil, pstep, h.himg, pstepImg_real, h.himgdy, sub_zero, and_self]

/-- optiland's layout `IsLens` (object surface, lens, image surface; matrix from first to last vertex; for a list
without image surface see `f2_F2_eq_matrix`).  Convention (read off `pstepStd`): the ray vector is `(y, u)` with the
*unreduced* slope `u`; refraction is `[[1,0],[−(n'−n)c/n', n/n']]`, so `C = −Φ/n'` and `det M = n/n'`.
The model's `f2 = −1/C = n'/Φ` is the rear focal length (distance from `P2` to `F2`), and `F2` is the back
focal distance `−A/C` from the last vertex, re-measured from the image surface. -/
theorem f2_F2_from_matrix (S : PSys ℝ) (obj img s1 sk : PSurf ℝ) (L : List (PSurf ℝ))
    (h : IsLens S obj img s1 sk L) :
    let M := sysMat s1.z L
    f2 S = -1 / M.c ∧ (M.c ≠ 0 → F2 S = -M.a / M.c - (img.z - sk.z)) := by
  intro M
  simp only [M]
  clear M
  obtain ⟨e2, e2', _, _⟩ := cardinal_eval S obj img s1 sk L h.surfs h.hobj h.himg h.himgdy h.std h.head h.last
  have hm := h.matrix 1 0
  rw [hm] at e2 e2'
  simp only [mul_one, mul_zero, add_zero] at e2 e2'
  refine ⟨e2, fun hC => ?_⟩
  rw [e2']
  field_simp
  ring

/-- the four cardinal quantities, cleared of the division by `C`.  `f1`, `F1` come from the inverted lens: its
exit ray `q`, reversed and traced forward, leaves at height 1 parallel to the axis (`cardinal_roundtrip`) -/
theorem IsLens.cardinal {S : PSys ℝ} {obj img s1 sk : PSurf ℝ} {L : List (PSurf ℝ)}
    (h : IsLens S obj img s1 sk L) (hC : (sysMat s1.z L).c ≠ 0) :
    (sysMat s1.z L).c * f2 S = -1 ∧
    (sysMat s1.z L).c * F2 S = -(sysMat s1.z L).a - (sysMat s1.z L).c * (img.z - sk.z) ∧
    (sysMat s1.z L).c * f1 S = (sysMat s1.z L).det ∧ (sysMat s1.z L).c * F1 S = (sysMat s1.z L).d ∧
    (sysMat s1.z L).det ≠ 0 := by
  obtain ⟨e2, e2'⟩ := f2_F2_from_matrix S obj img s1 sk L h
  obtain ⟨_, _, e1, e1'⟩ := cardinal_eval S obj img s1 sk L h.surfs h.hobj h.himg h.himgdy h.std h.head h.last
  obtain ⟨hy, hu⟩ := cardinal_roundtrip L s1 img.z h.std h.head
  rw [h.matrix] at hy hu
  generalize pfinal ⟨1, 0, 0⟩ (L.reverse.map (rv img.z)) = q at e1 e1' hy hu
  generalize sysMat s1.z L = M at hC e2 e2' hy hu ⊢
  -- eliminate `q.y` from the two roundtrip equations `A q.y − B q.u = 1`, `C q.y − D q.u = 0` (Cramer)
  have hdet : M.det * q.u = M.c := by
    simp only [M2.det]
    linear_combination M.c * hy - M.a * hu
  have hqu : q.u ≠ 0 := fun h0 => hC (by rw [← hdet, h0, mul_zero])
  rw [e2, e2' hC, e1, e1', mul_sub, mul_div_cancel₀ _ hC, mul_div_cancel₀ _ hC]
  refine ⟨rfl, rfl, ?_, ?_, fun h0 => hC (by rw [← hdet, h0, zero_mul])⟩
  · rw [← hdet]; field_simp
  · field_simp; linear_combination hu

/-- f1, F1 from the matrix (through the inverted lens and time reversal): `f1 = det M / C = −n/Φ`
is the front focal length (negative for a positive lens: distance from `P1` to `F1`), `F1 = D/C` the
position of the front focal point measured from the first vertex. -/
theorem f1_F1_from_matrix (S : PSys ℝ) (obj img s1 sk : PSurf ℝ) (L : List (PSurf ℝ))
    (h : IsLens S obj img s1 sk L) (hC : (sysMat s1.z L).c ≠ 0) :
    let M := sysMat s1.z L
    f1 S = M.det / M.c ∧ F1 S = M.d / M.c ∧ M.det ≠ 0 := by
  intro M
  obtain ⟨-, -, h1, hF1, hd⟩ := h.cardinal hC
  exact ⟨eq_div_of_mul_eq hC (by rw [mul_comm]; exact h1), eq_div_of_mul_eq hC (by rw [mul_comm]; exact hF1), hd⟩

/-- F2 is the back focal point and P2 the back principal plane: a ray entering parallel to the axis at
height `h` (launched anywhere in object space) reaches the image surface as `rf`; continued over the
distance `F2` it is on the axis, continued over `P2 = F2 − f2` it has its entering height `h`
(unit lateral magnification between the principal planes).  Guard `C ≠ 0`: the lens has power (for an
afocal lens the code divides by `u[-1] = 0`). -/
theorem principal_plane_unit_magnification (S : PSys ℝ) (obj img s1 sk : PSurf ℝ) (L : List (PSurf ℝ))
    (h : IsLens S obj img s1 sk L) (hC : (sysMat s1.z L).c ≠ 0) (ht z0 : ℝ) :
    let rf := pfinal ⟨ht, 0, z0⟩ (L ++ [img])
    rf.y + F2 S * rf.u = 0 ∧ rf.y + P2 S * rf.u = ht := by
  intro rf
  obtain ⟨h2, hF2, -, -⟩ := h.cardinal hC
  obtain ⟨hy, hu⟩ := h.to_image ⟨ht, 0, z0⟩
  have hP2 : P2 S = F2 S - f2 S := rfl
  simp only [rf, hy, hu, hP2, h.matrix_at]
  generalize sysMat s1.z L = M at h2 hF2 ⊢
  -- both sides are polynomials in the entries of `M` once `C·F2 = −A − C·(z_img − z_k)` and `C·f2 = −1` are put in
  exact ⟨by linear_combination ht * hF2, by linear_combination ht * hF2 - ht * h2⟩

/-- F1 is the front focal point and P1 the front principal plane: a ray from the axial point `F1`
(behind the first vertex) with any slope leaves the lens parallel to the axis, at the height it had (when
continued) in the plane `P1 = F1 − f1`. -/
theorem front_principal_plane_unit_magnification (S : PSys ℝ) (obj img s1 sk : PSurf ℝ) (L : List (PSurf ℝ))
    (h : IsLens S obj img s1 sk L) (hC : (sysMat s1.z L).c ≠ 0) (u0 : ℝ) :
    let g := pfinal ⟨0, u0, s1.z + F1 S⟩ L
    g.u = 0 ∧ g.y = 0 + (s1.z + P1 S - (s1.z + F1 S)) * u0 := by
  intro g
  obtain ⟨-, -, h1, hF1, -⟩ := h.cardinal hC
  have hP1 : P1 S = F1 S - f1 S := rfl
  simp only [g, hP1, h.matrix_at, M2.det] at h1 ⊢
  generalize sysMat s1.z L = M at hC h1 hF1 ⊢
  -- multiply by `C`, put in `C·F1 = D` and `C·f1 = det M`: both sides are polynomials in the entries of `M`
  refine ⟨by linear_combination (-u0) * hF1, mul_left_cancel₀ hC ?_⟩
  linear_combination (-M.a * u0) * hF1 + u0 * h1

/-- nodal points, positions: both are displaced from the principal planes by `f1 + f2
= (det M − 1)/C` (`= (n' − n)/Φ` for a refracting lens; `f1` is negative for a positive lens, so in air the
nodal points coincide with the principal points). -/
theorem nodal_points_positions (S : PSys ℝ) (obj img s1 sk : PSurf ℝ) (L : List (PSurf ℝ))
    (h : IsLens S obj img s1 sk L) (hC : (sysMat s1.z L).c ≠ 0) :
    N1 S - P1 S = f1 S + f2 S ∧ N2 S - P2 S = f1 S + f2 S ∧
    f1 S + f2 S = ((sysMat s1.z L).det - 1) / (sysMat s1.z L).c := by
  obtain ⟨h2, -, h1, -⟩ := h.cardinal hC
  have hN1 : N1 S = P1 S + f1 S + f2 S := rfl
  have hN2 : N2 S = P2 S + f1 S + f2 S := rfl
  refine ⟨by rw [hN1]; ring, by rw [hN2]; ring, ?_⟩
  rw [eq_div_iff hC]
  linear_combination h1 + h2

/-- nodal points, unit angular magnification: a ray aimed at `N1` (measured from the first vertex)
reaches the image surface with its slope unchanged and, continued over the distance `N2`, is on the axis:
it emerges from `N2` parallel to itself.  No restriction to `n = n'` (nor to refracting lenses) is needed:
the code's `N = P + f1 + f2` is right in general because `f1` comes from the reverse trace, `f1 = det M/C`. -/
theorem nodal_points_unit_angular_magnification (S : PSys ℝ) (obj img s1 sk : PSurf ℝ) (L : List (PSurf ℝ))
    (h : IsLens S obj img s1 sk L) (hC : (sysMat s1.z L).c ≠ 0) (u0 : ℝ) :
    let rf := pfinal ⟨0, u0, s1.z + N1 S⟩ (L ++ [img])
    rf.u = u0 ∧ rf.y + N2 S * rf.u = 0 := by
  intro rf
  obtain ⟨h2, hF2, h1, hF1, -⟩ := h.cardinal hC
  have hN1 : N1 S = F1 S - f1 S + f1 S + f2 S := rfl
  have hN2 : N2 S = F2 S - f2 S + f1 S + f2 S := rfl
  obtain ⟨hy, hu⟩ := h.to_image ⟨0, u0, s1.z + N1 S⟩
  simp only [rf, hy, hu, h.matrix_at]
  simp only [hN1, hN2, M2.det] at h1 ⊢
  generalize sysMat s1.z L = M at hC h2 hF2 h1 hF1 ⊢
  have hu' : M.c * (0 + (s1.z - (s1.z + (F1 S - f1 S + f1 S + f2 S))) * u0) + M.d * u0 = u0 := by
    linear_combination (-u0) * hF1 - u0 * h2
  refine ⟨hu', ?_⟩
  rw [hu']
  -- multiply by `C` and put in the four relations of `IsLens.cardinal`; what is left is `A·D − B·C = det M`
  apply mul_left_cancel₀ hC
  linear_combination (-M.a * u0) * hF1 + (-M.a * u0) * h2 + u0 * hF2 + u0 * h1

/-- index behind the last surface of `L` (entered from index `n`) -/
noncomputable def nOut (n : ℝ) (L : List (PSurf ℝ)) : ℝ := (L.getLast?.map (·.n2)).getD n

theorem nOut_cons (n : ℝ) (s : PSurf ℝ) (ss : List (PSurf ℝ)) : nOut n (s :: ss) = nOut s.n2 ss := by
  cases ss with
  | nil => simp [nOut]
  | cons a l =>
    simp only [nOut, List.getLast?_cons_cons]
    cases h : (a :: l).getLast? with
    | none => simp at h
    | some x => rfl

/-- determinant of the system matrix of a refracting lens: `det M = n/n'` (unreduced slopes) -/
theorem sysMat_det_refracting : ∀ (L : List (PSurf ℝ)) (n z : ℝ), Chained n L → Std L →
    (∀ s ∈ L, s.refl = false) → n ≠ 0 → (sysMat z L).det = n / nOut n L
  | [], n, z, _, _, _, hn => by simp [sysMat, M2.one, M2.det, nOut, hn]
  | s :: ss, n, z, hch, hstd, hr, hn => by
    obtain ⟨hn1, _, hch'⟩ := hch
    obtain ⟨hs, hstd'⟩ := List.forall_mem_cons.mp hstd
    obtain ⟨hrs, hr'⟩ := List.forall_mem_cons.mp hr
    have hn2 := hs.2.2.2
    simp only [sysMat, hs.1, det_mul, sysMat_det_refracting ss s.n2 s.z hch' hstd' hr' hn2, nOut_cons, elem_det,
      hrs, if_true, Bool.false_eq_true, if_false]
    rw [← hn1]
    field_simp

/-- f1/n = −f2/n' for a refracting lens between media `n` (object space) and `n'` (image space) -/
theorem focal_length_ratio (S : PSys ℝ) (obj img s1 sk : PSurf ℝ) (L : List (PSurf ℝ))
    (h : IsLens S obj img s1 sk L) (hC : (sysMat s1.z L).c ≠ 0) (hch : Chained s1.n1 L)
    (hr : ∀ s ∈ L, s.refl = false) :
    f1 S = -(s1.n1 / sk.n2) * f2 S := by
  obtain ⟨e1, _, _⟩ := f1_F1_from_matrix S obj img s1 sk L h hC
  obtain ⟨e2, _⟩ := f2_F2_from_matrix S obj img s1 sk L h
  obtain ⟨ss, hL⟩ := h.cons
  have hn1 : s1.n1 ≠ 0 := (h.std s1 (by rw [hL]; simp)).2.2.1
  have hd := sysMat_det_refracting L s1.n1 s1.z hch h.std hr hn1
  have ho : nOut s1.n1 L = sk.n2 := by simp [nOut, h.last]
  rw [e1, e2, hd, ho]
  field_simp

/-- the singlet `demo` with its stop plane is a lens in the sense of `IsLens`, and it has power -/
theorem demo_lens : IsLens demo dObj dImg dS1 dStop [dS1, dS2, dStop] where
  surfs := rfl
  hobj := rfl
  himg := rfl
  himgdy := rfl
  std := by
    intro s hs; simp at hs
    rcases hs with rfl | rfl | rfl <;> simp [dS1, dS2, dStop]
  head := rfl
  last := rfl

theorem demo_matrix : sysMat dS1.z [dS1, dS2, dStop] = ⟨521/600, 49/6, -59/3000, 29/30⟩ := by
  simp only [sysMat, elem, dS1, dS2, dStop, R, T, M2.mul, M2.one, Bool.false_eq_true, if_false, M2.mk.injEq]
  norm_num

theorem demo_power : (sysMat dS1.z [dS1, dS2, dStop]).c ≠ 0 := by rw [demo_matrix]; norm_num

/-- the cardinal data of the demonstration singlet: rear focal length 3000/59 ≈ 50.85, front focal length
the negative of it (lens in air), nodal points = principal points -/
example : f2 demo = 3000/59 ∧ f1 demo = -(3000/59) ∧ N1 demo = P1 demo := by
  obtain ⟨h2, -, h1, -⟩ := demo_lens.cardinal demo_power
  obtain ⟨n1, -, -⟩ := nodal_points_positions demo dObj dImg dS1 dStop _ demo_lens demo_power
  simp only [demo_matrix, M2.det] at h1 h2
  have e2 : f2 demo = 3000/59 := by linear_combination (-3000/59) * h2
  have e1 : f1 demo = -(3000/59) := by linear_combination (-3000/59) * h1
  exact ⟨e2, e1, by linear_combination n1 + e1 + e2⟩

example (ht z0 : ℝ) : (pfinal ⟨ht, 0, z0⟩ ([dS1, dS2, dStop] ++ [dImg])).y +
    P2 demo * (pfinal ⟨ht, 0, z0⟩ ([dS1, dS2, dStop] ++ [dImg])).u = ht :=
  (principal_plane_unit_magnification demo dObj dImg dS1 dStop _ demo_lens demo_power ht z0).2

example (u0 : ℝ) : (pfinal ⟨0, u0, dS1.z + F1 demo⟩ [dS1, dS2, dStop]).u = 0 :=
  (front_principal_plane_unit_magnification demo dObj dImg dS1 dStop _ demo_lens demo_power u0).1

example (u0 : ℝ) : (pfinal ⟨0, u0, dS1.z + N1 demo⟩ ([dS1, dS2, dStop] ++ [dImg])).u = u0 :=
  (nodal_points_unit_angular_magnification demo dObj dImg dS1 dStop _ demo_lens demo_power u0).1

example : f1 demo = -(dS1.n1 / dStop.n2) * f2 demo :=
  focal_length_ratio demo dObj dImg dS1 dStop _ demo_lens demo_power (by simp [Chained, dS1, dS2, dStop])
    (by intro s hs; simp at hs; rcases hs with rfl | rfl | rfl <;> rfl)

/-- EPD_def / FNO_def, aperture given as entrance-pupil diameter -/
theorem EPD_FNO_def_EPD (S : PSys ℝ) (h : S.apType = .EPD) :
    EPD S = S.apValue ∧ FNO S = |f2 S| / S.apValue := by
  simp only [EPD, FNO, h]
  num_real
  exact ⟨trivial, trivial⟩

/-- EPD_def / FNO_def, aperture given as image-space F-number; the two are consistent
(`FNO = |f2|/EPD`) when the lens has a non-zero focal length and the F-number is not 0 -/
theorem EPD_FNO_def_imageFNO (S : PSys ℝ) (h : S.apType = .imageFNO) :
    FNO S = S.apValue ∧ EPD S = |f2 S| / S.apValue ∧
    (f2 S ≠ 0 → S.apValue ≠ 0 → FNO S = |f2 S| / EPD S) := by
  simp only [EPD, FNO, h]
  num_real
  refine ⟨trivial, trivial, fun h2 hv => ?_⟩
  have : |f2 S| ≠ 0 := abs_ne_zero.mpr h2
  field_simp

/-- EPD_def / FNO_def, aperture given as object-space NA: the marginal ray leaves the axial object
point at the angle `asin(NA/n₀)` and the pupil diameter is twice its height `z·tan` in the plane `EPL`
(taken as a global coordinate, as in `marginal_ray`); `tan(asin x) = x/√(1−x²)`. -/
theorem EPD_FNO_def_objectNA (S : PSys ℝ) (obj : PSurf ℝ) (rest : List (PSurf ℝ)) (hS : S.surfs = obj :: rest)
    (h : S.apType = .objectNA) :
    EPD S = 2 * (EPL S - obj.z) * Real.tan (Real.arcsin (S.apValue / obj.n2)) ∧
    EPD S = 2 * (EPL S - obj.z) * ((S.apValue / obj.n2) / Real.sqrt (1 - (S.apValue / obj.n2) ^ 2)) ∧
    FNO S = |f2 S| / EPD S := by
  have e : EPD S = 2 * (EPL S - obj.z) * Real.tan (Real.arcsin (S.apValue / obj.n2)) := by
    simp only [EPD, h, hS, posOf, List.map_cons, List.getD_cons_zero, List.headD_cons]
    num_real
  refine ⟨e, ?_, ?_⟩
  · rw [e, Real.tan_arcsin]
  · simp only [FNO, h]
    num_real

theorem pfinal_lagrange : ∀ (ss : List (PSurf ℝ)) (a b : PRay ℝ) (σ n : ℝ), a.z = b.z → Chained n ss →
    WFL ss → lag (ss.foldl sgnIdx σ) (nOut n ss) (pfinal a ss) (pfinal b ss) = lag σ n a b
  | [], _, _, _, _, _, _, _ => by simp [nOut, pfinal_nil]
  | s :: ss, a, b, σ, n, hz, hch, hwf => by
    obtain ⟨hn1, hmir, hch'⟩ := hch
    obtain ⟨hs, hwf'⟩ := List.forall_mem_cons.mp hwf
    obtain ⟨hstep, hz'⟩ := pstep_lagrange a b s σ hz hs.1 hs.2 hmir
    rw [nOut_cons, pfinal_cons, pfinal_cons, List.foldl_cons, pfinal_lagrange ss _ _ _ _ hz' hch' hwf', hstep, hn1]

theorem sgn_refracting (σ : ℝ) : ∀ (ss : List (PSurf ℝ)), (∀ s ∈ ss, s.refl = false) → ss.foldl sgnIdx σ = σ
  | [], _ => rfl
  | s :: ss, h => by
    obtain ⟨hs, h'⟩ := List.forall_mem_cons.mp h
    rw [List.foldl_cons, sgnIdx, if_neg (by simp [hs])]
    exact sgn_refracting σ ss h'

theorem sgn_pm (σ : ℝ) : ∀ (ss : List (PSurf ℝ)), ss.foldl sgnIdx σ = σ ∨ ss.foldl sgnIdx σ = -σ
  | [] => Or.inl rfl
  | s :: ss => by
    rw [List.foldl_cons]
    have hs : sgnIdx σ s = -σ ∨ sgnIdx σ s = σ := ite_eq_or_eq _ _ _
    rcases hs with h | h <;> rw [h]
    · rcases sgn_pm (-σ) ss with h1 | h1
      · exact Or.inr h1
      · exact Or.inl (by rw [h1, neg_neg])
    · exact sgn_pm σ ss

/-- `(-1)**num_mirrors` as the code counts it (`is_reflective` of every surface) is the orientation used in the
Lagrange-invariant theorems, provided only standard surfaces are reflective (object and image surfaces never are) -/
theorem mirrorSign_fold (σ : ℝ) : ∀ (ss : List (PSurf ℝ)), (∀ s ∈ ss, s.refl = true → s.kind = .standard) →
    ss.foldl (fun σ s => if s.refl then Num.neg σ else σ) σ = ss.foldl sgnIdx σ
  | [], _ => rfl
  | s :: ss, h => by
    obtain ⟨hs, h'⟩ := List.forall_mem_cons.mp h
    have e : (if s.refl then Num.neg σ else σ) = sgnIdx σ s := by
      unfold sgnIdx
      cases hr : s.refl
      · simp only [Bool.false_eq_true, and_false, if_false]
      · simp only [hs hr, and_self, if_true]; rfl
    rw [List.foldl_cons, List.foldl_cons, e]
    exact mirrorSign_fold _ ss h'

theorem mirrorSign_eq (S : PSys ℝ) (obj img : PSurf ℝ) (L : List (PSurf ℝ))
    (hS : S.surfs = obj :: L ++ [img]) (hobjr : obj.refl = false)
    (hstd : ∀ s ∈ L ++ [img], s.refl = true → s.kind = .standard) :
    mirrorSign S.surfs = (L ++ [img]).foldl sgnIdx 1 := by
  simp only [mirrorSign, hS, List.cons_append, List.foldl_cons, hobjr]
  have : (if false = true then Num.neg (Num.one : ℝ) else Num.one) = (1:ℝ) := by simp; rfl
  rw [this]
  exact mirrorSign_fold 1 (L ++ [img]) hstd

/-- the code's expression: `n[0]·u[0] / ((−1)^{#mirrors}·n[-1]·u[-1])` of the marginal ray -/
theorem magnification_eq (S : PSys ℝ) (obj img : PSurf ℝ) (L : List (PSurf ℝ))
    (hS : S.surfs = obj :: L ++ [img]) (hobj : obj.kind = .object) :
    magnification S = obj.n2 * (marginalLaunch S).u /
      (mirrorSign S.surfs * img.n2 * (pfinal (marginalLaunch S) (L ++ [img])).u) := by
  simp only [magnification, marginalRay_eq, nList]
  num_real
  rw [hS, List.cons_append, first_us, last_us _ _ (List.cons_ne_nil _ _), List.foldl_cons, List.map_cons,
    List.map_append]
  simp only [pstep, hobj, first, last, List.headD_cons, List.getLastD_cons, List.map_cons, List.map_nil,
    List.getLastD_concat]
  rfl

/-- **magnification_def**: finite object; `b` is any ray from the object point at height `ht`; if the image
surface is the paraxial image plane (the marginal ray meets the axis there), `b` reaches the image surface
at height `m·ht`, where `m` is the model's `magnification` — for refracting lenses and for any number of
mirrors (the code takes the image-space index with the sign `(−1)^{number of mirrors}`; without that sign the
result is wrong after an odd number of mirrors, finding F-C04-1: `magnificationUnsigned` and the example below). -/
theorem magnification_def (S : PSys ℝ) (obj img : PSurf ℝ) (L : List (PSurf ℝ))
    (hS : S.surfs = obj :: L ++ [img]) (hobj : obj.kind = .object) (hobjr : obj.refl = false)
    (hstd : ∀ s ∈ L ++ [img], s.refl = true → s.kind = .standard) (hfin : S.objInf = false)
    (hch : Chained obj.n2 (L ++ [img])) (hwf : WFL (L ++ [img]))
    (himage : (pfinal (marginalLaunch S) (L ++ [img])).y = 0)
    (hu : (pfinal (marginalLaunch S) (L ++ [img])).u ≠ 0) (ht ub : ℝ) :
    (pfinal ⟨ht, ub, obj.z⟩ (L ++ [img])).y = magnification S * ht := by
  have hml : (marginalLaunch S).y = 0 ∧ (marginalLaunch S).z = obj.z := by
    simp [marginalLaunch, hfin, hS, posOf]
  have hlag := pfinal_lagrange (L ++ [img]) (marginalLaunch S) ⟨ht, ub, obj.z⟩ 1 obj.n2 hml.2 hch hwf
  have ho : nOut obj.n2 (L ++ [img]) = img.n2 := by simp [nOut]
  have hn : img.n2 ≠ 0 := (hwf img (by simp)).2
  have hσ : (L ++ [img]).foldl sgnIdx 1 ≠ 0 := by
    rcases sgn_pm 1 (L ++ [img]) with h | h <;> rw [h] <;> norm_num
  rw [magnification_eq S obj img L hS hobj, mirrorSign_eq S obj img L hS hobjr hstd]
  simp only [lag, ho, himage, hml.1] at hlag
  field_simp
  linear_combination hlag

/-- refracting lens: no orientation factor at all -/
theorem magnification_def_refracting (S : PSys ℝ) (obj img : PSurf ℝ) (L : List (PSurf ℝ))
    (hS : S.surfs = obj :: L ++ [img]) (hobj : obj.kind = .object) (hobjr : obj.refl = false)
    (hfin : S.objInf = false)
    (hch : Chained obj.n2 (L ++ [img])) (hwf : WFL (L ++ [img])) (hr : ∀ s ∈ L ++ [img], s.refl = false)
    (himage : (pfinal (marginalLaunch S) (L ++ [img])).y = 0)
    (hu : (pfinal (marginalLaunch S) (L ++ [img])).u ≠ 0) (ht ub : ℝ) :
    (pfinal ⟨ht, ub, obj.z⟩ (L ++ [img])).y = magnification S * ht :=
  magnification_def S obj img L hS hobj hobjr (fun s hs h => by rw [hr s hs] at h; cases h) hfin hch hwf
    himage hu ht ub

example : EPD demo = 10 ∧ FNO demo = |f2 demo| / 10 := EPD_FNO_def_EPD demo rfl
example : FNO { demo with apType := .imageFNO, apValue := 4 } = 4 :=
  (EPD_FNO_def_imageFNO { demo with apType := .imageFNO, apValue := 4 } rfl).1
example : EPD { demo with apType := .objectNA, apValue := 1/20 } =
    2 * (EPL { demo with apType := .objectNA, apValue := 1/20 } - dObj.z) *
      Real.tan (Real.arcsin (1/20 / dObj.n2)) :=
  (EPD_FNO_def_objectNA { demo with apType := .objectNA, apValue := 1/20 } dObj _ rfl rfl).1

theorem demo_ml : marginalLaunch demo = ⟨0, 10 / (2 * (4900/521 - -100)), -100⟩ := by
  unfold marginalLaunch
  rw [demo_EPL]
  simp [EPD, demo, posOf, dObj]

/-- every ray from the axial object point of `demo` meets the axis again on the image surface, with the
slope reversed: the image surface of `demo` is the paraxial image plane and the imaging is 1:1 -/
theorem demo_axial (u : ℝ) : (pfinal ⟨0, u, -100⟩ ([dS1, dS2, dStop] ++ [dImg])).y = 0 ∧
    (pfinal ⟨0, u, -100⟩ ([dS1, dS2, dStop] ++ [dImg])).u = -u := by
  obtain ⟨hy, hu⟩ := demo_lens.to_image ⟨0, u, -100⟩
  rw [hy, hu, demo_lens.matrix_at, demo_matrix]
  simp only [dS1, dStop, dImg]
  constructor <;> ring

theorem demo_chain : Chained dObj.n2 ([dS1, dS2, dStop] ++ [dImg]) ∧ WFL ([dS1, dS2, dStop] ++ [dImg]) ∧
    ∀ s ∈ [dS1, dS2, dStop] ++ [dImg], s.refl = false := by
  refine ⟨by simp [Chained, dObj, dS1, dS2, dStop, dImg], ?_, ?_⟩ <;>
  · intro s hs; simp at hs
    rcases hs with rfl | rfl | rfl | rfl <;> simp [dS1, dS2, dStop, dImg]

/-- non-vacuity of `magnification_def_refracting`: the demonstration singlet images 1:1 inverted -/
example (ht ub : ℝ) : (pfinal ⟨ht, ub, dObj.z⟩ ([dS1, dS2, dStop] ++ [dImg])).y = magnification demo * ht :=
  magnification_def_refracting demo dObj dImg [dS1, dS2, dStop] rfl rfl rfl rfl demo_chain.1 demo_chain.2.1
    demo_chain.2.2 (by rw [demo_ml]; exact (demo_axial _).1)
    (by rw [demo_ml, (demo_axial _).2]; norm_num) ht ub

theorem demo_mirrorSign : mirrorSign demo.surfs = 1 := by
  rw [mirrorSign_eq demo dObj dImg [dS1, dS2, dStop] rfl rfl
    (fun s hs h => by rw [demo_chain.2.2 s hs] at h; cases h)]
  exact sgn_refracting 1 _ demo_chain.2.2

example : magnification demo = -1 := by
  rw [magnification_eq demo dObj dImg [dS1, dS2, dStop] rfl rfl, demo_ml, (demo_axial _).2, demo_mirrorSign]
  simp only [dObj, dImg]
  norm_num

/-! ### one mirror.  A concave mirror (R = −100) with the object in its centre of curvature images it onto
itself, inverted: lateral magnification −1, and the model's `magnification` is −1 as well.  (With the unsigned
image-space index the expression gives +1 here: the slope changes sign at the mirror while `optic.n()` does not.
`magnificationUnsigned` below is that variant.) -/
noncomputable def mObj : PSurf ℝ := ⟨.object, 0, -100, 0, 1, 1, false, false⟩
noncomputable def mMir : PSurf ℝ := ⟨.standard, 0, 0, -100, 1, 1, true, true⟩
noncomputable def mImg : PSurf ℝ := ⟨.image, 0, -100, 0, 1, 1, false, false⟩
noncomputable def mirrorDemo : PSys ℝ := ⟨[mObj, mMir, mImg], .EPD, 10, .objectHeight, 5, false⟩

theorem mirror_EPL : EPL mirrorDemo = 0 := by
  rw [EPL_pfinal mirrorDemo mObj mMir mImg [] [mImg] rfl rfl rfl rfl rfl (by simp [mImg])]
  simp [pfinal_nil]

theorem mirror_mirrorSign : mirrorSign mirrorDemo.surfs = -1 := by
  simp [mirrorSign, mirrorDemo, mObj, mMir, mImg]
  rfl

/-- the variant without the mirror sign, `n₀u₀/(n_k u_k)`: equal to `mirrorSign · magnification` because
`mirrorSign² = 1` (finding F-C04-1; kept as the negation witness) -/
noncomputable def magnificationUnsigned (S : PSys ℝ) : ℝ := mirrorSign S.surfs * magnification S

example : magnification mirrorDemo = -1 ∧ magnificationUnsigned mirrorDemo = 1 ∧
    (∀ ht ub : ℝ, (pfinal ⟨ht, ub, mObj.z⟩ ([mMir] ++ [mImg])).y = magnification mirrorDemo * ht) ∧
    (pfinal (marginalLaunch mirrorDemo) ([mMir] ++ [mImg])).y = 0 := by
  have hml : marginalLaunch mirrorDemo = ⟨0, 1/20, -100⟩ := by
    unfold marginalLaunch
    rw [mirror_EPL]
    simp [EPD, mirrorDemo, posOf, mObj]; norm_num
  have htr : ∀ y u : ℝ, pfinal ⟨y, u, -100⟩ ([mMir] ++ [mImg]) = ⟨-y, u + y / 50, 0⟩ := by
    intro y u
    simp only [pfinal, List.cons_append, List.nil_append, List.foldl_cons, List.foldl_nil, pstep, pstepStd_real,
      pstepImg_real, mMir, mImg, if_true]
    congr 1 <;> ring
  have hm : magnification mirrorDemo = -1 := by
    rw [magnification_eq mirrorDemo mObj mImg [mMir] rfl rfl, hml, htr, mirror_mirrorSign]
    simp [mObj, mImg]
  refine ⟨hm, ?_, ?_, ?_⟩
  · rw [magnificationUnsigned, hm, mirror_mirrorSign]; norm_num
  · intro ht ub
    rw [show mObj.z = -100 from rfl, htr, hm]; ring
  · rw [hml, htr]; simp

/-- the invariant in object space: with a refracting first surface, `invariant S` is
`n (ȳ u − y ū)` of the marginal ray `(y,u)` and the chief ray `(ȳ,ū)` as launched, both taken in the plane of
the first vertex, in the object-space index `n = n1` of surface 1. -/
theorem invariant_object_space (S : PSys ℝ) (obj s1 : PSurf ℝ) (rest : List (PSurf ℝ))
    (hS : S.surfs = obj :: s1 :: rest) (hobj : obj.kind = .object) (hk : s1.kind = .standard)
    (hr : s1.refl = false) (hdy : s1.dy = 0) (hn2 : s1.n2 ≠ 0) :
    let a := marginalLaunch S
    let b := chiefLaunch S
    invariant S = s1.n1 * ((b.y + (s1.z - b.z) * b.u) * a.u - (a.y + (s1.z - a.z) * a.u) * b.u) := by
  intro a b
  obtain ⟨_, _, hinv⟩ := invariant_eq_lag S obj s1 rest hS hobj
  rw [hinv]
  simp only [pstep, hk, pstepStd_real, hr, hdy, lag, sub_zero, Bool.false_eq_true, if_false]
  generalize (s1.n2 - s1.n1) / s1.r = P
  field_simp
  ring

/-- object at infinity, field angle θ: `invariant S = −n · (EPD/2) · tan θ` -/
theorem invariant_infinite_angle (S : PSys ℝ) (obj stop l s1 : PSurf ℝ) (front back rest : List (PSurf ℝ))
    (hS : S.surfs = obj :: front ++ stop :: back) (hS1 : S.surfs = obj :: s1 :: rest)
    (hl : S.surfs.getLast? = some l)
    (hobj : obj.kind = .object) (hstop : stop.stop = true) (hback : ∀ s ∈ back, s.stop = false)
    (hstd : Std front) (hft : S.fieldType = .angle) (hinf : S.objInf = true)
    (hu : (pfinal ⟨0, 1/10, l.z - stop.z⟩ (front.reverse.map (rv l.z))).u ≠ 0)
    (hk : s1.kind = .standard) (hr : s1.refl = false) (hdy : s1.dy = 0) (hn2 : s1.n2 ≠ 0) :
    invariant S = -(s1.n1 * (EPD S / 2) * Real.tan (S.maxYField * (Real.pi / 180))) := by
  have h1 := invariant_object_space S obj s1 rest hS1 hobj hk hr hdy hn2
  have h2 := chiefRay_field_angle S obj stop l front back hS hl hobj hstop hback hstd hft hu
  obtain ⟨_, h3, h4⟩ := marginalRay_def_infinite S hinf
  simp only at h1
  rw [h1, h4 s1.z, h3, h2]
  ring

example : invariant { demo with objInf := true } =
    -(dS1.n1 * (EPD { demo with objInf := true } / 2) * Real.tan (5 * (Real.pi / 180))) :=
  invariant_infinite_angle { demo with objInf := true } dObj dStop dImg dS1 [dS1, dS2] [dImg] [dS2, dStop, dImg]
    rfl rfl rfl rfl rfl (by simp [dImg]) demo_std rfl rfl (by rw [demo_back.1]; norm_num) rfl rfl rfl
    (by simp [dS1])

end C04
