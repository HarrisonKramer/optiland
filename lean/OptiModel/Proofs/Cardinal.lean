import OptiModel.Model.Parax
/-!
# Helper lemmas for C04 (cardinal points, pupils, marginal/chief ray)

List plumbing that connects the records the Python code reads (`y[0]`, `y[-1]`, `y[1]`,
`positions[i]`, `stop_index`) with the fold `ss.foldl pstep r` (called `pfinal` in `Props/C04.lean`),
for an arbitrary carrier.  No optics here.
-/
namespace Cardinal
open Model
open scoped Num
variable {α : Type} [Num α]

theorem ptrace_append (r : PRay α) (a b : List (PSurf α)) :
    ptrace r (a ++ b) = ptrace r a ++ ptrace (a.foldl pstep r) b := by
  induction a generalizing r with
  | nil => rfl
  | cons s a ih => simp only [List.cons_append, ptrace, ih, List.foldl_cons]

theorem ptrace_length (r : PRay α) (a : List (PSurf α)) : (ptrace r a).length = a.length := by
  induction a generalizing r with
  | nil => rfl
  | cons s a ih => simp only [ptrace, List.length_cons, ih]

/-- the last record, with the launch ray as the default: true of the empty trace too -/
theorem ptrace_getLastD (r : PRay α) (a : List (PSurf α)) : (ptrace r a).getLastD r = a.foldl pstep r := by
  induction a generalizing r with
  | nil => rfl
  | cons s a ih => rw [ptrace, List.getLastD_cons, List.foldl_cons]; exact ih (pstep r s)

/-- the last record of a trace is the fold of `pstep` over the surfaces -/
theorem ptrace_getLast? (r : PRay α) (a : List (PSurf α)) (h : a ≠ []) :
    (ptrace r a).getLast? = some (a.foldl pstep r) := by
  cases a with
  | nil => contradiction
  | cons s a =>
    show (pstep r s :: ptrace (pstep r s) a).getLast? = _
    rw [List.getLast?_cons, ← List.getLastD_eq_getLast?, ptrace_getLastD]
    rfl

/-- `y[-1]` of a trace -/
theorem last_ys (r : PRay α) (a : List (PSurf α)) (h : a ≠ []) :
    last (ys (ptrace r a)) = (a.foldl pstep r).y := by
  have := ptrace_getLast? r a h
  simp only [last, ys, List.getLastD_eq_getLast?, List.getLast?_map, this, Option.map_some,
    Option.getD_some]

/-- `u[-1]` of a trace -/
theorem last_us (r : PRay α) (a : List (PSurf α)) (h : a ≠ []) :
    last (us (ptrace r a)) = (a.foldl pstep r).u := by
  have := ptrace_getLast? r a h
  simp only [last, us, List.getLastD_eq_getLast?, List.getLast?_map, this, Option.map_some,
    Option.getD_some]

/-- `y[0]` of a trace -/
theorem first_ys (r : PRay α) (s : PSurf α) (a : List (PSurf α)) :
    first (ys (ptrace r (s :: a))) = (pstep r s).y := by
  rfl

theorem first_us (r : PRay α) (s : PSurf α) (a : List (PSurf α)) :
    first (us (ptrace r (s :: a))) = (pstep r s).u := by
  rfl

omit [Num α] in
theorem getD_append_cons {β : Type} (a : List β) (x : β) (b : List β) (d : β) (n : Nat) (h : a.length = n) :
    (a ++ x :: b).getD n d = x := by
  subst h
  rw [List.getD_eq_getElem?_getD, List.getElem?_append_right (Nat.le_refl _), Nat.sub_self]
  rfl

/-- `y[k]` where `k` surfaces precede the surface `s` -/
theorem nth_ys_append (r : PRay α) (a : List (PSurf α)) (s : PSurf α) (b : List (PSurf α)) :
    nth (ys (ptrace r (a ++ s :: b))) a.length = (pstep (a.foldl pstep r) s).y := by
  simp only [nth, ys, ptrace_append, ptrace, List.map_append, List.map_cons]
  exact getD_append_cons _ _ _ _ _ (by rw [List.length_map, ptrace_length])

theorem nth_us_append (r : PRay α) (a : List (PSurf α)) (s : PSurf α) (b : List (PSurf α)) :
    nth (us (ptrace r (a ++ s :: b))) a.length = (pstep (a.foldl pstep r) s).u := by
  simp only [nth, us, ptrace_append, ptrace, List.map_append, List.map_cons]
  exact getD_append_cons _ _ _ _ _ (by rw [List.length_map, ptrace_length])

/-- `positions[k]` where `k` surfaces precede `s` -/
theorem posOf_append (a : List (PSurf α)) (s : PSurf α) (b : List (PSurf α)) :
    posOf (a ++ s :: b) a.length = s.z := by
  simp only [posOf, List.map_append, List.map_cons]
  exact getD_append_cons _ _ _ _ _ (List.length_map _)

omit [Num α] in
/-- `stop_index`: the first surface flagged as stop -/
theorem stopIndex_append (a : List (PSurf α)) (s : PSurf α) (b : List (PSurf α))
    (ha : ∀ x ∈ a, x.stop = false) (hs : s.stop = true) :
    stopIndex (a ++ s :: b) = some a.length := by
  induction a with
  | nil => simp only [stopIndex, List.nil_append, List.findIdx?_cons, hs, if_true, List.length_nil]
  | cons x a ih =>
    obtain ⟨hx, ha'⟩ := List.forall_mem_cons.mp ha
    have ih' := ih ha'
    simp only [stopIndex] at ih' ⊢
    simp only [List.cons_append, List.findIdx?_cons, hx, Bool.false_eq_true, if_false, ih', Option.map_some,
      List.length_cons]

end Cardinal
