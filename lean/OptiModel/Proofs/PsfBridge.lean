import OptiModel.Model.Psf
import OptiModel.Proofs.NumReal
import OptiModel.Proofs.Dft
/-!
Bridge between `Model/Psf.lean` at the carrier ℝ (complex numbers as pairs, memo tables, recursive
sums) and the finite Fourier analysis of `Proofs/Dft.lean` (ℂ, `Finset.range` sums): the model's
operations read through `toC`, the tables read back, the closed formulas of the model in Mathlib's
notation, and the PSF table `psfTabG` (any side `gp`, any offset `pad` of the pupil that fits) as
`|DFT₂(pad P)|² · 100 / norm`.
-/
open Finset Model.Psf DftMath
open scoped Real

namespace PsfBridge

/-- a pair read as a complex number -/
def toC (p : ℝ × ℝ) : ℂ := ⟨p.1, p.2⟩

@[simp] lemma toC_re (p : ℝ × ℝ) : (toC p).re = p.1 := rfl
@[simp] lemma toC_im (p : ℝ × ℝ) : (toC p).im = p.2 := rfl

lemma toC_cmul (a b : Cx ℝ) : toC (cmul a b) = toC a * toC b :=
  Complex.ext (by rw [Complex.mul_re]; rfl) (by rw [Complex.mul_im]; rfl)

lemma cnormSq_eq (a : Cx ℝ) : cnormSq a = Complex.normSq (toC a) := by
  rw [Complex.normSq_apply]; rfl

lemma toC_csum (f : ℕ → Cx ℝ) (n : ℕ) : toC (csum f n) = ∑ j ∈ range n, toC (f j) := by
  induction n with
  | zero => rfl
  | succ n ih => rw [sum_range_succ, ← ih]; rfl

lemma rsum_eq (f : ℕ → ℝ) (n : ℕ) : rsum f n = ∑ j ∈ range n, f j := by
  induction n with
  | zero => rfl
  | succ n ih => rw [rsum, sum_range_succ, ← ih]

lemma look_tab {β : Type} (d : β) (n : ℕ) (f : ℕ → β) (i : ℕ) (h : i < n) :
    look d (tab n f) i = f i := by
  simp [look, tab, Array.getD, h]

lemma look2_tab2 {β : Type} (d : β) (n m : ℕ) (f : ℕ → ℕ → β) (r c : ℕ) (hr : r < n) (hc : c < m) :
    look2 d (tab2 n m f) r c = f r c := by
  unfold look2 tab2
  rw [look_tab _ _ _ _ hr, look_tab _ _ _ _ hc]

/-! ### the model's formulas over ℝ -/

lemma strehlAt_eq (c : ℕ) (psf : ℕ → ℕ → ℝ) : strehlAt c psf = psf c c / 100 := by
  unfold strehlAt
  rw [NumReal.ofNat_eq, Nat.cast_ofNat]

lemma meanCode_eq (inten : ℕ → ℝ) (m : ℕ) : meanCode inten m = rsum inten m / m := by
  unfold meanCode
  rw [NumReal.ofNat_eq]

lemma meanSpec_eq (inten : ℕ → ℝ) (m : ℕ) :
    meanSpec inten m = rsum inten m / (countNonzero inten m : ℕ) := by
  unfold meanSpec
  rw [NumReal.ofNat_eq]

lemma workingFno_finite (fno xpd epd m : ℝ) :
    workingFno fno false xpd epd m = fno * (1 + |m| / (xpd / epd)) := rfl

lemma maxFreq_eq (wl fno : ℝ) : maxFreq wl fno = 1 / (wl * (1 / 1000) * fno) := by
  unfold maxFreq
  rw [NumReal.ofRat_eq, Nat.cast_one, Nat.cast_ofNat]

lemma freqStepSpec_eq (n : ℕ) (wl fno : ℝ) : freqStepSpec n wl fno = 1000 / (n * (wl * fno)) := by
  unfold freqStepSpec
  rw [NumReal.ofNat_eq, NumReal.ofNat_eq, Nat.cast_ofNat]

lemma freqAxis_eq (step : ℝ) (k : ℕ) : freqAxis step k = k * step := by
  unfold freqAxis
  rw [NumReal.ofNat_eq]

lemma diffLimit_eq (ratio : ℝ) :
    diffLimit ratio = 2 / π * (Real.arccos ratio - Real.cos (Real.arccos ratio) * Real.sin (Real.arccos ratio)) :=
  rfl

lemma linspace_interior (n : ℕ) (a b : ℝ) (i : ℕ) (hn : ¬ n ≤ 1) (hi : i + 1 ≠ n) :
    linspace n a b i = i * ((b - a) / ((n - 1 : ℕ) : ℝ)) + a := by
  unfold linspace
  rw [if_neg hn, if_neg (by rwa [beq_iff_eq]), NumReal.ofNat_eq, NumReal.ofNat_eq]

lemma linspace_last (n : ℕ) (a b : ℝ) (hn : ¬ n ≤ 1) : linspace n a b (n - 1) = b := by
  unfold linspace
  rw [if_neg hn, if_pos (by rw [beq_iff_eq]; omega)]

lemma linspace_mem (n : ℕ) (a b : ℝ) (hab : a ≤ b) (hn : ¬ n ≤ 1) (k : ℕ) (hk : k < n) :
    a ≤ linspace n a b k ∧ linspace n a b k ≤ b := by
  by_cases hk1 : k + 1 = n
  · rw [← Nat.add_sub_cancel (n := k) (m := 1), hk1, linspace_last n a b hn]
    exact ⟨hab, le_refl _⟩
  · have hd : (0 : ℝ) < ((n - 1 : ℕ) : ℝ) := Nat.cast_pos.mpr (by omega)
    have hkle : (k : ℝ) ≤ ((n - 1 : ℕ) : ℝ) := Nat.cast_le.mpr (by omega)
    have hba := sub_nonneg.mpr hab
    rw [linspace_interior n a b k hn hk1, le_add_iff_nonneg_left, ← le_sub_iff_add_le, mul_div_assoc',
      div_le_iff₀ hd, mul_comm]
    exact ⟨div_nonneg (mul_nonneg hba (Nat.cast_nonneg k)) hd.le, mul_le_mul_of_nonneg_left hkle hba⟩

/-! ### the transform -/

lemma toC_twiddle (n m : ℕ) : toC (twiddle (α := ℝ) n m) = E n (m : ℤ) := by
  have h : (2 * (π:ℂ) * Complex.I * ((-(m:ℤ) : ℤ) : ℂ) / n) = ((-(2 * π * m / n) : ℝ) : ℂ) * Complex.I := by
    push_cast; ring
  unfold twiddle
  rw [NumReal.ofNat_eq, NumReal.ofNat_eq, E, h]
  apply Complex.ext
  · rw [Complex.exp_ofReal_mul_I_re, Real.cos_neg]; rfl
  · rw [Complex.exp_ofReal_mul_I_im, Real.sin_neg]; rfl

lemma toC_dft1 (n : ℕ) [NeZero n] (xs : Array (Cx ℝ)) (k : ℕ) :
    toC (dft1 n (twTab n) xs k) = dftR n (fun j => toC (look czero xs j)) k := by
  unfold dft1 dftR
  rw [toC_csum]
  refine sum_congr rfl fun j _ => ?_
  rw [toC_cmul, twTab, look_tab _ _ _ _ (Nat.mod_lt _ (NeZero.pos n)), toC_twiddle, E_mod]

lemma look_dftRows (n : ℕ) (wt : Array (Cx ℝ)) (xt : Array (Array (Cx ℝ))) (r k : ℕ) (hr : r < n) (hk : k < n) :
    look2 czero (dftRows n wt xt) r k = dft1 n wt (look #[] xt r) k :=
  look2_tab2 _ _ _ _ _ _ hr hk

lemma look_transpose {β : Type} (d : β) (n : ℕ) (t : Array (Array β)) (r c : ℕ) (hr : r < n) (hc : c < n) :
    look2 d (transpose d n t) r c = look2 d t c r :=
  look2_tab2 _ _ _ _ _ _ hr hc

/-- second pass on column `k2` of the row-transformed table -/
lemma toC_dft1_col (n : ℕ) [NeZero n] (xt : Array (Array (Cx ℝ))) (k1 k2 : ℕ) (h2 : k2 < n) :
    toC (dft1 n (twTab n) (look #[] (transpose czero n (dftRows n (twTab n) xt)) k2) k1)
      = dft2R n (fun r c => toC (look2 czero xt r c)) k1 k2 := by
  rw [toC_dft1]
  refine dftR_congr n _ _ (fun r hr => ?_) k1
  show toC (look2 czero (transpose czero n (dftRows n (twTab n) xt)) k2 r) = _
  rw [look_transpose _ _ _ _ _ h2 hr, look_dftRows _ _ _ _ _ hr h2, toC_dft1]
  rfl

theorem toC_dft2 (n : ℕ) [NeZero n] (xt : Array (Array (Cx ℝ))) (k1 k2 : ℕ) (h1 : k1 < n) (h2 : k2 < n) :
    toC (dft2 n xt k1 k2) = dft2R n (fun r c => toC (look2 czero xt r c)) k1 k2 := by
  unfold dft2 dft2Tab
  rw [look_transpose _ _ _ _ _ h1 h2, look_dftRows _ _ _ _ _ h2 h1, toC_dft1_col _ _ _ _ h2]

/-- the two passes of `dft2Tab` on the table of a function `f` -/
theorem toC_dft2Tab (n : ℕ) [NeZero n] (f : ℕ → ℕ → Cx ℝ) (k1 k2 : ℕ) (h1 : k1 < n) (h2 : k2 < n) :
    toC (look2 czero (dft2Tab n (tab2 n n f)) k1 k2) = dft2R n (fun r c => toC (f r c)) k1 k2 :=
  (toC_dft2 n _ k1 k2 h1 h2).trans
    (dft2R_congr n _ _ (fun r c hr hc => by rw [look2_tab2 _ _ _ _ _ _ hr hc]) k1 k2)

lemma shiftIdx_lt (gp i : ℕ) (h : 0 < gp) : shiftIdx gp i < gp := Nat.mod_lt _ h

lemma shiftIdx_centre (gp : ℕ) : shiftIdx gp (gp / 2) = 0 := by
  unfold shiftIdx
  rw [Nat.add_sub_cancel' (Nat.div_le_self gp 2), Nat.mod_self]

/-! ### zero padding -/

/-- the zero-padded pupil as a complex array -/
noncomputable def padC (n pad : ℕ) (P : ℕ → ℕ → Cx ℝ) (r c : ℕ) : ℂ := toC (padFn n pad P r c)

lemma map_padC {M : Type*} [Zero M] (φ : ℂ → M) (h0 : φ 0 = 0) (n pad : ℕ) (P : ℕ → ℕ → Cx ℝ) (r c : ℕ) :
    φ (padC n pad P r c) = if pad ≤ r ∧ r < pad + n then
      (if pad ≤ c ∧ c < pad + n then φ (toC (P (r - pad) (c - pad))) else 0) else 0 := by
  unfold padC padFn
  rw [← ite_and, apply_ite fun p => φ (toC p)]
  exact if_congr (by simp only [Bool.and_eq_true, decide_eq_true_eq, and_assoc]) rfl h0

lemma padC_eq (n pad : ℕ) (P : ℕ → ℕ → Cx ℝ) (r c : ℕ) :
    padC n pad P r c = if pad ≤ r ∧ r < pad + n then
      (if pad ≤ c ∧ c < pad + n then toC (P (r - pad) (c - pad)) else 0) else 0 :=
  map_padC id rfl n pad P r c

lemma sum_padded {M : Type*} [AddCommMonoid M] (φ : ℂ → M) (h0 : φ 0 = 0) (n pad gp : ℕ) (h : pad + n ≤ gp)
    (P : ℕ → ℕ → Cx ℝ) :
    ∑ r ∈ range gp, ∑ c ∈ range gp, φ (padC n pad P r c)
      = ∑ i ∈ range n, ∑ j ∈ range n, φ (toC (P i j)) := by
  simp_rw [map_padC φ h0]
  rw [← sum_pad n pad gp h fun i => ∑ j ∈ range n, φ (toC (P i j))]
  refine sum_congr rfl fun r _ => ?_
  split_ifs
  · exact sum_pad n pad gp h fun j => φ (toC (P (r - pad) j))
  · exact sum_const_zero

/-! ### the PSF table -/

theorem psfTabG_entry (n gp pad : ℕ) [NeZero gp] (P : ℕ → ℕ → Cx ℝ) (norm : ℝ) (r c : ℕ)
    (hr : r < gp) (hc : c < gp) :
    look2 Num.zero (psfTabG n gp pad P norm) r c
      = Complex.normSq (dft2R gp (padC n pad P) (shiftIdx gp r) (shiftIdx gp c)) / norm * 100 := by
  have hpos := NeZero.pos gp
  unfold psfTabG
  rw [look2_tab2 _ _ _ _ _ _ hr hc, psfVal, NumReal.ofNat_eq, cnormSq_eq,
    toC_dft2Tab _ _ _ _ (shiftIdx_lt _ _ hpos) (shiftIdx_lt _ _ hpos), Nat.cast_ofNat]
  rfl

lemma psfTabG_nonneg (n gp pad : ℕ) [NeZero gp] (P : ℕ → ℕ → Cx ℝ) (norm : ℝ) (hn : 0 < norm)
    (r c : ℕ) (hr : r < gp) (hc : c < gp) : 0 ≤ look2 Num.zero (psfTabG n gp pad P norm) r c := by
  rw [psfTabG_entry n gp pad P norm r c hr hc]
  exact mul_nonneg (div_nonneg (Complex.normSq_nonneg _) hn.le) (by norm_num)

/-- total energy of the PSF (2-D Parseval; `fftshift` permutes the rows and the columns) -/
theorem psfTabG_sum (n gp pad : ℕ) [NeZero gp] (hp : pad + n ≤ gp) (P : ℕ → ℕ → Cx ℝ) (norm : ℝ) :
    ∑ r ∈ range gp, ∑ c ∈ range gp, look2 Num.zero (psfTabG n gp pad P norm) r c
      = (gp : ℝ) ^ 2 * (∑ i ∈ range n, ∑ j ∈ range n, Complex.normSq (toC (P i j))) / norm * 100 := by
  rw [sum_congr rfl fun r hr => sum_congr rfl fun c hc =>
    psfTabG_entry n gp pad P norm r c (mem_range.mp hr) (mem_range.mp hc)]
  simp_rw [← sum_mul, ← sum_div]
  congr 2
  refine (sum_congr rfl fun r _ => sum_shift gp _ fun k2 =>
    Complex.normSq (dft2R gp (padC n pad P) (shiftIdx gp r) k2)).trans ?_
  refine (sum_shift gp _ fun k1 => ∑ k2 ∈ range gp, Complex.normSq (dft2R gp (padC n pad P) k1 k2)).trans ?_
  rw [parseval2R, sum_padded Complex.normSq Complex.normSq_zero n pad gp hp P]

/-! ### the running maximum and `_get_normalization` -/

lemma rmax_succ (f : ℕ → ℝ) (m : ℕ) : rmax f (m + 1) = max (rmax f m) (f (m + 1)) := by
  show (if Num.lt (rmax f m) (f (m + 1)) = true then f (m + 1) else rmax f m) = _
  split_ifs with h <;> rw [NumReal.lt_eq] at h
  · exact (max_eq_right h.le).symm
  · exact (max_eq_left (not_lt.mp h)).symm

lemma rmax_eq_first (f : ℕ → ℝ) (m : ℕ) (h : ∀ i, i ≤ m → f i ≤ f 0) : rmax f m = f 0 := by
  induction m with
  | zero => rfl
  | succ m ih =>
    rw [rmax_succ, ih fun i hi => h i (Nat.le_succ_of_le hi)]
    exact max_eq_left (h _ (le_refl _))

/-- the nominal pupil (`P_nom`) as a complex array: the indicator of the support -/
noncomputable def nomC (P : ℕ → ℕ → Cx ℝ) (r c : ℕ) : ℂ := if toC (P r c) ≠ 0 then 1 else 0

lemma toC_nominal (P : ℕ → ℕ → Cx ℝ) (r c : ℕ) : toC (nominal P r c) = nomC P r c := by
  have h : isNonzero (P r c) = true ↔ toC (P r c) ≠ 0 := by
    unfold isNonzero
    rw [Bool.not_eq_true', Bool.and_eq_false_iff, ← Bool.not_eq_true, ← Bool.not_eq_true,
      NumReal.isZero_eq, NumReal.isZero_eq, Ne, Complex.ext_iff, not_and_or]
    rfl
  unfold nominal nomC
  simp_rw [h]
  split_ifs <;> rfl

/-- number of non-zero pupil samples, as a real number -/
noncomputable def supportCount (n : ℕ) (P : ℕ → ℕ → Cx ℝ) : ℝ :=
  ∑ r ∈ range n, ∑ c ∈ range n, if toC (P r c) ≠ 0 then 1 else 0

lemma sum_norm_nomC (n : ℕ) (P : ℕ → ℕ → Cx ℝ) :
    ∑ r ∈ range n, ∑ c ∈ range n, ‖nomC P r c‖ = supportCount n P := by
  unfold supportCount nomC
  refine sum_congr rfl fun r _ => sum_congr rfl fun c _ => ?_
  rw [apply_ite norm, norm_one, norm_zero]

lemma supportCount_nonneg (n : ℕ) (P : ℕ → ℕ → Cx ℝ) : 0 ≤ supportCount n P := by
  rw [← sum_norm_nomC]
  exact sum_nonneg fun r _ => sum_nonneg fun c _ => norm_nonneg _

lemma sum_sum_pos_iff {f : ℕ → ℕ → ℝ} (hf : ∀ r c, 0 ≤ f r c) (n : ℕ) :
    0 < ∑ r ∈ range n, ∑ c ∈ range n, f r c ↔ ∃ r ∈ range n, ∃ c ∈ range n, 0 < f r c := by
  rw [sum_pos_iff_of_nonneg fun r _ => sum_nonneg fun c _ => hf r c]
  exact exists_congr fun r => and_congr_right fun _ => sum_pos_iff_of_nonneg fun c _ => hf r c

/-- the transform of the indicator of the support peaks at zero frequency (triangle inequality),
where it is the number of support samples -/
theorem nomC_peak (n : ℕ) (P : ℕ → ℕ → Cx ℝ) (k1 k2 : ℕ) :
    Complex.normSq (dft2R n (nomC P) k1 k2) ≤ supportCount n P ^ 2 ∧
    Complex.normSq (dft2R n (nomC P) 0 0) = supportCount n P ^ 2 := by
  constructor
  · rw [Complex.normSq_eq_norm_sq, ← sum_norm_nomC]
    exact pow_le_pow_left₀ (norm_nonneg _) (norm_dft2R_le n (nomC P) k1 k2) 2
  · have h : ∑ r ∈ range n, ∑ c ∈ range n, nomC P r c = (supportCount n P : ℂ) := by
      simp only [supportCount, nomC, Complex.ofReal_sum, apply_ite ((↑) : ℝ → ℂ), Complex.ofReal_one,
        Complex.ofReal_zero]
    rw [dft2R_zero, h, Complex.normSq_ofReal, sq]

theorem normFactor_eq (n : ℕ) [NeZero n] (P : ℕ → ℕ → Cx ℝ) :
    normFactor n P = supportCount n P ^ 2 := by
  have hn := NeZero.pos n
  have hval : ∀ idx, idx < n * n →
      look Num.zero (tab (n * n) fun idx =>
        cnormSq (look2 czero (dft2Tab n (tab2 n n (nominal P))) (idx / n) (idx % n))) idx
      = Complex.normSq (dft2R n (nomC P) (idx / n) (idx % n)) := by
    intro idx hidx
    rw [look_tab _ _ _ _ hidx, cnormSq_eq,
      toC_dft2Tab _ _ _ _ (Nat.div_lt_of_lt_mul hidx) (Nat.mod_lt _ hn)]
    simp_rw [toC_nominal]
  have hnn : 0 < n * n := Nat.mul_pos hn hn
  have h0 := hval 0 hnn
  rw [Nat.zero_div, Nat.zero_mod, (nomC_peak n P 0 0).2] at h0
  unfold normFactor
  rw [rmax_eq_first, h0]
  intro i hi
  rw [h0, hval i (by omega)]
  exact (nomC_peak n P _ _).1

/-! ### the sampled pupil -/

/-- real amplitude of a pupil sample: `intensity / mean` inside the mask, 0 outside -/
noncomputable def amp (mean : ℝ) (mask : ℕ → ℕ → Bool) (I : ℕ → ℕ → ℝ) (r c : ℕ) : ℝ :=
  if mask r c then I r c / mean else 0

lemma toC_pupil (mean : ℝ) (mask : ℕ → ℕ → Bool) (I W : ℕ → ℕ → ℝ) (r c : ℕ) :
    toC (pupil mean mask I W r c)
      = (amp mean mask I r c : ℂ) * Complex.exp (((2 * π * W r c : ℝ) : ℂ) * Complex.I) := by
  unfold pupil pupilVal amp
  split_ifs
  · apply Complex.ext
    · rw [Complex.re_ofReal_mul, Complex.exp_ofReal_mul_I_re]; rfl
    · rw [Complex.im_ofReal_mul, Complex.exp_ofReal_mul_I_im]; rfl
  · rw [Complex.ofReal_zero, zero_mul]; rfl

lemma norm_pupil (mean : ℝ) (mask : ℕ → ℕ → Bool) (I W : ℕ → ℕ → ℝ) (r c : ℕ) :
    ‖toC (pupil mean mask I W r c)‖ = |amp mean mask I r c| := by
  rw [toC_pupil, norm_mul, Complex.norm_exp_ofReal_mul_I, mul_one, Complex.norm_real, Real.norm_eq_abs]

/-- the support of the pupil does not depend on the phase -/
lemma supportCount_pupil (n : ℕ) (mean : ℝ) (mask : ℕ → ℕ → Bool) (I W : ℕ → ℕ → ℝ) :
    supportCount n (pupil mean mask I W)
      = ∑ r ∈ range n, ∑ c ∈ range n, if amp mean mask I r c ≠ 0 then 1 else 0 := by
  have h : ∀ r c, toC (pupil mean mask I W r c) ≠ 0 ↔ amp mean mask I r c ≠ 0 := fun r c => by
    rw [← norm_ne_zero_iff, norm_pupil, abs_ne_zero]
  unfold supportCount
  simp only [h]

/-- unaberrated pupil (`W = 0`): the samples are the real amplitudes -/
lemma toC_pupil_zero_phase (mean : ℝ) (mask : ℕ → ℕ → Bool) (I : ℕ → ℕ → ℝ) (r c : ℕ) :
    toC (pupil mean mask I (fun _ _ => 0) r c) = (amp mean mask I r c : ℂ) := by
  rw [toC_pupil, mul_zero, Complex.ofReal_zero, zero_mul, Complex.exp_zero, mul_one]

/-! ### the PSF of the sampled pupil, normalised by `_get_normalization` -/

/-- zero phase: the central pixel is `(Σ amplitude)² · 100 / norm` -/
theorem psfTabG_centre_zero_phase (n gp pad : ℕ) [NeZero gp] (hp : pad + n ≤ gp) (mean : ℝ)
    (mask : ℕ → ℕ → Bool) (I : ℕ → ℕ → ℝ) (norm : ℝ) :
    look2 Num.zero (psfTabG n gp pad (pupil mean mask I fun _ _ => 0) norm) (gp / 2) (gp / 2)
      = (∑ r ∈ range n, ∑ c ∈ range n, amp mean mask I r c) ^ 2 / norm * 100 := by
  have hc : gp / 2 < gp := Nat.div_lt_self (NeZero.pos gp) (by norm_num)
  rw [psfTabG_entry n gp pad _ norm _ _ hc hc, shiftIdx_centre, dft2R_zero,
    sum_padded (fun z => z) rfl n pad gp hp]
  simp_rw [toC_pupil_zero_phase, ← Complex.ofReal_sum]
  rw [Complex.normSq_ofReal, sq]

/-- non-negative amplitudes that add up to the number of support samples: no pixel exceeds 100,
whatever the phase (triangle inequality on the transform of the padded pupil) -/
theorem psfTabG_pupil_le (n gp pad : ℕ) [NeZero n] [NeZero gp] (hp : pad + n ≤ gp) (mean : ℝ)
    (mask : ℕ → ℕ → Bool) (I W : ℕ → ℕ → ℝ)
    (hA : ∀ r c, r < n → c < n → 0 ≤ amp mean mask I r c)
    (hsum : ∑ r ∈ range n, ∑ c ∈ range n, amp mean mask I r c = supportCount n (pupil mean mask I W))
    (hS : 0 < supportCount n (pupil mean mask I W)) (r c : ℕ) (hr : r < gp) (hc : c < gp) :
    look2 Num.zero (psfTabG n gp pad (pupil mean mask I W) (normFactor n (pupil mean mask I W))) r c ≤ 100 := by
  have hb : ‖dft2R gp (padC n pad (pupil mean mask I W)) (shiftIdx gp r) (shiftIdx gp c)‖
      ≤ supportCount n (pupil mean mask I W) := by
    refine (norm_dft2R_le gp _ _ _).trans_eq ?_
    rw [sum_padded (fun z => ‖z‖) norm_zero n pad gp hp, ← hsum]
    exact sum_congr rfl fun i hi => sum_congr rfl fun j hj => by
      rw [norm_pupil, abs_of_nonneg (hA i j (mem_range.mp hi) (mem_range.mp hj))]
  rw [normFactor_eq, psfTabG_entry n gp pad _ _ r c hr hc, Complex.normSq_eq_norm_sq]
  exact mul_le_of_le_one_left (by norm_num)
    ((div_le_one (pow_pos hS 2)).mpr (pow_le_pow_left₀ (norm_nonneg _) hb 2))

/-- … and the unaberrated pupil reaches 100 at the centre -/
theorem psfTabG_unaberrated_peak (n gp pad : ℕ) [NeZero n] [NeZero gp] (hp : pad + n ≤ gp) (mean : ℝ)
    (mask : ℕ → ℕ → Bool) (I : ℕ → ℕ → ℝ) (P : ℕ → ℕ → Cx ℝ) (hP : P = pupil mean mask I fun _ _ => 0)
    (hA : ∀ r c, r < n → c < n → 0 ≤ amp mean mask I r c)
    (hsum : ∑ r ∈ range n, ∑ c ∈ range n, amp mean mask I r c = supportCount n P)
    (hS : 0 < supportCount n P) :
    look2 Num.zero (psfTabG n gp pad P (normFactor n P)) (gp / 2) (gp / 2) = 100 ∧
    ∀ r c, r < gp → c < gp → look2 Num.zero (psfTabG n gp pad P (normFactor n P)) r c ≤ 100 := by
  subst hP
  exact ⟨by rw [psfTabG_centre_zero_phase n gp pad hp, hsum, normFactor_eq, div_self (pow_pos hS 2).ne', one_mul],
    psfTabG_pupil_le n gp pad hp mean mask I _ hA hsum hS⟩

/-- total energy for the sampled pupil: the phase map does not occur on the right -/
theorem psfTabG_sum_pupil (n gp pad : ℕ) [NeZero n] [NeZero gp] (hp : pad + n ≤ gp) (mean : ℝ)
    (mask : ℕ → ℕ → Bool) (I W : ℕ → ℕ → ℝ) :
    ∑ r ∈ range gp, ∑ c ∈ range gp,
        look2 Num.zero (psfTabG n gp pad (pupil mean mask I W) (normFactor n (pupil mean mask I W))) r c
      = (gp : ℝ) ^ 2 * (∑ i ∈ range n, ∑ j ∈ range n, amp mean mask I i j ^ 2)
        / (∑ r ∈ range n, ∑ c ∈ range n, if amp mean mask I r c ≠ 0 then (1 : ℝ) else 0) ^ 2 * 100 := by
  rw [psfTabG_sum n gp pad hp, normFactor_eq, supportCount_pupil]
  simp_rw [Complex.normSq_eq_norm_sq, norm_pupil, sq_abs]

theorem psfTabG_total_pos (n gp pad : ℕ) [NeZero n] [NeZero gp] (hp : pad + n ≤ gp) (P : ℕ → ℕ → Cx ℝ)
    (hS : 0 < supportCount n P) :
    0 < ∑ r ∈ range gp, ∑ c ∈ range gp, look2 Num.zero (psfTabG n gp pad P (normFactor n P)) r c := by
  -- a sample that counts for the support has positive energy
  have hE : 0 < ∑ r ∈ range n, ∑ c ∈ range n, Complex.normSq (toC (P r c)) := by
    have h := hS
    rw [← sum_norm_nomC, sum_sum_pos_iff (fun _ _ => norm_nonneg _)] at h
    obtain ⟨r, hr, c, hc, h⟩ := h
    refine (sum_sum_pos_iff (fun _ _ => Complex.normSq_nonneg _) n).mpr
      ⟨r, hr, c, hc, Complex.normSq_pos.mpr fun h0 => ?_⟩
    rw [nomC, if_neg (not_not.mpr h0), norm_zero] at h
    exact lt_irrefl _ h
  have hg : (0 : ℝ) < gp := Nat.cast_pos.mpr (NeZero.pos gp)
  rw [psfTabG_sum n gp pad hp, normFactor_eq]
  exact mul_pos (div_pos (mul_pos (pow_pos hg 2) hE) (pow_pos hS 2)) (by norm_num)

/-! ### the MTF slices -/

/-- the PSF as a complex array -/
noncomputable def realC (psf : ℕ → ℕ → ℝ) (r c : ℕ) : ℂ := (psf r c : ℂ)

/-- modulus of the shifted 2-D transform of the PSF: `np.abs(fftshift(fft2(psf)))[r, c]` -/
noncomputable def otfAbs (gp : ℕ) (psf : ℕ → ℕ → ℝ) (r c : ℕ) : ℝ :=
  ‖dft2R gp (realC psf) (shiftIdx gp r) (shiftIdx gp c)‖

lemma mtfData_eq (gp : ℕ) [NeZero gp] (psf : ℕ → ℕ → ℝ) (r c : ℕ) :
    mtfData gp (twTab gp) (transpose czero gp (dftRows gp (twTab gp)
        (tab2 gp gp fun r c => ofReal (psf r c)))) r c = otfAbs gp psf r c := by
  unfold mtfData otfAbs cabs
  rw [cnormSq_eq, toC_dft1_col _ _ _ _ (shiftIdx_lt _ _ (NeZero.pos gp)), Complex.norm_def,
    dft2R_congr gp _ (realC psf) fun r' c' hr' hc' => by rw [look2_tab2 _ _ _ _ _ _ hr' hc']; rfl]
  rfl

/-- total of the PSF -/
noncomputable def total (gp : ℕ) (psf : ℕ → ℕ → ℝ) : ℝ := ∑ r ∈ range gp, ∑ c ∈ range gp, psf r c

lemma otfAbs_le (gp : ℕ) (psf : ℕ → ℕ → ℝ) (hp : ∀ r c, r < gp → c < gp → 0 ≤ psf r c) (r c : ℕ) :
    otfAbs gp psf r c ≤ total gp psf :=
  (norm_dft2R_le gp (realC psf) _ _).trans_eq <| sum_congr rfl fun r hr => sum_congr rfl fun c hc => by
    rw [realC, Complex.norm_real, Real.norm_eq_abs, abs_of_nonneg (hp r c (mem_range.mp hr) (mem_range.mp hc))]

lemma otfAbs_centre (gp : ℕ) (psf : ℕ → ℕ → ℝ) (hp : ∀ r c, r < gp → c < gp → 0 ≤ psf r c) :
    otfAbs gp psf (gp / 2) (gp / 2) = total gp psf := by
  unfold otfAbs total
  rw [shiftIdx_centre, dft2R_zero]
  simp_rw [realC, ← Complex.ofReal_sum]
  rw [Complex.norm_real, Real.norm_eq_abs, abs_of_nonneg]
  exact sum_nonneg fun r hr => sum_nonneg fun c hc => hp r c (mem_range.mp hr) (mem_range.mp hc)

lemma otfAbs_nonneg (gp : ℕ) (psf : ℕ → ℕ → ℝ) (r c : ℕ) : 0 ≤ otfAbs gp psf r c := norm_nonneg _

lemma normSlice_tab (s : ℕ → ℝ) (len : ℕ) (hl : 0 < len) (hmax : ∀ k, k < len → s k ≤ s 0) (k : ℕ) (hk : k < len) :
    look Num.zero (tab len (normSlice (look Num.zero (tab len s)) len)) k = s k / s 0 := by
  rw [look_tab _ _ _ _ hk]
  unfold normSlice
  rw [rmax_eq_first, look_tab _ _ _ _ hk, look_tab _ _ _ _ hl]
  intro i hi
  rw [look_tab _ _ _ _ (by omega : i < len), look_tab _ _ _ _ hl]
  exact hmax i (by omega)

/-- both normalised slices of `FFTMTF._generate_mtf_data`, started at the zero-frequency index: their
first entry is the total of the PSF, which bounds every entry -/
theorem mtfSlices_eq (gp : ℕ) [NeZero gp] (psf : ℕ → ℕ → ℝ)
    (hp : ∀ r c, r < gp → c < gp → 0 ≤ psf r c) (k : ℕ) (hk : k < gp - gp / 2) :
    look Num.zero (mtfSlices gp (gp / 2) psf).1 k = otfAbs gp psf (gp / 2 + k) (gp / 2) / total gp psf ∧
    look Num.zero (mtfSlices gp (gp / 2) psf).2 k = otfAbs gp psf (gp / 2) (gp / 2 + k) / total gp psf := by
  have hl : 0 < gp - gp / 2 := Nat.zero_lt_of_lt hk
  unfold mtfSlices
  rw [normSlice_tab _ _ hl _ k hk, normSlice_tab _ _ hl _ k hk]
  · simp only [tanRaw, sagRaw, mtfData_eq, Nat.add_zero, otfAbs_centre gp psf hp, and_self]
  all_goals
    intro i _
    simp only [tanRaw, sagRaw, mtfData_eq, Nat.add_zero, otfAbs_centre gp psf hp]
    exact otfAbs_le gp psf hp _ _

/-! ### the transform of the PSF table -/

/-- `|DFT₂(pad P)|²` as a complex array (the unshifted, unnormalised PSF) -/
noncomputable def powerC (n gp pad : ℕ) (P : ℕ → ℕ → Cx ℝ) (k1 k2 : ℕ) : ℂ :=
  ((Complex.normSq (dft2R gp (padC n pad P) k1 k2) : ℝ) : ℂ)

/-- the modulus of the transform of the PSF table is `100/norm` times that of the transform of
`|DFT₂(pad P)|²` (`fftshift` of the PSF only multiplies its transform by a unit-modulus factor) -/
lemma otfAbs_psf (n gp pad : ℕ) [NeZero gp] (P : ℕ → ℕ → Cx ℝ) (norm : ℝ) (r c : ℕ) :
    otfAbs gp (look2 Num.zero (psfTabG n gp pad P norm)) r c
      = |100 / norm| * ‖dft2R gp (powerC n gp pad P) (shiftIdx gp r) (shiftIdx gp c)‖ := by
  unfold otfAbs
  refine (congrArg Norm.norm (dft2R_congr gp _ (fun r' c' => ((100 / norm : ℝ) : ℂ) *
    powerC n gp pad P ((r' + (gp - gp / 2)) % gp) ((c' + (gp - gp / 2)) % gp))
    (fun r' c' hr' hc' => ?_) _ _)).trans ?_
  · unfold realC powerC
    rw [psfTabG_entry n gp pad P norm r' c' hr' hc', ← Complex.ofReal_mul]
    exact congrArg _ (by unfold shiftIdx; ring)
  · rw [dft2R_const_mul, norm_mul, Complex.norm_real, Real.norm_eq_abs,
      norm_dft2R_shift gp (powerC n gp pad P)]

/-- Wiener–Khinchin + triangle inequality on the model's arrays -/
theorem otfAbs_le_zero_phase (n gp pad : ℕ) [NeZero gp] (P P0 : ℕ → ℕ → Cx ℝ)
    (h0 : ∀ i j, toC (P0 i j) = ((‖toC (P i j)‖ : ℝ) : ℂ)) (norm : ℝ) (r c : ℕ) :
    otfAbs gp (look2 Num.zero (psfTabG n gp pad P norm)) r c
      ≤ otfAbs gp (look2 Num.zero (psfTabG n gp pad P0 norm)) r c := by
  rw [otfAbs_psf, otfAbs_psf]
  refine mul_le_mul_of_nonneg_left (norm_dft2R_normSq_le gp (padC n pad P) (padC n pad P0) (fun r c => ?_) _ _)
    (abs_nonneg _)
  rw [map_padC (fun z => ((‖z‖ : ℝ) : ℂ)) (by rw [norm_zero, Complex.ofReal_zero]), padC_eq]
  simp_rw [h0]

lemma total_zero_phase (n gp pad : ℕ) [NeZero gp] (hfit : pad + n ≤ gp) (P P0 : ℕ → ℕ → Cx ℝ)
    (h0 : ∀ i j, toC (P0 i j) = ((‖toC (P i j)‖ : ℝ) : ℂ)) (norm : ℝ) :
    total gp (look2 Num.zero (psfTabG n gp pad P0 norm)) = total gp (look2 Num.zero (psfTabG n gp pad P norm)) := by
  unfold total
  rw [psfTabG_sum n gp pad hfit, psfTabG_sum n gp pad hfit]
  simp_rw [h0, Complex.normSq_ofReal, Complex.normSq_eq_norm_sq, sq]

end PsfBridge
