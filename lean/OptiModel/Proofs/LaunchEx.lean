import OptiModel.Proofs.Launch
/-!
# Concrete systems for the non-vacuity examples of C03

One refracting stop surface at `z = 0` (so `EPL = 0`, evaluated through the model's `EPL`: reverse
paraxial trace from the stop), two fields `y = 0` and `y = 10` with vignetting `(0,0)` / `(0.1, 0.2)`.
-/
namespace C03
open Model Launch

/-- object at `zobj`, one refracting stop surface at `z = 0`, image at `z = 60`
(`PSurf` fields in order: kind, dy, z, r, n1, n2, refl, stop) -/
noncomputable def exSurfs (zobj : ℝ) : List (PSurf ℝ) :=
  [⟨.object, 0, zobj, 0, 1, 1, false, false⟩, ⟨.standard, 0, 0, 50, 1, 1.5, false, true⟩,
   ⟨.image, 0, 60, 0, 1.5, 1.5, false, false⟩]
/-- fields `y = 0` (no vignetting) and `y = 10` (`vx = 0.1`, `vy = 0.2`) -/
noncomputable def exFields : List (FieldRec ℝ) := [⟨0, 0, 0, 0⟩, ⟨0, 10, 0.1, 0.2⟩]
/-- infinite object, angle fields, `EPD = 10` -/
noncomputable def exInf : RGSys ℝ := ⟨⟨exSurfs 0, .EPD, 10, .angle, 10, true⟩, exFields, false, true, 0, 0⟩
/-- object at `z = −100`, object-height fields -/
noncomputable def exFinH : RGSys ℝ := ⟨⟨exSurfs (-100), .EPD, 10, .objectHeight, 10, false⟩, exFields, false, true, 0, 0⟩
/-- object at `z = −100`, angle fields -/
noncomputable def exFinA : RGSys ℝ := ⟨⟨exSurfs (-100), .EPD, 10, .angle, 10, false⟩, exFields, false, true, 0, 0⟩
/-- telecentric object space, object NA 0.1 -/
noncomputable def exTele : RGSys ℝ := ⟨⟨exSurfs (-100), .objectNA, 0.1, .objectHeight, 10, false⟩, exFields, true, true, 0, 0⟩

theorem exEPL (z : ℝ) (a : ApType) (v : ℝ) (f : FieldType) (m : ℝ) (b : Bool) :
    EPL (⟨exSurfs z, a, v, f, m, b⟩ : PSys ℝ) = 0 := by
  simp [EPL, exSurfs, stopIndex, inverted, posOf, traceGeneric, ptrace, pstep, ys, us, last, tenth,
    List.findIdx?_cons]
theorem exPos1 (z : ℝ) : posOf (exSurfs z) 1 = 0 := by simp [posOf, exSurfs]
theorem exPos0 (z : ℝ) : posOf (exSurfs z) 0 = z := by simp [posOf, exSurfs]
theorem exOffset : startOffset exInf = 10 := by
  simp [startOffset, exInf, EPD, exSurfs, npMinL]
theorem exhx : exFields.any (fun f => !(Num.isZero f.x)) = false := by
  simp [exFields, NumReal.isZero_eq]
theorem exMaxY : npMaxL (exFields.map (·.y)) = 10 := by
  simp [exFields, npMaxL, NumReal.lt_decide]
theorem exNodup : (exFields.map (·.y)).Nodup := by
  simp [exFields]
theorem exMaxField : maxField exFields = 10 := by
  have h : Real.sqrt (10 * 10) = 10 := Real.sqrt_mul_self (by norm_num)
  simp [maxField, exFields, npMaxL, NumReal.lt_decide, NumReal.sqrt_eq, NumReal.mul_eq, NumReal.add_eq, h]

theorem exInfEPL : EPL exInf.psys = 0 := exEPL _ _ _ _ _ _
theorem exFinHEPL : EPL exFinH.psys = 0 := exEPL _ _ _ _ _ _
theorem exFinAEPL : EPL exFinA.psys = 0 := exEPL _ _ _ _ _ _
theorem exInfPos1 : posOf exInf.psys.surfs 1 = 0 := exPos1 _
theorem exInfD : startOffset exInf + EPL exInf.psys = 10 := by rw [exOffset, exInfEPL]; norm_num
theorem exInfDpos : 0 < startOffset exInf + EPL exInf.psys := by rw [exInfD]; norm_num
theorem exInfDz : 0 < startOffset exInf + EPL exInf.psys - posOf exInf.psys.surfs 1 := by
  rw [exInfD, exInfPos1]; norm_num
/-- the object plane of `exFinH` (whatever its sag) is not the pupil plane -/
theorem exFinHz (sag : ℝ) :
    (if exFinH.objPlane then 0 else sag) + posOf exFinH.psys.surfs 0 ≠ EPL exFinH.psys := by
  rw [exFinHEPL]; show (0:ℝ) + posOf (exSurfs (-100)) 0 ≠ 0; rw [exPos0]; norm_num
theorem exFinAz : posOf exFinA.psys.surfs 0 ≠ EPL exFinA.psys := by
  rw [exFinAEPL]; show posOf (exSurfs (-100)) 0 ≠ 0; rw [exPos0]; norm_num
theorem exTeleNA : 0 < exTele.psys.apValue ∧ exTele.psys.apValue < 1 := by
  show (0:ℝ) < 0.1 ∧ (0.1:ℝ) < 1; norm_num
theorem exField0 : (⟨0, 0, 0, 0⟩ : FieldRec ℝ) ∈ exFields := by simp [exFields]
theorem exField1 : (⟨0, 10, 0.1, 0.2⟩ : FieldRec ℝ) ∈ exFields := by simp [exFields]
theorem exMaxPos : 0 < npMaxL (exFields.map (·.y)) := by rw [exMaxY]; norm_num
theorem exSqrt : Real.sqrt (0.3 * 0.3 + 0.4 * 0.4) = 0.5 := by
  rw [show (0.3 * 0.3 + 0.4 * 0.4 : ℝ) = 0.5 * 0.5 by norm_num, Real.sqrt_mul_self (by norm_num)]

end C03
