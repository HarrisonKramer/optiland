import OptiModel.Proofs.TolerAbs
import OptiModel.Proofs.OptimPresc
import Mathlib.Tactic.Positivity
/-!
The prescription state machine `Presc ℝ` with the variables of `optimization/variable/*.py`
obeys the read/write laws `TolerAbs.Frame.Lawful` (on lenses without pickups/solves the compensator
touches nothing else: `Presc.update` is then the identity).
-/
namespace TolerPresc
open Model TolerAbs OptimProofs

/-! ### the frame on `Presc ℝ` -/

abbrev Shape := SKind × GKind × Bool × Bool × Nat
def sShape (s : SRec ℝ) : Shape := (s.kind, s.gk, s.stop, s.refl, s.coeffs.length)
def shapes (P : Presc ℝ) : List Shape := P.surfs.map sShape

/-- radii of the planes (a radius variable exists on curved surfaces only) -/
noncomputable def planeR (P : Presc ℝ) : List ℝ := P.surfs.map fun s => if s.gk = GKind.plane then s.radius else 0
/-- index behind the last surface (no index variable can address it: `set_index` needs a successor) -/
noncomputable def lastIdx (P : Presc ℝ) : ℝ := matN P ((P.surfs.map (·.mPost)).getD (P.surfs.length - 1) 0)

/-- everything of a prescription that no variable writes.  `planeR` and `lastIdx` are in it because no
variable reads them either (no radius variable on a plane, no index variable behind the last surface):
with them `Eqv` fixes the whole snapshot (`eqv_snap`). -/
abbrev RestT := List Shape × List ℝ × ℝ × ℝ × List (ℝ × Bool) × List (Pickup ℝ) × List (Solve ℝ) × ApType × ℝ × FieldType × ℝ × Bool
noncomputable def restP (P : Presc ℝ) : RestT :=
  (shapes P, planeR P, lastIdx P, P.lastThickness, P.waves, P.pickups, P.solves, P.apType, P.apValue, P.fieldType, P.maxYField,
   P.objInf)

/-- the variable exists on a lens of this shape: surface in range (`k+1` in range for thickness and
index), radius variables only on non-planes (`set_radius` rebuilds a `Plane` as a sphere), coefficient
number in range -/
def okShape (sh : List Shape) (v : Var) : Prop :=
  match v.kind with
  | .thickness => v.surf + 1 < sh.length
  | .index => v.surf + 1 < sh.length
  | .radius => ∃ x, sh[v.surf]? = some x ∧ x.2.1 ≠ GKind.plane
  | .coeff i => ∃ x, sh[v.surf]? = some x ∧ i < x.2.2.2.2
  | _ => v.surf < sh.length

/-- same shape as the nominal lens, first surface at `z = 0` (true of every lens built with
`add_surface`, re-established by every `set_thickness`), material identifiers in range -/
def invP (N s : Presc ℝ) : Prop :=
  shapes s = shapes N ∧ posAt s 1 = 0 ∧ ∀ t, t ∈ s.surfs → t.mPost < s.mats.length

noncomputable def frameP (N : Presc ℝ) : Frame (Presc ℝ) Var ℝ RestT := ⟨prescSys, okShape (shapes N), invP N, restP⟩


/-! ### one surface record: what a variable reads of it and what writing does to it

Every variable but thickness and index reads one entry of one surface record and `Var.set` rewrites
that record alone; `set_thickness` rewrites the `z` of every record, `set_index` the media identifiers
of two records and the table of media.  The read/write laws are proved per record (`rd_wr_*`,
`wr_frame`) and carried to the prescription by `map_set`. -/

noncomputable def rd : VKind → SRec ℝ → ℝ
  | .radius, s => s.radius
  | .conic, s => s.conic
  | .coeff i, s => s.coeffs.getD i 0
  | .tiltX, s => s.rx
  | .tiltY, s => s.ry
  | .decX, s => s.dx
  | .decY, s => s.dy
  | _, _ => 0

noncomputable def wr : VKind → ℝ → SRec ℝ → SRec ℝ
  | .radius, a, s =>
    match s.gk with
    | .plane => { s with gk := .standard, radius := a, conic := 0 }
    | _ => { s with radius := a }
  | .conic, a, s => { s with conic := a }
  | .coeff i, a, s => { s with coeffs := modifyAt s.coeffs i fun _ => a }
  | .tiltX, a, s => { s with rx := a }
  | .tiltY, a, s => { s with ry := a }
  | .decX, a, s => { s with dx := a }
  | .decY, a, s => { s with dy := a }
  | _, _, s => s

/-- the variable exists on this record (`okShape` read on the record itself) -/
def okS : VKind → SRec ℝ → Prop
  | .radius, s => s.gk ≠ .plane
  | .coeff i, s => i < s.coeffs.length
  | _, _ => True

theorem get_eq_rd (P : Presc ℝ) (K : VKind) (k : Nat) (h1 : K ≠ .thickness) (h2 : K ≠ .index) :
    Var.get P ⟨K, k⟩ = (P.surfs.map (rd K)).getD k 0 := by
  cases K <;> first | rfl | contradiction | skip
  case coeff i =>
    show ((P.surfs.map (·.coeffs)).getD k []).getD i 0 = _
    rw [getD_map, getD_map]
    cases P.surfs[k]? <;> rfl

theorem set_eq_wr (P : Presc ℝ) (K : VKind) (k : Nat) (a : ℝ) (h1 : K ≠ .thickness) (h2 : K ≠ .index) :
    Var.set P ⟨K, k⟩ a = { P with surfs := modifyAt P.surfs k (wr K a) } := by
  cases K <;> first | rfl | contradiction

theorem mats_set (P : Presc ℝ) (i : Var) (a : ℝ) (h : i.kind ≠ .index) : (Var.set P i a).mats = P.mats := by
  obtain ⟨K, k⟩ := i
  cases K <;> first | rfl | contradiction

theorem ok_surf (P : Presc ℝ) (i : Var) (h : okShape (shapes P) i) :
    ∃ s, P.surfs[i.surf]? = some s ∧ okS i.kind s := by
  obtain ⟨K, k⟩ := i
  cases K <;> simp only [okShape, shapes, List.length_map, List.getElem?_map, Option.map_eq_some_iff] at h
  case radius => obtain ⟨_, ⟨s, hs, rfl⟩, hx⟩ := h; exact ⟨s, hs, hx⟩
  case coeff i => obtain ⟨_, ⟨s, hs, rfl⟩, hx⟩ := h; exact ⟨s, hs, hx⟩
  all_goals exact ⟨_, List.getElem?_eq_getElem (show k < _ by omega), trivial⟩

theorem wr_radius (a : ℝ) (s : SRec ℝ) (h : s.gk ≠ .plane) : wr .radius a s = { s with radius := a } := by
  obtain ⟨_, gk, _, _, _, _, _, _, _, _, _, _, _, _⟩ := s
  cases gk <;> first | rfl | exact absurd rfl h

theorem rd_wr_same (K : VKind) (a : ℝ) (s : SRec ℝ) (h1 : K ≠ .thickness) (h2 : K ≠ .index) (h : okS K s) :
    rd K (wr K a s) = a := by
  cases K <;> first | rfl | contradiction | skip
  case radius => rw [wr_radius a s h]; rfl
  case coeff i =>
    show (modifyAt s.coeffs i fun _ => a).getD i 0 = a
    rw [getD_modifyAt, List.getElem?_eq_getElem h]
    simp

theorem rd_wr_ne (K K' : VKind) (a : ℝ) (s : SRec ℝ) (hne : K' ≠ K) (h : okS K s) :
    rd K' (wr K a s) = rd K' s := by
  cases K
  case radius => rw [wr_radius a s h]; cases K' <;> first | rfl | contradiction
  case coeff i =>
    cases K' <;> try rfl
    case coeff i' =>
      have e : i' ≠ i := fun e => hne (e ▸ rfl)
      show (modifyAt s.coeffs i fun _ => a).getD i' 0 = s.coeffs.getD i' 0
      rw [getD_modifyAt, List.getD_eq_getElem?_getD]
      cases s.coeffs[i']? <;> simp [e]
  all_goals cases K' <;> first | rfl | contradiction

/-- writing leaves alone what no variable reads on this record -/
theorem wr_frame (K : VKind) (a : ℝ) (s : SRec ℝ) (h : okS K s) :
    (wr K a s).z = s.z ∧ (wr K a s).mPost = s.mPost ∧ sShape (wr K a s) = sShape s ∧
    (if (wr K a s).gk = .plane then (wr K a s).radius else 0) = if s.gk = .plane then s.radius else 0 := by
  cases K
  case radius =>
    rw [wr_radius a s h]
    exact ⟨rfl, rfl, rfl, by rw [if_neg h, if_neg h]⟩
  case coeff i => exact ⟨rfl, rfl, by simp [sShape, wr, length_modifyAt], rfl⟩
  all_goals exact ⟨rfl, rfl, rfl, rfl⟩

/-- a column `g` of the surface table is kept by `Var.set` if the write of that kind keeps `g` on one
record -/
theorem map_set {γ : Type} (P : Presc ℝ) (i : Var) (a : ℝ) (hok : okShape (shapes P) i) (g : SRec ℝ → γ)
    (hwr : ∀ s, okS i.kind s → g (wr i.kind a s) = g s)
    (hz : i.kind = .thickness → ∀ s z, g { s with z := z } = g s)
    (hm : i.kind = .index → ∀ s m, g { s with mPost := m } = g s ∧ g { s with mPre := m } = g s) :
    (Var.set P i a).surfs.map g = P.surfs.map g := by
  obtain ⟨s, hs, hS⟩ := ok_surf P i hok
  obtain ⟨K, k⟩ := i
  by_cases h1 : K = .thickness
  · subst h1
    exact map_assignZ _ _ g (hz rfl)
  by_cases h2 : K = .index
  · subst h2
    show (modifyAt (modifyAt P.surfs k _) (k+1) _).map g = _
    rw [map_modifyAt _ _ _ _ fun x _ => (hm rfl x _).2, map_modifyAt _ _ _ _ fun x _ => (hm rfl x _).1]
  rw [set_eq_wr P K k a h1 h2]
  refine map_modifyAt _ _ _ _ fun x hx => hwr x ?_
  rw [hs] at hx
  cases hx
  exact hS

theorem shapes_set (P : Presc ℝ) (i : Var) (a : ℝ) (hi : okShape (shapes P) i) :
    shapes (Var.set P i a) = shapes P :=
  map_set P i a hi sShape (fun s h => (wr_frame _ a s h).2.2.1) (fun _ _ _ => rfl) (fun _ _ _ => ⟨rfl, rfl⟩)

theorem planeR_set (P : Presc ℝ) (i : Var) (a : ℝ) (hi : okShape (shapes P) i) :
    planeR (Var.set P i a) = planeR P :=
  map_set P i a hi _ (fun s h => (wr_frame _ a s h).2.2.2) (fun _ _ _ => rfl) (fun _ _ _ => ⟨rfl, rfl⟩)

theorem positions_set (P : Presc ℝ) (i : Var) (a : ℝ) (hi : okShape (shapes P) i) (h : i.kind ≠ .thickness) :
    positions (Var.set P i a) = positions P :=
  map_set P i a hi _ (fun s h => (wr_frame _ a s h).1) (fun e => absurd e h) (fun _ _ _ => ⟨rfl, rfl⟩)

theorem mPost_set (P : Presc ℝ) (i : Var) (a : ℝ) (hi : okShape (shapes P) i) (h : i.kind ≠ .index) :
    (Var.set P i a).surfs.map (·.mPost) = P.surfs.map (·.mPost) :=
  map_set P i a hi _ (fun s h => (wr_frame _ a s h).2.1) (fun _ _ _ => rfl) (fun e => absurd e h)

theorem rd_set (P : Presc ℝ) (i : Var) (a : ℝ) (hi : okShape (shapes P) i) (K : VKind) (h : K ≠ i.kind) :
    (Var.set P i a).surfs.map (rd K) = P.surfs.map (rd K) :=
  map_set P i a hi _ (fun s hs => rd_wr_ne _ K a s h hs) (fun _ _ _ => by cases K <;> rfl)
    (fun _ _ _ => ⟨by cases K <;> rfl, by cases K <;> rfl⟩)

theorem length_set (P : Presc ℝ) (i : Var) (a : ℝ) (hi : okShape (shapes P) i) :
    (Var.set P i a).surfs.length = P.surfs.length := by
  simpa [shapes] using congrArg List.length (shapes_set P i a hi)

/-! ### thickness and index -/

theorem length_assignZ (ss : List (SRec ℝ)) (pos : List ℝ) : (assignZ ss pos).length = ss.length := by
  unfold assignZ; simp

/-- `p1` of `set_thickness`: positions behind surface `k` shifted by `delta` (the same vector as
`OptimProofs.bump`, read entry by entry; the proofs here use the `bump` form) -/
noncomputable def shifted (pos : List ℝ) (v : ℝ) (k i : Nat) : ℝ :=
  pos.getD i 0 + if k + 1 ≤ i then (v - pos.getD (k+1) 0 + pos.getD k 0) else 0

/-- `OptimProofs.getD_setThicknessPos` in the `shifted` form -/
theorem getD_setThicknessPos (pos : List ℝ) (v : ℝ) (k i : Nat) (hi : i < pos.length) :
    (setThicknessPos pos v k).getD i 0 = shifted pos v k i - (if 1 < pos.length then shifted pos v k 1 else 0) := by
  rw [OptimProofs.getD_setThicknessPos pos v k i hi, getD_bump _ _ _ _ hi]
  unfold shifted
  by_cases h1 : 1 < pos.length
  · rw [getD_bump _ _ _ _ h1, if_pos h1]
    split <;> split <;> ring
  · rw [if_neg h1, getD_of_length_le (bump pos k _) 0 1 (by simp only [bump, List.length_mapIdx]; omega)]
    split <;> ring

theorem positions_setThickness (P : Presc ℝ) (a : ℝ) (k : Nat) :
    positions (setThickness P a k) = setThicknessPos (positions P) a k :=
  OptimProofs.positions_setThickness P a k

theorem posAt1_setThickness (P : Presc ℝ) (a : ℝ) (k : Nat) : posAt (setThickness P a k) 1 = 0 := by
  unfold posAt
  rw [positions_setThickness]
  exact getD_one_setThicknessPos _ a k

/-- the index behind surface `j` after `set_index` on surface `k`: the new medium behind `k`, the old
one (still in the table, which only grows) elsewhere -/
theorem index_setIndex (P : Presc ℝ) (a : ℝ) (k j : Nat) (sj : SRec ℝ) (hsj : P.surfs[j]? = some sj)
    (hlt : sj.mPost < P.mats.length) :
    matN (setIndex P a k) (((setIndex P a k).surfs.map (·.mPost)).getD j 0)
      = if j = k then a else matN P ((P.surfs.map (·.mPost)).getD j 0) := by
  have hpre : ∀ (l : List (SRec ℝ)) (m : Nat),
      (modifyAt l (k+1) fun s => { s with mPre := m }).map (·.mPost) = l.map (·.mPost) :=
    fun l m => map_modifyAt _ _ _ _ fun _ _ => rfl
  show (P.mats ++ [a]).getD (((modifyAt (modifyAt P.surfs k _) (k+1) _).map (·.mPost)).getD j 0) 0 = _
  rw [hpre, getD_map_modifyAt, hsj, getD_map, hsj]
  by_cases e : j = k
  · simp [e]
  · simp only [e, if_false, Option.map_some, Option.getD_some, matN]
    rw [List.getD_eq_getElem?_getD, List.getD_eq_getElem?_getD, List.getElem?_append_left hlt]

/-! ### the read/write laws -/

theorem get_set_P (N P : Presc ℝ) (i j : Var) (a : ℝ) (hP : invP N P) (hi : okShape (shapes N) i)
    (hj : okShape (shapes N) j) : Var.get (Var.set P i a) j = if j = i then a else Var.get P j := by
  obtain ⟨hs, -, hm⟩ := hP
  rw [← hs] at hi hj
  obtain ⟨K, k⟩ := i
  obtain ⟨K', j⟩ := j
  obtain ⟨sj, hsj, -⟩ := ok_surf P _ hj
  obtain ⟨si, hsi, hSi⟩ := ok_surf P _ hi
  by_cases hK : K' = K
  · -- same kind: the entry written reads `a`, the others are kept
    subst hK
    simp only [Var.mk.injEq, true_and]
    by_cases h1 : K' = .thickness
    · subst h1
      exact thickness_setThickness P a k j (by simpa [okShape, shapes] using hj)
    by_cases h2 : K' = .index
    · subst h2
      exact index_setIndex P a k j sj hsj (hm sj (List.mem_of_getElem? hsj))
    rw [get_eq_rd _ _ _ h1 h2, get_eq_rd _ _ _ h1 h2, set_eq_wr _ _ _ _ h1 h2, getD_map_modifyAt, getD_map, hsj]
    by_cases e : j = k
    · subst e
      rw [hsi] at hsj
      cases hsj
      simp only [if_true, Option.map_some, Option.getD_some]
      exact rd_wr_same K' a _ h1 h2 hSi
    · simp only [e, if_false]
  · -- another kind: what it reads is not touched
    rw [if_neg fun e => hK (congrArg Var.kind e)]
    by_cases h1 : K' = .thickness
    · subst h1
      show thickness _ j = thickness P j
      unfold thickness posAt
      rw [positions_set P _ a hi fun e => hK e.symm]
    by_cases h2 : K' = .index
    · subst h2
      show matN _ _ = matN P _
      unfold matN
      rw [mPost_set P _ a hi fun e => hK e.symm, mats_set P _ a fun e => hK e.symm]
    rw [get_eq_rd _ _ _ h1 h2, get_eq_rd _ _ _ h1 h2, rd_set P _ a hi K' hK]

theorem lastIdx_set (P : Presc ℝ) (i : Var) (a : ℝ) (hm : ∀ t, t ∈ P.surfs → t.mPost < P.mats.length)
    (hi : okShape (shapes P) i) :
    lastIdx (Var.set P i a) = lastIdx P := by
  unfold lastIdx
  rw [length_set P i a hi]
  by_cases h : i.kind = .index
  · obtain ⟨K, k⟩ := i
    subst h
    have hlt : k + 1 < P.surfs.length := by simpa [okShape, shapes] using hi
    have hl := List.getElem?_eq_getElem (show P.surfs.length - 1 < P.surfs.length by omega)
    rw [show Var.set P ⟨.index, k⟩ a = setIndex P a k from rfl,
      index_setIndex P a k _ _ hl (hm _ (List.mem_of_getElem? hl)), if_neg (by omega)]
  · unfold matN
    rw [mPost_set P i a hi h, mats_set P i a h]

theorem rest_set_P (N P : Presc ℝ) (i : Var) (a : ℝ) (hP : invP N P) (hi : okShape (shapes N) i) :
    restP (Var.set P i a) = restP P := by
  rw [← hP.1] at hi
  unfold restP
  rw [shapes_set P i a hi, planeR_set P i a hi, lastIdx_set P i a hP.2.2 hi]
  obtain ⟨K, k⟩ := i
  cases K <;> rfl

theorem inv_set_P (N P : Presc ℝ) (i : Var) (a : ℝ) (hP : invP N P) (hi : okShape (shapes N) i) :
    invP N (Var.set P i a) := by
  obtain ⟨hs, hz, hm⟩ := hP
  rw [← hs] at hi
  refine ⟨(shapes_set P i a hi).trans hs, ?_, ?_⟩
  · by_cases h : i.kind = .thickness
    · obtain ⟨K, k⟩ := i
      subst h
      exact posAt1_setThickness P a k
    · unfold posAt
      rw [positions_set P i a hi h]
      exact hz
  · intro t ht
    by_cases h : i.kind = .index
    · -- the new medium is the last of the longer table
      obtain ⟨K, k⟩ := i
      subst h
      obtain ⟨s, hs, -, h2⟩ := mem_setIndex P a k t ht
      have := hm s hs
      show t.mPost < (P.mats ++ [a]).length
      rw [List.length_append, List.length_singleton]
      omega
    · have := List.mem_map_of_mem (f := (·.mPost)) ht
      rw [mPost_set P i a hi h] at this
      obtain ⟨x, hx, e⟩ := List.mem_map.1 this
      rw [mats_set P i a h, ← e]
      exact hm x hx

theorem frameP_lawful (N : Presc ℝ) : (frameP N).Lawful :=
  ⟨fun s i a h hi => inv_set_P N s i a h hi,
   fun s i a j h hi hj => get_set_P N s i j a h hi hj,
   fun s i a h hi => rest_set_P N s i a h hi⟩

theorem shapes_getElem? (P : Presc ℝ) (k : Nat) : (shapes P)[k]? = P.surfs[k]?.map sShape := by
  unfold shapes; rw [List.getElem?_map]

/-- converse of `ok_surf` for the variables that read one record -/
theorem okShape_of_okS (P : Presc ℝ) (K : VKind) (k : Nat) (s : SRec ℝ) (h1 : K ≠ .thickness) (h2 : K ≠ .index)
    (hs : P.surfs[k]? = some s) (h : okS K s) : okShape (shapes P) ⟨K, k⟩ := by
  have hk : k < (shapes P).length := by simpa [shapes] using (List.getElem?_eq_some_iff.1 hs).1
  cases K <;> first | contradiction | exact hk | exact ⟨sShape s, by rw [shapes_getElem?, hs]; rfl, h⟩

/-! ### observable snapshot -/

/-- what `harness/c01.snap` observes of a prescription (indices at one wavelength) -/
structure Snap where
  z : List ℝ
  radius : List ℝ
  conic : List ℝ
  rx : List ℝ
  ry : List ℝ
  dx : List ℝ
  dy : List ℝ
  n : List ℝ
  coeffs : List (List ℝ)
  shapes : List Shape

noncomputable def snapOf (P : Presc ℝ) : Snap :=
  ⟨positions P, P.surfs.map (·.radius), P.surfs.map (·.conic), P.surfs.map (·.rx), P.surfs.map (·.ry),
   P.surfs.map (·.dx), P.surfs.map (·.dy), P.surfs.map (fun s => matN P s.mPost), P.surfs.map (·.coeffs), shapes P⟩

theorem len_of_inv {N P : Presc ℝ} (h : invP N P) : P.surfs.length = (shapes N).length := by
  rw [← h.1]; simp [shapes]

theorem eqv_snap (N P Q : Presc ℝ) (hn : 2 ≤ (shapes N).length) (h : (frameP N).Eqv P Q) : snapOf P = snapOf Q := by
  obtain ⟨hP, hQ, hr, hg⟩ := h
  have hg' : ∀ j, okShape (shapes N) j → Var.get P j = Var.get Q j := hg
  have hsh : shapes P = shapes Q := hP.1.trans hQ.1.symm
  have lP := len_of_inv hP
  have lQ := len_of_inv hQ
  -- two columns are equal if they agree on the records at each place, which have the same shape
  have col : ∀ {γ : Type} (f g : SRec ℝ → γ), (∀ k sp sq, k < (shapes N).length → P.surfs[k]? = some sp →
      Q.surfs[k]? = some sq → sShape sp = sShape sq → f sp = g sq) → P.surfs.map f = Q.surfs.map g := by
    intro γ f g h
    refine List.ext_getElem (by simp [lP, lQ]) fun k h1 h2 => ?_
    have hk : k < P.surfs.length := by simpa using h1
    have hp := List.getElem?_eq_getElem hk
    have hq := List.getElem?_eq_getElem (show k < Q.surfs.length by omega)
    rw [List.getElem_map, List.getElem_map]
    refine h k _ _ (by omega) hp hq ?_
    have := congrArg (·[k]?) hsh
    simpa only [shapes_getElem?, hp, hq, Option.map_some, Option.some.injEq] using this
  -- every entry a variable could read is the same, also on the records where that variable does not exist
  have hrd : ∀ K, K ≠ .thickness → K ≠ .index → ∀ k sp sq, k < (shapes N).length → P.surfs[k]? = some sp →
      Q.surfs[k]? = some sq → sShape sp = sShape sq → rd K sp = rd K sq := by
    intro K h1 h2 k sp sq hk hsp hsq hs
    by_cases hok : okS K sp
    · have := hg' ⟨K, k⟩ (hP.1 ▸ okShape_of_okS P K k sp h1 h2 hsp hok)
      rwa [get_eq_rd _ _ _ h1 h2, get_eq_rd _ _ _ h1 h2, getD_map, getD_map, hsp, hsq] at this
    · cases K <;> first | exact absurd trivial hok | skip
      · -- the radius of a plane is part of `rest`
        have hpl : sp.gk = .plane := not_not.1 hok
        have hpl' : sq.gk = .plane := (congrArg (·.2.1) hs).symm.trans hpl
        have := congrArg (·.getD k 0) (congrArg (·.2.1) hr : planeR P = planeR Q)
        simp only [planeR, getD_map, hsp, hsq, Option.map_some, Option.getD_some, hpl, hpl', if_true] at this
        exact this
      · -- a coefficient number beyond the end reads 0 on both
        rename_i i
        have hlen : sp.coeffs.length = sq.coeffs.length := congrArg (·.2.2.2.2) hs
        show sp.coeffs.getD i 0 = sq.coeffs.getD i 0
        rw [getD_of_length_le _ _ _ (Nat.le_of_not_lt hok), getD_of_length_le _ _ _ (hlen ▸ Nat.le_of_not_lt hok)]
  have hco : P.surfs.map (·.coeffs) = Q.surfs.map (·.coeffs) :=
    col _ _ fun k sp sq hk hsp hsq hs =>
      list_ext_getD 0 _ _ (congrArg (·.2.2.2.2) hs) fun i _ => hrd (.coeff i) nofun nofun k sp sq hk hsp hsq hs
  have hpos : positions P = positions Q := by
    have lp : (positions P).length = (shapes N).length := by simp [positions, lP]
    exact positions_ext _ _ (by simp [positions, lP, lQ]) (by omega) (hP.2.1.trans hQ.2.1.symm)
      fun i hi => hg' ⟨.thickness, i⟩ (show i + 1 < (shapes N).length by omega)
  -- the index behind each surface from its index variable, behind the last one from `rest`
  have hn' : P.surfs.map (fun s => matN P s.mPost) = Q.surfs.map (fun s => matN Q s.mPost) := by
    refine col _ _ fun k sp sq hk hsp hsq _ => ?_
    by_cases hlast : k + 1 < (shapes N).length
    · have := hg' ⟨.index, k⟩ hlast
      simpa only [Var.get, getD_map, hsp, hsq, Option.map_some, Option.getD_some] using this
    · have hl : lastIdx P = lastIdx Q := congrArg (·.2.2.1) hr
      have e1 : P.surfs.length - 1 = k := by omega
      have e2 : Q.surfs.length - 1 = k := by omega
      simpa only [lastIdx, e1, e2, getD_map, hsp, hsq, Option.map_some, Option.getD_some] using hl
  unfold snapOf
  congr 1
  exacts [col _ _ (hrd .radius nofun nofun), col _ _ (hrd .conic nofun nofun), col _ _ (hrd .tiltX nofun nofun),
    col _ _ (hrd .tiltY nofun nofun), col _ _ (hrd .decX nofun nofun), col _ _ (hrd .decY nofun nofun)]

/-! ### scaling round trips -/

theorem compVar_roundtrip (v : Var) (x : ℝ) : (compVar (α := ℝ) v).un ((compVar v).sc x) = x := by
  obtain ⟨K, k⟩ := v
  cases K <;> simp only [compVar, VKind.scale, VKind.unscale, Num.ofNat, NumReal.ofRat_eq, NumReal.div_eq,
    NumReal.sub_eq, NumReal.add_eq, NumReal.mul_eq]
  case coeff i => exact mul_div_cancel_right₀ x (by positivity)
  all_goals ring

theorem pertVar_roundtrip (v : Var) (x : ℝ) : (pertVar (α := ℝ) v).un ((pertVar v).sc x) = x := rfl

end TolerPresc
