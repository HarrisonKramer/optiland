import OptiModel.Model.Zernike
import OptiModel.Proofs.NumReal
import OptiModel.Proofs.ZernikeTab
import Mathlib.Analysis.SpecialFunctions.Integrals.Basic
/-! Helper lemmas for C10 (analytic part): the model's radial term over ℝ is the polynomial with the
rational coefficient list; `innerR` *is* the weighted integral `∫₀¹ p q r dr` (through Mathlib's
`integral_pow`); the integer tables of `Proofs/ZernikeTab.lean` carried over to `radialCoeffs` and
`innerR`; integrals of the azimuthal terms over a period; squares of the norm constants. -/
namespace ZernikeR
open Model.Zern
open scoped Num

noncomputable instance : PowNat ℝ := ⟨fun x e => x ^ e⟩
theorem pow_eq (x : ℝ) (e : ℕ) : PowNat.pow x e = x ^ e := rfl

/-- evaluation of a rational coefficient list at a real radius -/
noncomputable def evalR (p : List (Nat × ℚ)) (r : ℝ) : ℝ := (p.map fun a => (a.2 : ℝ) * r ^ a.1).sum

theorem evalR_nil (r : ℝ) : evalR [] r = 0 := rfl
theorem evalR_cons (a : Nat × ℚ) (p : List (Nat × ℚ)) (r : ℝ) :
    evalR (a :: p) r = (a.2 : ℝ) * r ^ a.1 + evalR p r := by simp [evalR]

theorem continuous_evalR (p : List (Nat × ℚ)) : Continuous (evalR p) := by
  induction p with
  | nil => exact continuous_const
  | cons a p ih =>
    have : evalR (a :: p) = fun r => (a.2 : ℝ) * r ^ a.1 + evalR p r := funext (evalR_cons a p)
    rw [this]; fun_prop

theorem evalR_one (p : List (Nat × ℚ)) : evalR p 1 = (((p.map (·.2)).sum : ℚ) : ℝ) := by
  induction p with
  | nil => simp [evalR]
  | cons a p ih => rw [evalR_cons, ih]; simp

theorem integral_monomial (c d : ℝ) (e e' : ℕ) :
    ∫ r in (0:ℝ)..1, (c * r ^ e) * (d * r ^ e') * r = c * d / ((e:ℝ) + (e':ℝ) + 2) := by
  have h : ∀ r : ℝ, (c * r ^ e) * (d * r ^ e') * r = (c * d) * r ^ (e + e' + 1) := by
    intro r; ring
  simp_rw [h]
  rw [intervalIntegral.integral_const_mul, integral_pow]
  simp only [one_pow, ne_eq, Nat.add_eq_zero_iff, one_ne_zero, and_false, not_false_eq_true, zero_pow, sub_zero]
  push_cast
  ring

theorem integral_mono_evalR (a : Nat × ℚ) (q : List (Nat × ℚ)) :
    ∫ r in (0:ℝ)..1, ((a.2:ℝ) * r ^ a.1) * evalR q r * r =
      (((q.map fun b => a.2 * b.2 / ((a.1 + b.1 + 2 : Nat) : ℚ)).sum : ℚ) : ℝ) := by
  induction q with
  | nil => simp [evalR]
  | cons b q ih =>
    have h : ∀ r : ℝ, ((a.2:ℝ) * r ^ a.1) * evalR (b :: q) r * r =
        ((a.2:ℝ) * r ^ a.1) * ((b.2:ℝ) * r ^ b.1) * r + ((a.2:ℝ) * r ^ a.1) * evalR q r * r := by
      intro r; rw [evalR_cons]; ring
    simp_rw [h]
    rw [intervalIntegral.integral_add, integral_monomial, ih]
    · push_cast [List.map_cons, List.sum_cons]; rfl
    · exact Continuous.intervalIntegrable (by fun_prop) _ _
    · have := continuous_evalR q
      exact Continuous.intervalIntegrable (by fun_prop) _ _

theorem integral_evalR (p q : List (Nat × ℚ)) :
    ∫ r in (0:ℝ)..1, evalR p r * evalR q r * r = ((innerR p q : ℚ) : ℝ) := by
  induction p with
  | nil => simp [evalR, innerR]
  | cons a p ih =>
    have h : ∀ r : ℝ, evalR (a :: p) r * evalR q r * r =
        ((a.2:ℝ) * r ^ a.1) * evalR q r * r + evalR p r * evalR q r * r := by
      intro r; rw [evalR_cons]; ring
    simp_rw [h]
    have cp := continuous_evalR p
    have cq := continuous_evalR q
    rw [intervalIntegral.integral_add, integral_mono_evalR, ih]
    · simp only [innerR, List.map_cons, List.sum_cons, Rat.cast_add]
    · exact Continuous.intervalIntegrable (by fun_prop) _ _
    · exact Continuous.intervalIntegrable (by fun_prop) _ _

theorem fact_pos (n : Nat) : 0 < fact n := by
  induction n with
  | zero => simp [fact]
  | succ n ih => simp only [fact]; positivity

theorem foldl_add_eq {β : Type} (f : β → ℝ) (l : List β) :
    l.foldl (fun v k => v + f k) 0 = (l.map f).sum := by
  rw [List.sum_eq_foldl, List.foldl_map]

theorem coeffNum_real (n m : Int) (k : Nat) : (coeffNum n m k : ℝ) = ((coeffQ n m k : ℚ) : ℝ) := by
  unfold coeffNum coeffQ
  simp only
  have h2 : 0 < (coeffFrac n m k).2 := by
    unfold coeffFrac; simp only
    exact Nat.mul_pos (Nat.mul_pos (fact_pos _) (fact_pos _)) (fact_pos _)
  generalize coeffFrac n m k = f at *
  have hg : 0 < Nat.gcd f.1 f.2 := Nat.gcd_pos_of_pos_right _ h2
  have hgR : ((Nat.gcd f.1 f.2 : ℕ) : ℝ) ≠ 0 := by positivity
  have e : (Num.ofRat (f.1 / Nat.gcd f.1 f.2) (f.2 / Nat.gcd f.1 f.2) : ℝ) = ((((f.1:ℚ) / (f.2:ℚ)) : ℚ) : ℝ) := by
    rw [NumReal.ofRat_eq, Nat.cast_div (Nat.gcd_dvd_left _ _) hgR, Nat.cast_div (Nat.gcd_dvd_right _ _) hgR]
    push_cast
    rw [div_div_div_cancel_right₀ hgR]
  split_ifs
  · exact e
  · rw [NumReal.fneg_eq, e]; push_cast; ring

theorem radialTerm_real (n m : Int) (r : ℝ) : radialTerm n m r = evalR (radialCoeffs n m) r := by
  unfold radialTerm radialCoeffs evalR
  simp only [NumReal.add_eq, NumReal.mul_eq, NumReal.zero_eq, pow_eq]
  rw [foldl_add_eq (fun k => (coeffNum n m k : ℝ) * r ^ expo n k), List.map_map]
  congr 1
  apply List.map_congr_left
  intro k _
  simp [coeffNum_real]

theorem radialCoeffs_neg (n m : Int) : radialCoeffs n (-m) = radialCoeffs n m := by
  unfold radialCoeffs sMax
  rw [Int.natAbs_neg]
  apply List.map_congr_left
  intro k _
  have : coeffFrac n (-m) k = coeffFrac n m k := by
    unfold coeffFrac
    simp only [sub_neg_eq_add, ← sub_eq_add_neg, Prod.mk.injEq, true_and]
    ring
  simp only [coeffQ, this]

theorem radialCoeffs_abs (n m : Int) : radialCoeffs n m = radialCoeffs n (m.natAbs : Int) := by
  rcases le_or_gt 0 m with h | h
  · rw [Int.natAbs_of_nonneg h]
  · have : (m.natAbs : Int) = -m := by omega
    rw [this, radialCoeffs_neg]

open ZernikeTab

/-- an integer coefficient list read as a rational one -/
def castZ (p : List (Nat × ℤ)) : List (Nat × ℚ) := p.map fun a => (a.1, (a.2 : ℚ))

/-- on the supported range the coefficients are integers: `radialCoeffs` is the list of the tables -/
theorem radialCoeffs_supported {N : ℕ} {m : Int} (h : validNM N m) (hN : N < 20) :
    radialCoeffs N m = castZ (radialZ N m.natAbs) := by
  obtain ⟨-, h1, h2, h3⟩ := h
  rw [radialCoeffs_abs]
  unfold radialCoeffs radialZ castZ
  rw [List.map_map]
  refine List.map_congr_left fun k hk => ?_
  have hd := (coeff_integral_table m.natAbs (by omega) N hN (by omega) k (List.mem_range.mp hk)).1
  simp only [Function.comp, coeffQ, coeffZ, Prod.mk.injEq, true_and]
  split_ifs <;> simp only [Int.cast_neg, Int.cast_natCast, Nat.cast_div_charZero hd]

theorem innerR_castZ {L : ℤ} (p q : List (Nat × ℤ))
    (hL : ∀ a ∈ p, ∀ b ∈ q, ((a.1 + b.1 + 2 : ℕ) : ℤ) ∣ L) :
    innerR (castZ p) (castZ q) * L = innerZ L p q := by
  unfold innerR innerZ castZ
  simp only [List.map_map, Function.comp_def, ← List.sum_map_mul_right, ← List.sum_map_mul_left,
    Int.cast_list_sum, Int.cast_mul]
  refine congrArg List.sum (List.map_congr_left fun a ha => congrArg List.sum (List.map_congr_left fun b hb => ?_))
  rw [Int.cast_div_charZero (hL a ha b hb)]
  push_cast
  field_simp

theorem radialZ_expo_le {N M : ℕ} : ∀ a ∈ radialZ N M, a.1 ≤ N := fun a ha => by
  obtain ⟨k, -, rfl⟩ := List.mem_map.mp ha
  unfold expo; omega

/-- radial orthogonality in coefficient form, from the integer table -/
theorem innerR_radial {n n' m : Int} (h : validNM n m) (h' : validNM n' m) (hle : n ≤ n') (hn' : n' ≤ 19) :
    innerR (radialCoeffs n m) (radialCoeffs n' m) = if n = n' then 1 / (2 * (n:ℚ) + 2) else 0 := by
  obtain ⟨N, rfl⟩ := Int.eq_ofNat_of_zero_le h.1
  obtain ⟨N', rfl⟩ := Int.eq_ofNat_of_zero_le h'.1
  rw [radialCoeffs_supported h (by omega), radialCoeffs_supported h' (by omega)]
  have hZ := innerR_castZ (L := lcm40) (radialZ N m.natAbs) (radialZ N' m.natAbs) fun a ha b hb =>
    lcm40_dvd _ (by have := radialZ_expo_le a ha; have := radialZ_expo_le b hb; omega) (by omega)
  obtain ⟨-, h1, h2, h3⟩ := h
  obtain ⟨-, -, -, h3'⟩ := h'
  have hT := ortho_table N' (by omega) N (by omega) m.natAbs (by omega) (by omega)
  generalize innerR (castZ (radialZ N m.natAbs)) (castZ (radialZ N' m.natAbs)) = x at hZ ⊢
  have e : x * lcm40 * (2 * (N:ℚ) + 2) = if (N:ℤ) = N' then (lcm40:ℚ) else 0 := by
    rw [hZ]; exact_mod_cast hT
  have hL : (lcm40 : ℚ) ≠ 0 := Int.cast_ne_zero.mpr (by decide)
  have h2 : 2 * (N:ℚ) + 2 ≠ 0 := by positivity
  rw [Int.cast_natCast]
  split_ifs at e ⊢
  · rw [eq_div_iff h2]; exact mul_left_cancel₀ hL (by linear_combination e)
  · simpa [hL, h2] using e

/-- `∫₀¹ R_n^m R_n'^m r dr = δ_{nn'}/(2n+2)` for the model's radial term, all valid indices up to 19 -/
theorem radial_orthogonality {n n' m : Int} (h : validNM n m) (h' : validNM n' m) (hn : n ≤ 19) (hn' : n' ≤ 19) :
    ∫ r in (0:ℝ)..1, radialTerm n m r * radialTerm n' m r * r =
      if n = n' then 1 / (2 * (n:ℝ) + 2) else 0 := by
  simp_rw [radialTerm_real]
  rcases le_total n n' with hle | hle
  · rw [integral_evalR, innerR_radial h h' hle hn']
    split_ifs <;> push_cast <;> rfl
  · simp_rw [mul_comm (evalR (radialCoeffs n m) _)]
    rw [integral_evalR, innerR_radial h' h hle hn]
    simp only [eq_comm (a := n')]
    split_ifs with e
    · subst e; push_cast; rfl
    · exact Rat.cast_zero

/-- `R_n^m(1) = 1` for the model's radial term, all valid indices up to 19 -/
theorem radial_at_one {n m : Int} (h : validNM n m) (hn : n ≤ 19) : radialTerm n m (1:ℝ) = 1 := by
  obtain ⟨N, rfl⟩ := Int.eq_ofNat_of_zero_le h.1
  rw [radialTerm_real, radialCoeffs_supported h (by omega), evalR_one, castZ, List.map_map]
  obtain ⟨-, h1, h2, h3⟩ := h
  have e := congrArg (Int.cast : ℤ → ℚ) (at_one_table N (by omega) m.natAbs (by omega) (by omega))
  rw [Int.cast_list_sum, List.map_map, Int.cast_one] at e
  exact (congrArg _ e).trans Rat.cast_one

section azimuthal
open Real

theorem integral_cos_int (k : ℤ) : ∫ x in (0:ℝ)..2*π, Real.cos ((k:ℝ) * x) = if k = 0 then 2*π else 0 := by
  by_cases hk : k = 0
  · subst hk; simp
  · rw [if_neg hk]
    have hk' : (k:ℝ) ≠ 0 := by exact_mod_cast hk
    rw [intervalIntegral.integral_comp_mul_left (fun x => Real.cos x) hk', integral_cos]
    have : (k:ℝ) * (2 * π) = ((2 * k : ℤ) : ℝ) * π := by push_cast; ring
    rw [this, Real.sin_int_mul_pi]
    simp

theorem integral_sin_int (k : ℤ) : ∫ x in (0:ℝ)..2*π, Real.sin ((k:ℝ) * x) = 0 := by
  by_cases hk : k = 0
  · subst hk; simp
  · have hk' : (k:ℝ) ≠ 0 := by exact_mod_cast hk
    rw [intervalIntegral.integral_comp_mul_left (fun x => Real.sin x) hk', integral_sin]
    rw [Real.cos_int_mul_two_pi]
    simp

/-- a product that is half a sum of two `H`-terms (product-to-sum identity `h`) integrates termwise -/
theorem integral_prod_to_sum {F H : ℝ → ℝ} (hH : Continuous H) (s : ℝ) {k l : ℤ}
    (h : ∀ x, F x = (1/2) * H ((k:ℝ) * x) + s * ((1/2) * H ((l:ℝ) * x))) :
    ∫ x in (0:ℝ)..2*π, F x =
      (1/2) * (∫ x in (0:ℝ)..2*π, H ((k:ℝ) * x)) + s * ((1/2) * ∫ x in (0:ℝ)..2*π, H ((l:ℝ) * x)) := by
  simp_rw [h]
  rw [intervalIntegral.integral_add, intervalIntegral.integral_const_mul, intervalIntegral.integral_const_mul,
    intervalIntegral.integral_const_mul]
  · exact Continuous.intervalIntegrable (by fun_prop) _ _
  · exact Continuous.intervalIntegrable (by fun_prop) _ _

theorem integral_cos_cos (a b : ℤ) : ∫ x in (0:ℝ)..2*π, Real.cos ((a:ℝ) * x) * Real.cos ((b:ℝ) * x) =
    (if a - b = 0 then π else 0) + (if a + b = 0 then π else 0) := by
  rw [integral_prod_to_sum continuous_cos 1 (k := a - b) (l := a + b) fun x => by
    push_cast; rw [sub_mul, add_mul, Real.cos_sub, Real.cos_add]; ring, integral_cos_int, integral_cos_int]
  split_ifs <;> ring

theorem integral_sin_sin (a b : ℤ) : ∫ x in (0:ℝ)..2*π, Real.sin ((a:ℝ) * x) * Real.sin ((b:ℝ) * x) =
    (if a - b = 0 then π else 0) - (if a + b = 0 then π else 0) := by
  rw [integral_prod_to_sum continuous_cos (-1) (k := a - b) (l := a + b) fun x => by
    push_cast; rw [sub_mul, add_mul, Real.cos_sub, Real.cos_add]; ring, integral_cos_int, integral_cos_int]
  split_ifs <;> ring

theorem integral_sin_cos (a b : ℤ) : ∫ x in (0:ℝ)..2*π, Real.sin ((a:ℝ) * x) * Real.cos ((b:ℝ) * x) = 0 := by
  rw [integral_prod_to_sum continuous_sin 1 (k := a + b) (l := a - b) fun x => by
    push_cast; rw [sub_mul, add_mul, Real.sin_sub, Real.sin_add]; ring, integral_sin_int, integral_sin_int]
  ring

theorem toNat_cast {k : Int} (h : 0 ≤ k) : ((k.toNat : ℕ) : ℝ) = (k : ℝ) := by
  exact_mod_cast Int.toNat_of_nonneg h

theorem azimuthalTerm_real (m : Int) (φ : ℝ) :
    azimuthalTerm m φ = if 0 ≤ m then Real.cos ((m:ℝ) * φ) else Real.sin ((m:ℝ) * φ) := by
  unfold azimuthalTerm
  simp only [NumReal.ofNat_eq, NumReal.mul_eq, NumReal.cos_eq, NumReal.sin_eq, NumReal.fneg_eq]
  split_ifs with h
  · rw [toNat_cast h]
  · rw [show -((m.natAbs : ℕ) : ℝ) = (m : ℝ) by exact_mod_cast (by omega : -((m.natAbs : ℕ) : ℤ) = m)]

theorem azimuthal_orthogonality (m m' : Int) :
    ∫ φ in (0:ℝ)..2*π, azimuthalTerm m φ * azimuthalTerm m' φ =
      if m = m' then (if m = 0 then 2*π else π) else 0 := by
  simp_rw [azimuthalTerm_real]
  by_cases h : 0 ≤ m <;> by_cases h' : 0 ≤ m' <;> simp only [h, h', if_true, if_false]
  · rw [integral_cos_cos]
    rcases eq_or_ne m m' with rfl | hne
    · rw [if_pos (sub_self m), if_pos rfl]
      by_cases z : m = 0
      · rw [if_pos (by omega), if_pos z]; ring
      · rw [if_neg (by omega), if_neg z, add_zero]
    · rw [if_neg (by omega), if_neg (by omega), if_neg hne, add_zero]
  · simp_rw [mul_comm (Real.cos _) (Real.sin _)]
    rw [integral_sin_cos, if_neg (by omega)]
  · rw [integral_sin_cos, if_neg (by omega)]
  · rw [integral_sin_sin, if_neg (by omega : ¬ m + m' = 0), sub_zero]
    rcases eq_or_ne m m' with rfl | hne
    · rw [if_pos (sub_self m), if_pos rfl, if_neg (by omega)]
    · rw [if_neg (by omega), if_neg hne]

end azimuthal

section norm
open Real

/-- Standard and Noll: `N² = (2n+2)/(2 or 1)`, so `N² · 1/(2n+2) · (2π or π) = π` -/
theorem norm_constants {f : Family} (hf : f = .standard ∨ f = .noll) {n : Int} (m : Int) (hn : 0 ≤ n) :
    (normConstant f n m : ℝ) ^ 2 * (1 / (2 * (n:ℝ) + 2)) * (if m = 0 then 2 * π else π) = π := by
  have h0 : (0:ℝ) ≤ n := by exact_mod_cast hn
  have hN : (normConstant f n m : ℝ) ^ 2 = (2 * (n:ℝ) + 2) / (if m = 0 then 2 else 1) := by
    rcases hf with rfl | rfl <;> unfold normConstant <;>
      simp only [NumReal.ofNat_eq, NumReal.div_eq, NumReal.sqrt_eq, NumReal.two_eq, NumReal.one_eq] <;>
      split_ifs <;>
      (rw [toNat_cast (by omega), Real.sq_sqrt (by push_cast; positivity)]; push_cast; ring)
  have : 2 * (n:ℝ) + 2 ≠ 0 := by positivity
  rw [hN]
  split_ifs <;> field_simp

theorem norm_fringe (n m : Int) : (normConstant .fringe n m : ℝ) = 1 := rfl

theorem getTerm_real (f : Family) (c : ℝ) (n m : Int) (r φ : ℝ) :
    getTerm f c n m r φ = c * normConstant f n m * radialTerm n m r * azimuthalTerm m φ := rfl

end norm

end ZernikeR
