import OptiModel.Model.Polar
import OptiModel.Proofs.NumReal
import Mathlib.Tactic.FieldSimp
import Mathlib.Tactic.Ring
import Mathlib.Tactic.LinearCombination
import Mathlib.Tactic.Positivity
import Mathlib.Tactic.Linarith
/-!
Helper lemmas for properties C17 and C16 (its polarization section) over ℝ: the model's operations on `Cx`, `V3`, `M3` as equations in
Mathlib's notation (so that proofs rewrite with them instead of unfolding the model) and the little
algebra that follows from them; orthonormal frames, the code's choice of the `s` vector, complex
fields under real matrices, the launched field, the linear retarder in closed form, the Fresnel
matrices below the critical angle, 2×2 unitary mixing.
-/
namespace PolarLemmas
open Model.Polar

/-! ### the model's complex numbers over ℝ, in Mathlib's notation -/

theorem cx_add (a b : Cx ℝ) : a.add b = ⟨a.re + b.re, a.im + b.im⟩ := rfl
theorem cx_neg (a : Cx ℝ) : a.neg = ⟨-a.re, -a.im⟩ := rfl
theorem cx_mul (a b : Cx ℝ) : a.mul b = ⟨a.re * b.re - a.im * b.im, a.re * b.im + a.im * b.re⟩ := rfl
theorem cx_conj (a : Cx ℝ) : a.conj = ⟨a.re, -a.im⟩ := rfl
theorem cx_smul (a : Cx ℝ) (x : ℝ) : a.smul x = ⟨a.re * x, a.im * x⟩ := rfl
theorem cx_rmul (x : ℝ) (a : Cx ℝ) : Cx.rmul x a = ⟨x * a.re, x * a.im⟩ := rfl
theorem cx_cis (x : ℝ) : Cx.cis x = ⟨Real.cos x, Real.sin x⟩ := rfl
theorem cx_ofReal (x : ℝ) : Cx.ofReal x = ⟨x, 0⟩ := rfl
theorem cx_zero : (Cx.zero : Cx ℝ) = ⟨0, 0⟩ := rfl
theorem cx_abs2 (a : Cx ℝ) : a.abs2 = a.re * a.re + a.im * a.im := rfl

/-- `|z|²` as `np.abs(z)**2` computes it -/
theorem abs_mul_abs (z : Cx ℝ) : z.abs * z.abs = z.abs2 :=
  Real.mul_self_sqrt (add_nonneg (mul_self_nonneg z.re) (mul_self_nonneg z.im))

/-- `e^{i(a+b)} = e^{ia} e^{ib}` -/
theorem cis_add (a b : ℝ) : Cx.cis (a + b) = (Cx.cis a).mul (Cx.cis b) := by
  rw [cx_mul, cx_cis, cx_cis, cx_cis, Real.cos_add, Real.sin_add, add_comm (_ * Real.cos b)]

/-- `|x e^{ip}|² = x²` -/
theorem abs2_rmul_cis (x p : ℝ) : (Cx.rmul x (Cx.cis p)).abs2 = x ^ 2 := by
  rw [cx_abs2, cx_rmul, cx_cis]
  linear_combination x ^ 2 * Real.cos_sq_add_sin_sq p

theorem isZero_iff (a : ℝ) : Num.isZero a = true ↔ a = 0 := Iff.of_eq (NumReal.isZero_eq a)

/-! ### real 3×3 algebra on the model's `M3 ℝ`, `V3 ℝ` -/

theorem dot_eq (a b : V3 ℝ) : dot a b = a.x * b.x + a.y * b.y + a.z * b.z := rfl

theorem cross_eq (a b : V3 ℝ) :
    cross a b = ⟨a.y * b.z - a.z * b.y, a.z * b.x - a.x * b.z, a.x * b.y - a.y * b.x⟩ := rfl

theorem m3_mulVec (a : M3 ℝ) (v : V3 ℝ) : a.mulVec v =
    ⟨a.a00 * v.x + a.a01 * v.y + a.a02 * v.z, a.a10 * v.x + a.a11 * v.y + a.a12 * v.z,
     a.a20 * v.x + a.a21 * v.y + a.a22 * v.z⟩ := rfl

theorem m3_mul (a b : M3 ℝ) : a.mul b =
    ⟨a.a00 * b.a00 + a.a01 * b.a10 + a.a02 * b.a20, a.a00 * b.a01 + a.a01 * b.a11 + a.a02 * b.a21,
     a.a00 * b.a02 + a.a01 * b.a12 + a.a02 * b.a22, a.a10 * b.a00 + a.a11 * b.a10 + a.a12 * b.a20,
     a.a10 * b.a01 + a.a11 * b.a11 + a.a12 * b.a21, a.a10 * b.a02 + a.a11 * b.a12 + a.a12 * b.a22,
     a.a20 * b.a00 + a.a21 * b.a10 + a.a22 * b.a20, a.a20 * b.a01 + a.a21 * b.a11 + a.a22 * b.a21,
     a.a20 * b.a02 + a.a21 * b.a12 + a.a22 * b.a22⟩ := rfl

theorem m3_one : (M3.one : M3 ℝ) = ⟨1, 0, 0, 0, 1, 0, 0, 0, 1⟩ := rfl

theorem mul_assoc' (A B C : M3 ℝ) : (A.mul B).mul C = A.mul (B.mul C) := by
  cases A; cases B; cases C
  simp only [m3_mul, M3.mk.injEq]
  refine ⟨?_, ?_, ?_, ?_, ?_, ?_, ?_, ?_, ?_⟩ <;> ring

theorem transpose_mul (A B : M3 ℝ) : (A.mul B).transpose = B.transpose.mul A.transpose := by
  cases A; cases B
  simp only [m3_mul, M3.transpose, M3.mk.injEq]
  refine ⟨?_, ?_, ?_, ?_, ?_, ?_, ?_, ?_, ?_⟩ <;> ring

theorem one_mul' (A : M3 ℝ) : (M3.one : M3 ℝ).mul A = A := by
  cases A
  simp only [m3_mul, m3_one, one_mul, zero_mul, add_zero, zero_add]

theorem mul_one' (A : M3 ℝ) : A.mul (M3.one : M3 ℝ) = A := by
  cases A
  simp only [m3_mul, m3_one, mul_one, mul_zero, add_zero, zero_add]

theorem transpose_transpose (A : M3 ℝ) : A.transpose.transpose = A := rfl

theorem mulVec_mul (A B : M3 ℝ) (v : V3 ℝ) : (A.mul B).mulVec v = A.mulVec (B.mulVec v) := by
  cases A; cases B; cases v
  simp only [m3_mul, m3_mulVec, V3.mk.injEq]
  refine ⟨?_, ?_, ?_⟩ <;> ring

theorem one_mulVec (v : V3 ℝ) : (M3.one : M3 ℝ).mulVec v = v := by
  cases v
  simp only [m3_mulVec, m3_one, one_mul, zero_mul, add_zero, zero_add]

/-- `⟨A v, w⟩ = ⟨v, Aᵀ w⟩` -/
theorem dot_mulVec (A : M3 ℝ) (v w : V3 ℝ) : dot (A.mulVec v) w = dot v (A.transpose.mulVec w) := by
  simp only [dot_eq, m3_mulVec, M3.transpose]
  ring

/-- real orthogonal matrix -/
def Orthogonal (A : M3 ℝ) : Prop := A.transpose.mul A = M3.one

theorem Orthogonal.one : Orthogonal M3.one := one_mul' _

theorem Orthogonal.mul {A B : M3 ℝ} (hA : Orthogonal A) (hB : Orthogonal B) : Orthogonal (A.mul B) := by
  unfold Orthogonal at *
  rw [transpose_mul, mul_assoc', ← mul_assoc' A.transpose, hA, one_mul', hB]

theorem Orthogonal.dot {A : M3 ℝ} (hA : Orthogonal A) (v w : V3 ℝ) :
    dot (A.mulVec v) (A.mulVec w) = dot v w := by
  rw [dot_mulVec, ← mulVec_mul, hA, one_mulVec]

/-! ### orthonormal frames -/

theorem dot_comm (a b : V3 ℝ) : dot a b = dot b a := by
  simp only [dot_eq]; ring

theorem dot_cross_left (a b : V3 ℝ) : dot (cross a b) a = 0 := by
  simp only [dot_eq, cross_eq]; ring

theorem dot_cross_right (a b : V3 ℝ) : dot (cross a b) b = 0 := by
  simp only [dot_eq, cross_eq]; ring

/-- Lagrange: `|a × b|² = |a|²|b|² − (a·b)²` -/
theorem dot_cross_cross (a b : V3 ℝ) :
    dot (cross a b) (cross a b) = dot a a * dot b b - dot a b * dot a b := by
  simp only [dot_eq, cross_eq]; ring

/-- rows `(s, k×s, k)` form an orthogonal matrix when `s`, `k` are orthonormal: rows orthonormal … -/
theorem frame_rows (s k : V3 ℝ) (hs : dot s s = 1) (hk : dot k k = 1) (hsk : dot s k = 0) :
    (M3.ofRows s (cross k s) k).mul (M3.ofRows s (cross k s) k).transpose = M3.one := by
  -- the entries of `M Mᵀ` are the scalar products of the rows of `M`
  have h : ∀ a b c : V3 ℝ, (M3.ofRows a b c).mul (M3.ofRows a b c).transpose
      = ⟨dot a a, dot a b, dot a c, dot b a, dot b b, dot b c, dot c a, dot c b, dot c c⟩ := fun _ _ _ => rfl
  simp only [h, dot_comm s (cross k s), dot_comm k (cross k s), dot_comm k s,
    dot_cross_left, dot_cross_right, dot_cross_cross, hs, hk, hsk, mul_one, mul_zero, sub_zero, m3_one]

/-- … and complete (columns orthonormal): `s sᵀ + p pᵀ + k kᵀ = 1` -/
theorem frame_cols (s k : V3 ℝ) (hs : dot s s = 1) (hk : dot k k = 1) (hsk : dot s k = 0) :
    (M3.ofRows s (cross k s) k).transpose.mul (M3.ofRows s (cross k s) k) = M3.one := by
  obtain ⟨sx, sy, sz⟩ := s
  obtain ⟨kx, ky, kz⟩ := k
  simp only [M3.ofRows, M3.transpose, m3_mul, m3_one, cross_eq, dot_eq, M3.mk.injEq] at *
  -- with `K = k·k`, `S = s·s`, `D = s·k` and `p = k × s`:
  -- p_i p_j = δ_ij (K S − D²) − S k_i k_j − K s_i s_j + D (k_i s_j + s_i k_j)
  refine ⟨?_, ?_, ?_, ?_, ?_, ?_, ?_, ?_, ?_⟩
  · linear_combination (sx*sx+sy*sy+sz*sz - sx*sx) * hk + (1 - kx*kx) * hs
      + (-(sx*kx+sy*ky+sz*kz) + (kx*sx+sx*kx)) * hsk
  · linear_combination (- sx*sy) * hk + (- kx*ky) * hs + (kx*sy+sx*ky) * hsk
  · linear_combination (- sx*sz) * hk + (- kx*kz) * hs + (kx*sz+sx*kz) * hsk
  · linear_combination (- sy*sx) * hk + (- ky*kx) * hs + (ky*sx+sy*kx) * hsk
  · linear_combination (sx*sx+sy*sy+sz*sz - sy*sy) * hk + (1 - ky*ky) * hs
      + (-(sx*kx+sy*ky+sz*kz) + (ky*sy+sy*ky)) * hsk
  · linear_combination (- sy*sz) * hk + (- ky*kz) * hs + (ky*sz+sy*kz) * hsk
  · linear_combination (- sz*sx) * hk + (- kz*kx) * hs + (kz*sx+sz*kx) * hsk
  · linear_combination (- sz*sy) * hk + (- kz*ky) * hs + (kz*sy+sz*ky) * hsk
  · linear_combination (sx*sx+sy*sy+sz*sz - sz*sz) * hk + (1 - kz*kz) * hs
      + (-(sx*kx+sy*ky+sz*kz) + (kz*sz+sz*kz)) * hsk

theorem ofCols_eq (a b c : V3 ℝ) : M3.ofCols a b c = (M3.ofRows a b c).transpose := rfl

/-- `o_out @ o_in` for a given `s` -/
noncomputable def frameMatrix (s k0 k1 : V3 ℝ) : M3 ℝ :=
  (M3.ofCols s (cross k1 s) k1).mul (M3.ofRows s (cross k0 s) k0)

theorem frameMatrix_orthogonal (s k0 k1 : V3 ℝ) (hs : dot s s = 1) (h0 : dot k0 k0 = 1)
    (h1 : dot k1 k1 = 1) (hs0 : dot s k0 = 0) (hs1 : dot s k1 = 0) :
    Orthogonal (frameMatrix s k0 k1) := by
  unfold Orthogonal frameMatrix
  rw [ofCols_eq, transpose_mul, transpose_transpose, mul_assoc',
    ← mul_assoc' (M3.ofRows s (cross k1 s) k1), frame_rows s k1 hs h1 hs1, one_mul',
    frame_cols s k0 hs h0 hs0]

/-- `o_in` sends `k0` to `(s·k0, p0·k0, k0·k0) = (0, 0, 1)`, which `o_out` sends to its third column -/
theorem frameMatrix_k (s k0 k1 : V3 ℝ) (h0 : dot k0 k0 = 1) (hs0 : dot s k0 = 0) :
    (frameMatrix s k0 k1).mulVec k0 = k1 := by
  have hin : (M3.ofRows s (cross k0 s) k0).mulVec k0 = ⟨dot s k0, dot (cross k0 s) k0, dot k0 k0⟩ := rfl
  rw [frameMatrix, mulVec_mul, hin, hs0, dot_cross_left, h0]
  simp only [M3.ofCols, m3_mulVec, mul_zero, mul_one, zero_add]

/-! ### the code's choice of `s` -/

theorem vnorm_sq (v : V3 ℝ) : vnorm v * vnorm v = dot v v :=
  Real.mul_self_sqrt
    (add_nonneg (add_nonneg (mul_self_nonneg v.x) (mul_self_nonneg v.y)) (mul_self_nonneg v.z))

theorem vnorm_eq_zero_iff (v : V3 ℝ) : vnorm v = 0 ↔ v.x = 0 ∧ v.y = 0 ∧ v.z = 0 := by
  constructor
  · intro h
    have h2 : v.x * v.x + v.y * v.y + v.z * v.z = 0 := (vnorm_sq v).symm.trans (by rw [h, mul_zero])
    have hx := mul_self_nonneg v.x
    have hy := mul_self_nonneg v.y
    have hz := mul_self_nonneg v.z
    exact ⟨mul_self_eq_zero.mp (by linarith), mul_self_eq_zero.mp (by linarith),
      mul_self_eq_zero.mp (by linarith)⟩
  · rintro ⟨hx, hy, hz⟩
    show Real.sqrt (v.x * v.x + v.y * v.y + v.z * v.z) = 0
    rw [hx, hy, hz, mul_zero, add_zero, add_zero, Real.sqrt_zero]

theorem sdiv_dot (v w : V3 ℝ) (m : ℝ) : dot (v.sdiv m) w = dot v w / m := by
  simp only [V3.sdiv, dot_eq]
  num_real
  ring

theorem sdiv_unit (v : V3 ℝ) (h : vnorm v ≠ 0) : dot (v.sdiv (vnorm v)) (v.sdiv (vnorm v)) = 1 := by
  rw [sdiv_dot, dot_comm, sdiv_dot, ← vnorm_sq, div_div, div_self (mul_ne_zero h h)]

/-- `k × x̂ = (0, k_z, −k_y)` vanishes only for `k` along the x axis -/
theorem cross_xhat_ne_zero (k : V3 ℝ) (hx : k.y ≠ 0 ∨ k.z ≠ 0) : vnorm (cross k xhat) ≠ 0 := by
  intro h0
  obtain ⟨-, hz, hy⟩ := (vnorm_eq_zero_iff _).mp h0
  simp only [cross_eq, xhat] at hz hy
  num_real
  rw [mul_zero, mul_one] at hz hy
  exact hx.elim (fun h => h (by linarith)) (fun h => h (by linarith))

/-- hypotheses under which the code's frames are defined: unit directions and, when `k0 ∥ k1`
(fallback branch), `k0` not along the x axis -/
structure FrameOK (k0 k1 : V3 ℝ) : Prop where
  unit0 : dot k0 k0 = 1
  unit1 : dot k1 k1 = 1
  fallback : vnorm (cross k0 k1) = 0 → k0.y ≠ 0 ∨ k0.z ≠ 0
  /-- the directions are exactly parallel or separated by more than the rounding guard of the code's
  parallel test (in between, the code's fallback frame is orthonormal only to ~1e-8) -/
  clear : vnorm (cross k0 k1) = 0 ∨ (1:ℝ) / 100000000 ≤ vnorm (cross k0 k1)

theorem vnorm_cross_self (k : V3 ℝ) : vnorm (cross k k) = 0 :=
  (vnorm_eq_zero_iff _).mpr
    ⟨sub_eq_zero.mpr (mul_comm _ _), sub_eq_zero.mpr (mul_comm _ _), sub_eq_zero.mpr (mul_comm _ _)⟩

/-- directions separated by more than the rounding guard never reach the fallback branch -/
theorem FrameOK.of_apart {k0 k1 : V3 ℝ} (h0 : dot k0 k0 = 1) (h1 : dot k1 k1 = 1)
    (h : ((1:ℝ) / 100000000) ^ 2 ≤ dot (cross k0 k1) (cross k0 k1)) : FrameOK k0 k1 := by
  have hle : (1:ℝ) / 100000000 ≤ vnorm (cross k0 k1) := (Real.le_sqrt' (by norm_num)).mpr h
  exact ⟨h0, h1, fun hz => absurd (hz ▸ hle) (by norm_num), Or.inr hle⟩

theorem sVector_spec (k0 k1 : V3 ℝ) (h : FrameOK k0 k1) :
    dot (sVector k0 k1) (sVector k0 k1) = 1 ∧ dot (sVector k0 k1) k0 = 0 ∧
    dot (sVector k0 k1) k1 = 0 := by
  unfold sVector
  have htol : (parTol : ℝ) = 1 / 100000000 := by unfold parTol; rw [NumReal.ofRat_eq]; norm_num
  by_cases hm : vnorm (cross k0 k1) = 0
  · -- fallback branch: `s ∥ k0 × x̂`, and `k1 ∥ k0`
    have hlt : Num.lt (vnorm (cross k0 k1)) (parTol : ℝ) = true := by
      rw [NumReal.lt_eq, hm, htol]; norm_num
    simp only [hlt, if_true]
    refine ⟨sdiv_unit _ (cross_xhat_ne_zero k0 (h.fallback hm)), ?_, ?_⟩
    · rw [sdiv_dot, dot_cross_left, zero_div]
    · have hc : dot (cross k0 xhat) k1 = -(cross k0 k1).x := by
        simp only [dot_eq, cross_eq, xhat]; num_real; ring
      rw [sdiv_dot, hc, ((vnorm_eq_zero_iff _).mp hm).1, neg_zero, zero_div]
  · have hz : Num.lt (vnorm (cross k0 k1)) (parTol : ℝ) = false := by
      rw [Bool.eq_false_iff, Ne, NumReal.lt_eq, htol, not_lt]
      exact h.clear.resolve_left hm
    simp only [hz, Bool.false_eq_true, if_false]
    exact ⟨sdiv_unit _ hm, by rw [sdiv_dot, dot_cross_left, zero_div],
      by rw [sdiv_dot, dot_cross_right, zero_div]⟩

theorem surfaceMatrix_eq (k0 k1 : V3 ℝ) : surfaceMatrix k0 k1 = frameMatrix (sVector k0 k1) k0 k1 := rfl


/-! ### complex fields under a real matrix -/

/-- real and imaginary parts of a complex 3-vector -/
def reV (E : V3 (Cx ℝ)) : V3 ℝ := ⟨E.x.re, E.y.re, E.z.re⟩
def imV (E : V3 (Cx ℝ)) : V3 ℝ := ⟨E.x.im, E.y.im, E.z.im⟩

theorem sumAbsSq_eq (E : V3 (Cx ℝ)) : sumAbsSq E = dot (reV E) (reV E) + dot (imV E) (imV E) := by
  unfold sumAbsSq
  rw [abs_mul_abs, abs_mul_abs, abs_mul_abs]
  simp only [cx_abs2, dot, reV, imV]
  num_real
  ring

theorem reV_rmulVec (M : M3 ℝ) (E : V3 (Cx ℝ)) : reV (M.rmulVec E) = M.mulVec (reV E) := by
  unfold M3.rmulVec M3.mulVec reV Cx.add Cx.rmul
  rfl

theorem imV_rmulVec (M : M3 ℝ) (E : V3 (Cx ℝ)) : imV (M.rmulVec E) = M.mulVec (imV E) := by
  unfold M3.rmulVec M3.mulVec imV Cx.add Cx.rmul
  rfl

/-- a real orthogonal matrix preserves `Σ|E_i|²` of a complex field -/
theorem Orthogonal.sumAbsSq {M : M3 ℝ} (hM : Orthogonal M) (E : V3 (Cx ℝ)) :
    sumAbsSq (M.rmulVec E) = sumAbsSq E := by
  rw [sumAbsSq_eq, sumAbsSq_eq, reV_rmulVec, imV_rmulVec, hM.dot, hM.dot]

/-! ### the launched field `_get_3d_electric_field` -/

/-- the unit vectors `p̂ = k×x̂/|k×x̂|`, `ŝ = p̂×k` of `_get_3d_electric_field` -/
noncomputable def pHat (k : V3 ℝ) : V3 ℝ := (cross k xhat).sdiv (vnorm (cross k xhat))
noncomputable def sHat (k : V3 ℝ) : V3 ℝ := cross (pHat k) k

theorem launch_frame (k : V3 ℝ) (hk : dot k k = 1) (hx : k.y ≠ 0 ∨ k.z ≠ 0) :
    dot (pHat k) (pHat k) = 1 ∧ dot (pHat k) k = 0 ∧ dot (sHat k) (sHat k) = 1 ∧
    dot (sHat k) k = 0 ∧ dot (sHat k) (pHat k) = 0 := by
  have hp : dot (pHat k) (pHat k) = 1 := sdiv_unit _ (cross_xhat_ne_zero k hx)
  have hpk : dot (pHat k) k = 0 := by rw [pHat, sdiv_dot, dot_cross_left, zero_div]
  refine ⟨hp, hpk, ?_, dot_cross_right _ _, dot_cross_left _ _⟩
  rw [sHat, dot_cross_cross, hp, hk, hpk, mul_one, mul_zero, sub_zero]

/-- the launched field is `J₁ ŝ + J₂ p̂`, `(J₁, J₂)` the Jones vector of the state -/
theorem field3d_eq (st : PolState ℝ) (k : V3 ℝ) : field3d st k =
    ⟨(st.jones.1.smul (sHat k).x).add (st.jones.2.smul (pHat k).x),
     (st.jones.1.smul (sHat k).y).add (st.jones.2.smul (pHat k).y),
     (st.jones.1.smul (sHat k).z).add (st.jones.2.smul (pHat k).z)⟩ := rfl

/-- the launched field has intensity `Ex² + Ey²` and is transverse to the initial direction -/
theorem field3d_spec (st : PolState ℝ) (k : V3 ℝ) (hk : dot k k = 1) (hx : k.y ≠ 0 ∨ k.z ≠ 0) :
    sumAbsSq (field3d st k) = st.Ex ^ 2 + st.Ey ^ 2 ∧ dot (reV (field3d st k)) k = 0 ∧
    dot (imV (field3d st k)) k = 0 := by
  obtain ⟨hp, hpk, hs, hsk, hsp⟩ := launch_frame k hk hx
  rw [sumAbsSq_eq, field3d_eq]
  generalize pHat k = p at *
  generalize sHat k = s at *
  have c1 := Real.sin_sq_add_cos_sq st.px
  have c2 := Real.sin_sq_add_cos_sq st.py
  simp only [PolState.jones, reV, imV, cx_add, cx_smul, cx_rmul, cx_cis, dot_eq] at *
  refine ⟨?_, ?_, ?_⟩
  · linear_combination (st.Ex^2 * (s.x*s.x+s.y*s.y+s.z*s.z)) * c1 + (st.Ey^2 * (p.x*p.x+p.y*p.y+p.z*p.z)) * c2
      + (st.Ex^2) * hs + (st.Ey^2) * hp
      + (2 * st.Ex * st.Ey * (Real.cos st.px * Real.cos st.py + Real.sin st.px * Real.sin st.py)) * hsp
  · linear_combination (st.Ex * Real.cos st.px) * hsk + (st.Ey * Real.cos st.py) * hpk
  · linear_combination (st.Ex * Real.sin st.px) * hsk + (st.Ey * Real.sin st.py) * hpk

/-- `PolarizationState` normalises to unit intensity -/
theorem polarized_unit (a b px py : ℝ) (h : a ≠ 0 ∨ b ≠ 0) :
    (polarized a b px py).Ex ^ 2 + (polarized a b px py).Ey ^ 2 = 1 := by
  have hpos : 0 < a * a + b * b :=
    h.elim (fun h => add_pos_of_pos_of_nonneg (mul_self_pos.mpr h) (mul_self_nonneg b))
      (fun h => add_pos_of_nonneg_of_pos (mul_self_nonneg a) (mul_self_pos.mpr h))
  show (a / Real.sqrt (a * a + b * b)) ^ 2 + (b / Real.sqrt (a * a + b * b)) ^ 2 = 1
  rw [div_pow, div_pow, ← add_div, Real.sq_sqrt hpos.le, pow_two, pow_two, div_self hpos.ne']

/-- the Jones vector of a state carries the intensity `Ex² + Ey²` of its amplitudes -/
theorem jones_abs2 (st : PolState ℝ) : st.jones.1.abs2 + st.jones.2.abs2 = st.Ex ^ 2 + st.Ey ^ 2 := by
  show (Cx.rmul st.Ex (Cx.cis st.px)).abs2 + (Cx.rmul st.Ey (Cx.cis st.py)).abs2 = _
  rw [abs2_rmul_cis, abs2_rmul_cis]

/-! ### the linear retarder -/

/-- `JonesLinearRetarder` is `cos(d/2)·1 − i sin(d/2)·S(2t)`, `S(2t)` the reflection
`[[cos 2t, sin 2t], [sin 2t, −cos 2t]]` -/
theorem retarder_eq (d t : ℝ) : retarder d t =
    ⟨⟨Real.cos (d / 2), -Real.sin (d / 2) * Real.cos (2 * t)⟩, ⟨0, -Real.sin (d / 2) * Real.sin (2 * t)⟩,
     ⟨0, -Real.sin (d / 2) * Real.sin (2 * t)⟩, ⟨Real.cos (d / 2), Real.sin (d / 2) * Real.cos (2 * t)⟩⟩ := by
  have ht := Real.cos_sq_add_sin_sq t
  have h2 := Real.cos_two_mul t
  simp only [retarder, cx_cis, cx_smul, cx_add]
  num_real
  simp only [neg_div, Real.cos_neg, Real.sin_neg, J2.mk.injEq, Cx.mk.injEq, true_and]
  refine ⟨⟨?_, ?_⟩, ?_, ?_⟩
  · linear_combination Real.cos (d / 2) * ht
  · linear_combination Real.sin (d / 2) * (h2 + ht)
  · linear_combination Real.cos (d / 2) * ht
  · linear_combination -Real.sin (d / 2) * (h2 + ht)

/-! ### Fresnel coefficients below the critical angle -/

/-- NumPy's Smith division of two complex numbers with zero imaginary part is the real quotient -/
theorem div_ofReal (a b : ℝ) : Cx.div (⟨a, 0⟩ : Cx ℝ) ⟨b, 0⟩ = ⟨a / b, 0⟩ := by
  unfold Cx.div
  num_real
  -- Smith's test `|0| ≤ |b|` takes the first branch, where `rat = 0 / b = 0`
  rw [if_pos (by rw [abs_zero]; exact abs_nonneg b)]
  simp only [zero_div, mul_zero, add_zero, sub_zero, mul_one_div]

/-- the code's `root` below the critical angle: `√(n² − sin²θ)`, real -/
theorem fresnelRoot_real (n1 n2 θ : ℝ) (hcrit : Real.sin θ ^ 2 ≤ (n2 / n1) ^ 2) :
    fresnelRoot n1 n2 θ = ⟨Real.sqrt ((n2 / n1) ^ 2 - Real.sin θ ^ 2), 0⟩ := by
  unfold fresnelRoot Cx.sqrtReal
  num_real
  have : n2 / n1 * (n2 / n1) - Real.sin θ * Real.sin θ = (n2 / n1) ^ 2 - Real.sin θ ^ 2 := by ring
  rw [this, if_pos (by linarith)]

theorem fresnelRs_real (n1 n2 θ ρ : ℝ) (hr : fresnelRoot n1 n2 θ = ⟨ρ, 0⟩) :
    fresnelRs n1 n2 θ = ⟨(Real.cos θ - ρ) / (Real.cos θ + ρ), 0⟩ := by
  unfold fresnelRs
  rw [hr]
  simp only [Cx.sub, Cx.add, Cx.ofReal]
  num_real
  rw [sub_zero, add_zero, div_ofReal]

theorem fresnelRp_real (n1 n2 θ ρ : ℝ) (hr : fresnelRoot n1 n2 θ = ⟨ρ, 0⟩) :
    fresnelRp n1 n2 θ = ⟨((n2 / n1) ^ 2 * Real.cos θ - ρ) / ((n2 / n1) ^ 2 * Real.cos θ + ρ), 0⟩ := by
  unfold fresnelRp
  rw [hr]
  simp only [Cx.sub, Cx.add, Cx.ofReal]
  num_real
  rw [sub_zero, add_zero, div_ofReal, ← pow_two]

theorem fresnelTs_real (n1 n2 θ ρ : ℝ) (hr : fresnelRoot n1 n2 θ = ⟨ρ, 0⟩) :
    fresnelTs n1 n2 θ = ⟨2 * Real.cos θ / (Real.cos θ + ρ), 0⟩ := by
  unfold fresnelTs
  rw [hr]
  simp only [Cx.add, Cx.ofReal]
  num_real
  rw [add_zero, div_ofReal]

theorem fresnelTp_real (n1 n2 θ ρ : ℝ) (hr : fresnelRoot n1 n2 θ = ⟨ρ, 0⟩) :
    fresnelTp n1 n2 θ = ⟨2 * (n2 / n1) * Real.cos θ / ((n2 / n1) ^ 2 * Real.cos θ + ρ), 0⟩ := by
  unfold fresnelTp
  rw [hr]
  simp only [Cx.add, Cx.ofReal]
  num_real
  rw [add_zero, div_ofReal, ← pow_two]

/-- both Jones matrices of `JonesFresnel` when the code's `root` is the real `ρ` -/
theorem fresnel_real (n1 n2 θ ρ : ℝ) (hr : fresnelRoot n1 n2 θ = ⟨ρ, 0⟩) :
    fresnel n1 n2 θ true = ⟨⟨(Real.cos θ - ρ) / (Real.cos θ + ρ), 0⟩,
      ⟨-(((n2 / n1) ^ 2 * Real.cos θ - ρ) / ((n2 / n1) ^ 2 * Real.cos θ + ρ)), 0⟩, ⟨-1, 0⟩⟩ ∧
    fresnel n1 n2 θ false = ⟨⟨2 * Real.cos θ / (Real.cos θ + ρ), 0⟩,
      ⟨2 * (n2 / n1) * Real.cos θ / ((n2 / n1) ^ 2 * Real.cos θ + ρ), 0⟩, ⟨1, 0⟩⟩ := by
  simp only [fresnel, if_true, Bool.false_eq_true, if_false, fresnelRs_real _ _ _ _ hr,
    fresnelRp_real _ _ _ _ hr, fresnelTs_real _ _ _ _ hr, fresnelTp_real _ _ _ _ hr, cx_neg, cx_ofReal,
    neg_zero, NumReal.fneg_eq, NumReal.one_eq, and_self]

/-- below the critical angle the code's `root` is `(n2/n1)·cos θt`, `θt` the refraction angle of
Snell's law -/
theorem fresnelRoot_eq (n1 n2 θ θt : ℝ) (h1 : 0 < n1) (h2 : 0 < n2) (hct : 0 < Real.cos θt)
    (snell : n1 * Real.sin θ = n2 * Real.sin θt) :
    fresnelRoot n1 n2 θ = ⟨n2 / n1 * Real.cos θt, 0⟩ := by
  unfold fresnelRoot Cx.sqrtReal
  num_real
  have hs : Real.sin θ = n2 / n1 * Real.sin θt := by
    field_simp; linarith
  have hrad : n2 / n1 * (n2 / n1) - Real.sin θ * Real.sin θ = (n2 / n1 * Real.cos θt) ^ 2 := by
    rw [hs]; linear_combination (-(n2 / n1) ^ 2) * Real.sin_sq_add_cos_sq θt
  have hpos : 0 < n2 / n1 * Real.cos θt := by positivity
  rw [hrad, if_pos (by positivity), Real.sqrt_sq hpos.le]

/-- plain-ℝ energy identities (DESIGN A.4) -/
theorem energy_s_aux (c ρ : ℝ) (hc : 0 < c) (hr : 0 < ρ) :
    ((c - ρ) / (c + ρ)) ^ 2 + (ρ / c) * (2 * c / (c + ρ)) ^ 2 = 1 := by
  have : c + ρ ≠ 0 := by positivity
  field_simp; ring

theorem energy_p_aux (n c ρ : ℝ) (hn : 0 < n) (hc : 0 < c) (hr : 0 < ρ) :
    ((n ^ 2 * c - ρ) / (n ^ 2 * c + ρ)) ^ 2 + (ρ / c) * (2 * n * c / (n ^ 2 * c + ρ)) ^ 2 = 1 := by
  have : n ^ 2 * c + ρ ≠ 0 := by positivity
  field_simp; ring


/-- energy balance in terms of the code's `root`: `R + (root / cos θ)·T = 1` for both polarizations -/
theorem fresnel_energy_root (n1 n2 θ ρ : ℝ) (hr : fresnelRoot n1 n2 θ = ⟨ρ, 0⟩) (hn : 0 < n2 / n1)
    (hc : 0 < Real.cos θ) (hρ : 0 < ρ) :
    (fresnel n1 n2 θ true).s.abs2 + ρ / Real.cos θ * (fresnel n1 n2 θ false).s.abs2 = 1 ∧
    (fresnel n1 n2 θ true).p.abs2 + ρ / Real.cos θ * (fresnel n1 n2 θ false).p.abs2 = 1 := by
  obtain ⟨hR, hT⟩ := fresnel_real n1 n2 θ ρ hr
  rw [hR, hT]
  simp only [cx_abs2, mul_zero, add_zero]
  exact ⟨by linear_combination energy_s_aux _ ρ hc hρ, by linear_combination energy_p_aux _ _ ρ hn hc hρ⟩

/-- the numerator of `r_p` times its denominator, factored: the sign of `r_p` is that of
`(n − 1)(n c − s)` -/
theorem rp_factor (n c s ρ : ℝ) (hp : s ^ 2 + c ^ 2 = 1) (hρ2 : ρ ^ 2 = n ^ 2 - s ^ 2) :
    (n ^ 2 * c - ρ) * (n ^ 2 * c + ρ) = (n - 1) * (n * c - s) * ((n + 1) * (n * c + s)) := by
  linear_combination n ^ 2 * hp - hρ2

theorem brewster_aux (n c s ρ : ℝ) (hn : 0 < n) (hn1 : n ≠ 1) (hc : 0 < c) (hs : 0 ≤ s)
    (hp : s ^ 2 + c ^ 2 = 1) (hρ : 0 < ρ) (hρ2 : ρ ^ 2 = n ^ 2 - s ^ 2) :
    (n ^ 2 * c - ρ) / (n ^ 2 * c + ρ) = 0 ↔ s / c = n := by
  have hden : 0 < n ^ 2 * c + ρ := by positivity
  have hB : 0 < (n + 1) * (n * c + s) := by positivity
  rw [div_eq_zero_iff, or_iff_left hden.ne', div_eq_iff hc.ne', ← mul_left_inj' hden.ne', zero_mul,
    rp_factor n c s ρ hp hρ2, mul_eq_zero, or_iff_left hB.ne', mul_eq_zero,
    or_iff_right (sub_ne_zero.mpr hn1), sub_eq_zero, eq_comm]

/-! ### unitary mixing -/

/-- rows `(u1,v1) = (a+bi, c+di)`, `(u2,v2) = (e+fi, g+hi)` of a 2×2 complex matrix orthonormal ⇒
columns orthonormal -/
theorem unitary2_cols (a b c d e f g h : ℝ)
    (H1 : a^2+b^2+c^2+d^2 = 1) (H2 : e^2+f^2+g^2+h^2 = 1)
    (H3 : a*e+b*f+c*g+d*h = 0) (H4 : b*e-a*f+d*g-c*h = 0) :
    a^2+b^2+e^2+f^2 = 1 ∧ c^2+d^2+g^2+h^2 = 1 ∧ a*c+b*d+e*g+f*h = 0 ∧ a*d-b*c+e*h-f*g = 0 := by
  -- row 2 ⟂ row 1 ⇒ row 2 = λ·(−v̄1, ū1) with λ = lr + i·li = u1 v2 − v1 u2; H2 ⇒ |λ| = 1;
  -- then the columns are read off
  obtain ⟨lr, hlr⟩ : ∃ lr, lr = a*g - b*h - (c*e - d*f) := ⟨_, rfl⟩
  obtain ⟨li, hli⟩ : ∃ li, li = a*h + b*g - (c*f + d*e) := ⟨_, rfl⟩
  have he : e = -(c*lr + d*li) := by
    rw [hlr, hli]; linear_combination a*H3 + b*H4 - e*H1
  have hf : f = d*lr - c*li := by
    rw [hlr, hli]; linear_combination b*H3 - a*H4 - f*H1
  have hg : g = a*lr + b*li := by
    rw [hlr, hli]; linear_combination c*H3 + d*H4 - g*H1
  have hh : h = a*li - b*lr := by
    rw [hlr, hli]; linear_combination d*H3 - c*H4 - h*H1
  have hl : lr^2 + li^2 = 1 := by
    have h2 := H2
    rw [he, hf, hg, hh] at h2
    linear_combination h2 - (lr^2+li^2) * H1
  refine ⟨?_, ?_, ?_, ?_⟩
  · rw [he, hf]; linear_combination H1 + (c^2+d^2) * hl
  · rw [hg, hh]; linear_combination H1 + (a^2+b^2) * hl
  · rw [he, hf, hg, hh]; linear_combination (-(a*c+b*d)) * hl
  · rw [he, hf, hg, hh]; linear_combination (-(a*d-b*c)) * hl

/-- a unitary mixture of two complex amplitudes keeps the summed intensity -/
theorem unitary_mix (u1 v1 u2 v2 A B : Cx ℝ)
    (H1 : u1.abs2 + v1.abs2 = 1) (H2 : u2.abs2 + v2.abs2 = 1)
    (H3 : (u1.mul u2.conj).add (v1.mul v2.conj) = Cx.zero) :
    ((u1.mul A).add (v1.mul B)).abs2 + ((u2.mul A).add (v2.mul B)).abs2 = A.abs2 + B.abs2 := by
  obtain ⟨a, b⟩ := u1
  obtain ⟨c, d⟩ := v1
  obtain ⟨e, f⟩ := u2
  obtain ⟨g, h⟩ := v2
  obtain ⟨Ar, Ai⟩ := A
  obtain ⟨Br, Bi⟩ := B
  unfold Cx.abs2 Cx.mul Cx.add Cx.conj Cx.zero at *
  num_real
  rw [Cx.mk.injEq] at H3
  obtain ⟨H3, H4⟩ := H3
  obtain ⟨C1, C2, C3, C4⟩ := unitary2_cols a b c d e f g h (by linear_combination H1)
    (by linear_combination H2) (by linear_combination H3) (by linear_combination H4)
  linear_combination (Ar^2+Ai^2) * C1 + (Br^2+Bi^2) * C2 + (2*(Ar*Br+Ai*Bi)) * C3
    - (2*(Ar*Bi-Ai*Br)) * C4

/-- one row of `P @ E` for `E = u ŝ + v p̂` is `u·(row·ŝ) + v·(row·p̂)` -/
theorem row_lin (m0 m1 m2 u v : Cx ℝ) (s p : V3 ℝ) :
    ((m0.mul ((u.smul s.x).add (v.smul p.x))).add (m1.mul ((u.smul s.y).add (v.smul p.y)))).add
        (m2.mul ((u.smul s.z).add (v.smul p.z)))
      = (u.mul (((m0.smul s.x).add (m1.smul s.y)).add (m2.smul s.z))).add
          (v.mul (((m0.smul p.x).add (m1.smul p.y)).add (m2.smul p.z))) := by
  unfold Cx.mul Cx.add Cx.smul
  num_real
  rw [Cx.mk.injEq]
  constructor <;> ring


end PolarLemmas
