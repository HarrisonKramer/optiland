import OptiModel.Model.Zernike
import Mathlib.Tactic.Linarith
import Mathlib.Tactic.Ring
import Mathlib.Data.List.Nodup
/-! Helper lemmas for C10 (discrete part).  Each of the three published single-index rules numbers
the valid pairs row by row: the row `k` of a pair (`n` for OSA and Noll, `(n+|m|)/2` for Fringe)
receives the numbers of one interval `(g k, g (k+1)]` of a monotone sequence `g` (triangular numbers,
squares), so the number determines the row (`row_unique`), and inside a row the position determines
`m`.  Also: a table whose numbers run through an interval has no repetition and holds every valid pair
numbered in that interval. -/
namespace ZernikeIdx
open Model.Zern

theorem row_unique {g : Int → Int} (mono : ∀ {a b : Int}, 0 ≤ a → a ≤ b → g a ≤ g b) {k k' x : Int}
    (hk : 0 ≤ k) (hk' : 0 ≤ k') (lo : g k < x) (hi : x ≤ g (k + 1)) (lo' : g k' < x)
    (hi' : x ≤ g (k' + 1)) : k = k' := by
  -- a row that starts below `x` cannot lie above a row that ends at or after `x`
  have le : ∀ {i j : Int}, 0 ≤ j → g i < x → x ≤ g (j + 1) → i ≤ j := fun {i j} hj l h => by
    by_contra hc
    have := mono (a := j + 1) (by omega) (show j + 1 ≤ i by omega)
    omega
  exact le_antisymm (le hk' lo hi') (le hk lo' hi)

theorem tri_mono {a b : Int} (ha : 0 ≤ a) (h : a ≤ b) : a * (a + 1) / 2 ≤ b * (b + 1) / 2 :=
  Int.ediv_le_ediv (by norm_num) (mul_le_mul h (by omega) (by omega) (by omega))

theorem tri_succ (n : Int) : (n + 1) * (n + 1 + 1) / 2 = n * (n + 1) / 2 + (n + 1) := by
  rw [show (n + 1) * (n + 1 + 1) = n * (n + 1) + (n + 1) * 2 by ring,
    Int.add_mul_ediv_right _ _ (by norm_num)]

theorem sq_mono {a b : Int} (ha : 0 ≤ a) (h : a ≤ b) : a ^ 2 ≤ b ^ 2 := pow_le_pow_left₀ ha h 2

/-- a number of row `n` of a triangular scheme is at most 120 iff `n < 15` -/
theorem tri_row_le_120 {n x : Int} (h0 : 0 ≤ n) (lo : n * (n + 1) / 2 < x)
    (hi : x ≤ (n + 1) * (n + 1 + 1) / 2) : x ≤ 120 ↔ n < 15 := by
  constructor
  · intro hj; by_contra hc
    have := tri_mono (a := 15) (by norm_num) (show 15 ≤ n by omega)
    omega
  · intro hn
    have := tri_mono (a := n + 1) (b := 14 + 1) (by omega) (by omega)
    omega

/-- rows of the OSA/ANSI scheme, `j` counted from 0: `n(n+1)/2 ≤ j < (n+1)(n+2)/2`, position `(n+m)/2` -/
theorem osa_row {n m : Int} (h : validNM n m) :
    n * (n + 1) / 2 < osaIndex n m + 1 ∧ osaIndex n m + 1 ≤ (n + 1) * (n + 1 + 1) / 2 ∧
      osaIndex n m = n * (n + 1) / 2 + (n + m) / 2 := by
  obtain ⟨h0, h1, h2, h3⟩ := h
  have e : osaIndex n m = n * (n + 1) / 2 + (n + m) / 2 := by
    unfold osaIndex
    rw [show n * (n + 2) + m = n * (n + 1) + (n + m) by ring]
    omega
  rw [tri_succ]
  exact ⟨by omega, by omega, e⟩

theorem nollC_eq (n m : Int) :
    nollC n m = (if (0 < m ∧ n % 4 ≤ 1) ∨ (m < 0 ∧ 2 ≤ n % 4) then 0 else 1) := by
  unfold nollC
  simp only [ite_self, ite_or]

/-- the four `if/elif` branches of the code are exhaustive (no stale `c` is ever used) -/
theorem noll_branches_exhaustive (n m : Int) :
    (0 < m ∧ n % 4 ≤ 1) ∨ (m < 0 ∧ 2 ≤ n % 4) ∨ (0 ≤ m ∧ 2 ≤ n % 4) ∨ (m ≤ 0 ∧ n % 4 ≤ 1) := by
  omega

/-- rows of Noll's scheme: `n(n+1)/2 < j ≤ (n+1)(n+2)/2` -/
theorem noll_row {n m : Int} (h : validNM n m) :
    n * (n + 1) / 2 < nollNumber n m ∧ nollNumber n m ≤ (n + 1) * (n + 1 + 1) / 2 := by
  obtain ⟨h0, h1, h2, h3⟩ := h
  rw [tri_succ]
  unfold nollNumber
  constructor <;> split_ifs <;> omega

/-- rows of the Fringe scheme: `s = (n+|m|)/2` is an integer, `|m| ≤ s`, and `s² < j ≤ (s+1)²` -/
theorem fringe_row {n m : Int} (h : validNM n m) :
    ∃ s : Int, 0 ≤ s ∧ n + (m.natAbs:Int) = 2 * s ∧ (m.natAbs:Int) ≤ s ∧
      fringeNumber n m = (1 + s) ^ 2 - 2 * (m.natAbs:Int) + (if m < 0 then 1 else 0) ∧
      s ^ 2 < fringeNumber n m ∧ fringeNumber n m ≤ (s + 1) ^ 2 := by
  obtain ⟨h0, h1, h2, h3⟩ := h
  refine ⟨(n + (m.natAbs:Int)) / 2, by omega, by omega, by omega, rfl, ?_⟩
  unfold fringeNumber
  have hs : (m.natAbs:Int) ≤ (n + (m.natAbs:Int)) / 2 := by omega
  generalize (n + (m.natAbs:Int)) / 2 = s at *
  rw [show (1 + s) ^ 2 = s ^ 2 + (2 * s + 1) by ring, show (s + 1) ^ 2 = s ^ 2 + (2 * s + 1) by ring]
  constructor <;> split_ifs <;> omega

theorem nodup_of_numbers {t : List (Int × Int)} {f : Int × Int → Int} {N : Nat} {g : Nat → Int}
    (hg : Function.Injective g) (hmap : t.map f = (List.range N).map g) : t.Nodup :=
  List.Nodup.of_map f (hmap ▸ List.nodup_range.map hg)

theorem mem_of_number {t : List (Int × Int)} {num : Int → Int → Int} {N a : Nat}
    (inj : ∀ {n m n' m'}, validNM n m → validNM n' m' → num n m = num n' m' → n = n' ∧ m = m')
    (hv : ∀ p ∈ t, validNM p.1 p.2)
    (hmap : t.map (fun p => num p.1 p.2) = (List.range N).map fun k => Int.ofNat (k + a))
    {n m : Int} (h : validNM n m) (lo : (a:Int) ≤ num n m) (hi : num n m < N + a) : (n, m) ∈ t := by
  have : num n m ∈ t.map fun p => num p.1 p.2 := by
    rw [hmap, List.mem_map]
    exact ⟨(num n m - a).toNat, List.mem_range.mpr (by omega), by
      show (((num n m - a).toNat + a : Nat) : Int) = _; omega⟩
  obtain ⟨p, hp, e⟩ := List.mem_map.mp this
  obtain ⟨rfl, rfl⟩ := inj h (hv p hp) e.symm
  exact hp

end ZernikeIdx
