import OptiModel.Model.Optim
import OptiModel.Proofs.OptimPresc
/-! Helper lemmas for `Props/C14.lean`: `sumList = List.sum`, the coefficient tables under `matSet`,
setting a thickness twice, what the raw setters of `Model/Optim.lean` keep. -/
namespace OptimProofs
open Model Model.Optim

theorem sumList_acc (l : List ℝ) (a : ℝ) : l.foldl (fun x y => x + y) a = a + l.sum := by
  induction l generalizing a with
  | nil => simp
  | cons b l ih => simp only [List.foldl_cons, List.sum_cons, ih]; ring

theorem sumList_eq_sum (l : List ℝ) : sumList l = l.sum :=
  (sumList_acc l 0).trans (zero_add _)

/-! ### coefficient tables -/

theorem length_matSet (c : List (List ℝ)) (i j : Nat) (v : ℝ) :
    (matSet c i j v).length = max c.length (i + 1) := by
  simp only [matSet, List.length_map, List.length_range]

/-- inside the padded table: the entry written reads `v`, every other entry what it read before -/
theorem matGet_matSet (c : List (List ℝ)) (i j a b : Nat) (v : ℝ) (ha : a < max c.length (i + 1))
    (hb : b < max (c.headD []).length (j + 1)) :
    matGet (matSet c i j v) a b = if a = i ∧ b = j then v else matGet c a b := by
  simp only [matGet, matSet, List.getD_eq_getElem?_getD, List.getElem?_map, List.getElem?_range ha,
    List.getElem?_range hb, Option.map_some, Option.getD_some]

theorem headD_matSet (c : List (List ℝ)) (i j : Nat) (v : ℝ) :
    ((matSet c i j v).headD []).length = max (c.headD []).length (j + 1) := by
  have h0 : 0 < max c.length (i + 1) := by omega
  simp only [matSet, List.headD_eq_head?_getD, List.head?_eq_getElem?, List.getElem?_map,
    List.getElem?_range h0, Option.map_some, Option.getD_some, List.length_map, List.length_range]

theorem matSet_twice (c : List (List ℝ)) (i j : Nat) (y x : ℝ) :
    matSet (matSet c i j y) i j x = matSet c i j x := by
  have e1 : max (matSet c i j y).length (i + 1) = max c.length (i + 1) := by rw [length_matSet]; omega
  have e2 : max ((matSet c i j y).headD []).length (j + 1) = max (c.headD []).length (j + 1) := by
    rw [headD_matSet]; omega
  show List.map _ (List.range (max (matSet c i j y).length (i + 1))) = _
  rw [e1, e2]
  refine List.map_congr_left fun a ha => List.map_congr_left fun b hb => ?_
  rw [matGet_matSet c i j a b y (List.mem_range.1 ha) (List.mem_range.1 hb)]
  split <;> rfl

/-! ### setting a thickness twice -/

theorem setThicknessPos_twice (p : List ℝ) (y x : ℝ) (k : Nat) (hk : k + 1 < p.length) :
    setThicknessPos (setThicknessPos p y k) x k = setThicknessPos p x k := by
  have hl : (setThicknessPos p y k).length = p.length := length_setThicknessPos _ _ _
  refine positions_ext _ _ (by simp only [length_setThicknessPos]) (by rw [length_setThicknessPos, hl]; omega)
    ((getD_one_setThicknessPos _ x k).trans (getD_one_setThicknessPos p x k).symm) fun j hj => ?_
  rw [length_setThicknessPos, hl] at hj
  rw [thick_setThicknessPos _ x k j (by rw [hl]; exact hj), thick_setThicknessPos p y k j hj,
    thick_setThicknessPos p x k j hj]
  split <;> rfl

theorem assignZ_assignZ (ss : List (SRec ℝ)) (p q : List ℝ) (hq : q.length = ss.length) :
    assignZ (assignZ ss p) q = assignZ ss q := by
  apply List.ext_getElem?
  intro i
  simp only [assignZ, List.getElem?_mapIdx, Option.map_map]
  by_cases hi : i < ss.length
  · have hiq : i < q.length := by omega
    simp [List.getElem?_eq_getElem hi, List.getD_eq_getElem?_getD, List.getElem?_eq_getElem hiq]
  · simp [List.getElem?_eq_none (Nat.le_of_not_lt hi)]

theorem setThickness_twice (P : Presc ℝ) (y x : ℝ) (k : Nat) (hk : k + 1 < P.surfs.length) :
    setThickness (setThickness P y k) x k = setThickness P x k := by
  have hp : k + 1 < (positions P).length := by simpa [positions] using hk
  have h1 : positions (setThickness P y k) = setThicknessPos (positions P) y k := positions_setThickness _ _ _
  unfold setThickness at h1 ⊢
  simp only [h1, setThicknessPos_twice _ _ _ _ hp]
  rw [assignZ_assignZ]
  rw [length_setThicknessPos]; simp [positions]

/-! ### what the setters keep -/

variable (L : Lens ℝ) (k : Nat) (y : ℝ)

theorem rawSet_surfs_length (K : VKind) :
    (VKind.rawSet L k y K).presc.surfs.length = L.presc.surfs.length := by
  cases K <;>
    simp [VKind.rawSet, setRadius, setConic, setThickness, setIndex, setCoeff, length_modifyAt, assignZ]

theorem rawSet_poly_length (K : VKind) : (VKind.rawSet L k y K).poly.length = L.poly.length := by
  cases K <;> simp [VKind.rawSet, length_modifyAt]

theorem rawSet_pickups (K : VKind) : (VKind.rawSet L k y K).presc.pickups = L.presc.pickups := by
  cases K <;> rfl

theorem rawSet_solves (K : VKind) : (VKind.rawSet L k y K).presc.solves = L.presc.solves := by
  cases K <;> rfl

theorem coeffs_in_range (i : Nat) (h : i < ((L.presc.surfs.map (·.coeffs)).getD k []).length) :
    ∃ hk : k < L.presc.surfs.length, i < (L.presc.surfs[k]).coeffs.length := by
  have hk : k < L.presc.surfs.length := by
    by_contra hn
    simp [List.getD_eq_getElem?_getD, List.getElem?_eq_none (Nat.le_of_not_lt hn)] at h
  refine ⟨hk, ?_⟩
  simpa [List.getD_eq_getElem?_getD, List.getElem?_eq_getElem hk] using h

theorem rawSet_coeffs_length (i : Nat) (hk : k < L.presc.surfs.length) :
    (((VKind.rawSet L k y (.asphere i)).presc.surfs.map (·.coeffs)).getD k []).length
      = ((L.presc.surfs.map (·.coeffs)).getD k []).length := by
  simp only [VKind.rawSet, setCoeff]
  rw [getD_map_modifyAt_self _ _ _ _ _ hk]
  simp [length_modifyAt, List.getD_eq_getElem?_getD, List.getElem?_eq_getElem hk]

end OptimProofs
