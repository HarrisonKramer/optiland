import OptiModel.Proofs.ConicMirrors
/-!
# Refracting conics (helper lemmas for C06)

`mrefract` with the raw normal against the ray, and one lemma per closed-form configuration that
evaluates the whole `mstep` of the model over ℝ: the conic `k = −n²` between its far focus and infinity
(plano-hyperbolic singlet, both directions of travel) and the aplanatic points of a sphere.  Root
selection and surface normal come from `Proofs/SelectRoot.lean` and `Proofs/ConicMirrors.lean`.
-/
namespace ConicRefract
open Model ConicMirrors

/-- `mrefract` when the raw normal points against the ray (`k·n = −d < 0`, the case of every surface hit
on its sag sheet by a ray travelling in +z): the alignment flips the normal, `ρ` is the value of the
square root (`cos` of the refraction angle). -/
theorem mrefract_of_neg (n1 n2 M N ny nz d ρ : ℝ) (hdot : M * ny + N * nz = -d) (hd : 0 < d)
    (hρ0 : 0 ≤ ρ) (hρ : ρ^2 = 1 - (n1 / n2)^2 * (1 - d^2)) :
    mrefract n1 n2 M N ny nz =
      (n1 / n2 * M - ny * (ρ - n1 / n2 * d), n1 / n2 * N - nz * (ρ - n1 / n2 * d)) := by
  simp only [mrefract, malign, Num.sign]
  num_real
  have c1 : ¬ (0 < -d) := not_lt.mpr (neg_nonpos.mpr hd.le)
  have e : Real.sqrt (1 - n1 / n2 * (n1 / n2) * (1 - d * d)) = ρ := by
    rw [← pow_two, ← pow_two, ← hρ, Real.sqrt_sq hρ0]
  simp only [hdot, c1, neg_neg_of_pos hd, abs_neg, abs_of_pos hd, e, if_true, if_false, Prod.mk.injEq]
  constructor <;> ring

theorem mstep_eq {k R n1 n2 y z M N t ny nz M' N' : ℝ} (hd : mdist k R ⟨y, z, M, N⟩ = t)
    (hn : mnormal k R (y + t * M) = (ny, nz)) (hr : mrefract n1 n2 M N ny nz = (M', N')) :
    mstep k R n1 n2 ⟨y, z, M, N⟩ = (⟨y + t * M, z + t * N, M', N'⟩, t) := by
  simp only [mstep, hd, hn, hr]

/-! ### conic `k = -n²`, `R < 0`, hit by collimated light from the inside of the glass -/

/-- Collimated light `⟨h, z₀, 0, 1⟩` in the glass, `W = √(R² + (n²-1) h²)`: the ray leaves the surface
at the sag `(R + W)/(1 - n²)` towards the far focus `(0, -R/(n-1))`, in the unit direction
`(-(n²-1) h, W - n R)/(n W - R)`.  Guards `hz0`, `hg`: the start plane is not beyond the hit point,
`z₀ ≤ sag(h)`, written without a square root (`hg` is `c ≤ 0` for the coefficient `c` of the quadratic). -/
theorem mstep_hyperbola (n R h z0 W : ℝ) (hn : 1 < n) (hR : R < 0) (hz0 : z0 ≤ 0)
    (hg : h^2 ≤ (n^2 - 1) * z0^2 + 2 * R * z0) (hW : 0 < W) (hW2 : W^2 = R^2 + (n^2 - 1) * h^2) :
    mstep (-n^2) R n 1 ⟨h, z0, 0, 1⟩ =
      (⟨h, (R + W) / (1 - n^2), -((n^2 - 1) * h) / (n * W - R), (W - n * R) / (n * W - R)⟩,
        (R + W) / (1 - n^2) - z0) ∧ 0 ≤ (R + W) / (1 - n^2) - z0 := by
  have hA : 1 - n^2 < 0 := sub_neg.mpr (one_lt_pow₀ hn two_ne_zero)
  -- `W ≤ (1-n²) z₀ - R`, compared through the squares: this is the guard `hg` times `n² - 1`
  have hWX : W ≤ (1 - n^2) * z0 - R := by
    refine (abs_le_of_sq_le_sq' ?_ ?_).2
    · linarith [mul_le_mul_of_nonneg_left hg (neg_nonneg.mpr hA.le)]
    · linarith [mul_nonneg_of_nonpos_of_nonpos hA.le hz0]
  have ht : 0 ≤ (R + W) / (1 - n^2) - z0 := by
    rw [sub_nonneg, le_div_iff_of_neg hA]; linarith
  have ht' : 0 ≤ (R - W) / (1 - n^2) - z0 := by
    rw [sub_nonneg, le_div_iff_of_neg hA]; linarith
  have hWR : 0 < -W * R := by rw [neg_mul]; exact neg_pos.mpr (mul_neg_of_pos_of_neg hW hR)
  have hW2' : (-W)^2 = R^2 - (1 + -n^2) * h^2 := by rw [neg_sq, hW2]; ring
  have hd := mdist_collimated (-n^2) R h z0 (-W) (by rw [← sub_eq_add_neg]; exact hA.ne) hW2' hWR
  rw [sub_neg_eq_add, ← sub_eq_add_neg, ← sub_eq_add_neg] at hd
  have hQ : 0 < h^2 + W^2 := add_pos_of_nonneg_of_pos (sq_nonneg h) (pow_pos hW 2)
  obtain ⟨G, hG, hG2⟩ : ∃ G, 0 < G ∧ G^2 = h^2 + W^2 :=
    ⟨_, Real.sqrt_pos.mpr hQ, Real.sq_sqrt hQ.le⟩
  have hG0 := hG.ne'
  have hnm : mnormal (-n^2) R (h + ((R + W) / (1 - n^2) - z0) * 0) = (-(h / G), -(W / G)) := by
    rw [mul_zero, add_zero, mnormal_eq (-n^2) R h (-W) (-G) hW2' hWR (by rw [neg_sq, neg_sq, hG2])
      (by rw [neg_mul]; exact neg_pos.mpr (mul_neg_of_pos_of_neg hG hR)), neg_neg, div_neg, div_neg]
  have hrf := mrefract_of_neg n 1 0 1 (-(h / G)) (-(W / G)) (W / G) (-R / G) (by ring) (div_pos hW hG)
    (div_pos (neg_pos.mpr hR) hG).le (by field_simp; linear_combination (n^2 - 1) * hG2 - hW2)
  have hp : n * W - R ≠ 0 := (sub_pos.mpr (hR.trans (mul_pos (zero_lt_one.trans hn) hW))).ne'
  refine ⟨?_, ht⟩
  rw [mstep_eq (hd ht ht') hnm hrf, mul_zero, add_zero, mul_one, add_sub_cancel]
  simp only [MRay.mk.injEq, Prod.mk.injEq, true_and, and_true]
  constructor
  · field_simp; linear_combination (h * (n^2 - 1)) * hG2 - h * hW2
  · field_simp; linear_combination (W * (n^2 - 1)) * hG2 - W * hW2

/-- collimated light passes a plane surface (normal incidence) unchanged, for any pair of indices -/
theorem mstepPlane_collimated (n1 n2 h zs : ℝ) (hzs : zs ≤ 0) :
    mstepPlane n1 n2 ⟨h, zs, 0, 1⟩ = (⟨h, 0, 0, 1⟩, -zs) := by
  simp only [mstepPlane, maskNeg, mrefract, malign, Num.sign]
  num_real
  have p0 : ¬ (-zs / 1 < 0) := by rw [div_one]; linarith
  have e1 : (0:ℝ) * 0 + 1 * 1 = 1 := by norm_num
  simp only [p0, e1]
  simp only [one_pos, if_true, if_false, abs_one, mul_one, sub_self, mul_zero, sub_zero, Real.sqrt_one,
    div_one, add_zero, MRay.mk.injEq, Prod.mk.injEq]
  exact ⟨⟨trivial, by ring, trivial, by ring⟩, trivial⟩

/-! ### refracting sphere, rays aimed at an axial point at distance `q` behind the centre -/

/-- A ray aimed at the axial point `(0, R + q)` (it is there at parameter `s`) meets the sphere
`k = 0` at `t = s - N q - w`, `w = ±√(R² - M² q²)` with the sign of `R`: the root selection takes
the intersection on the vertex side of the sphere for both signs of `R`.  Guards: the start point
is before both intersections (`hs1`, `hs2`; otherwise the code masks a negative root). -/
theorem mdist_sphere_aimed (R q M N s w : ℝ) (hN : 0 < N) (hu : M^2 + N^2 = 1)
    (hw2 : w^2 = R^2 - M^2 * q^2) (hwR : 0 < w * R)
    (hs1 : 0 ≤ s - N * q) (hs2 : R^2 - M^2 * q^2 ≤ (s - N * q)^2) :
    mdist 0 R ⟨-s * M, R + q - s * N, M, N⟩ = s - N * q - w ∧ 0 ≤ s - N * q - w := by
  obtain ⟨hw1, hw1'⟩ := abs_le.mp (abs_le_of_sq_le_sq (hw2.trans_le hs2) hs1 : |w| ≤ s - N * q)
  refine ⟨mdist_of_roots 0 R _ _ M N 1 _ (s - N * q + w) one_ne_zero (by linear_combination hu)
    (by linear_combination (-2 * s) * hu) (by linear_combination (s^2 - q^2) * hu + hw2)
    (sub_nonneg.mpr hw1') (by linarith) (sq_lt_sq.mp ?_), sub_nonneg.mpr hw1'⟩
  -- the end points are `z = R + M² q ∓ w N`; `R + M² q` has the sign of `R` (as `|M² q| < |R|`),
  -- like `w`
  have key : (R + q - s * N + (s - N * q + w) * N)^2 - (R + q - s * N + (s - N * q - w) * N)^2
      = 4 * ((R + M^2 * q) * w * N) := by linear_combination (-4 * w * N * q) * hu
  have hw0 : w ≠ 0 := left_ne_zero_of_mul hwR.ne'
  have hR0 : R ≠ 0 := right_ne_zero_of_mul hwR.ne'
  have hM1 : (M^2 * q)^2 < R^2 := by
    have h1 : M^2 ≤ 1 := by linarith [sq_nonneg N]
    have h2 := mul_le_mul_of_nonneg_right h1 (mul_nonneg (sq_nonneg M) (sq_nonneg q))
    have h3 : 0 < w^2 := by positivity
    linarith
  have h1 : 0 < (R + M^2 * q) * R := by linarith [sq_nonneg (R + M^2 * q)]
  have h2 : 0 < (R + M^2 * q) * w * (R * R) := by linarith [mul_pos h1 hwR]
  have h3 := mul_pos ((mul_pos_iff_of_pos_right (mul_self_pos.mpr hR0)).mp h2) hN
  linarith

/-- The step at a refracting sphere for a ray aimed at the aplanatic point `(0, R + q)`, `q = R n2/n1`:
the hit point lies on the vertex-side hemisphere (guard `hap`), and the refracted direction is
`(M n2/n1, c)`, `c = √(1 − (M n2/n1)²)`, whatever the sign of `R`. -/
theorem mstep_aplanatic (R n1 n2 M N s c q : ℝ) (hR : R ≠ 0) (h1 : 0 < n1) (h2 : 0 < n2) (hN : 0 < N)
    (hu : M^2 + N^2 = 1) (hc : 0 < c) (hc2 : c^2 = 1 - (n2 / n1 * M)^2) (hap : M^2 * n2^2 < N^2 * n1^2)
    (hq : q = R * n2 / n1) (hs1 : 0 ≤ s - N * q) (hs2 : R^2 - M^2 * q^2 ≤ (s - N * q)^2) :
    mstep 0 R n1 n2 ⟨-s * M, R + q - s * N, M, N⟩ =
      (⟨-(N * q + R * c) * M, R + q - (N * q + R * c) * N, n2 / n1 * M, c⟩, s - N * q - R * c) ∧
    0 ≤ s - N * q - R * c := by
  have hn1 := h1.ne'
  have hn2 := h2.ne'
  have hc2' : c^2 * n1^2 = n1^2 - n2^2 * M^2 := by rw [hc2]; field_simp
  have hqn : q * n1 = R * n2 := by rw [hq]; field_simp
  have hw2 : (R * c)^2 = R^2 - M^2 * q^2 := by rw [mul_pow, hc2, hq]; ring
  have hwR : 0 < R * c * R := by rw [mul_right_comm]; exact mul_pos (mul_self_pos.mpr hR) hc
  obtain ⟨hd, ht⟩ := mdist_sphere_aimed R q M N s (R * c) hN hu hw2 hwR hs1 hs2
  refine ⟨?_, ht⟩
  -- the hit point `(y, z)`
  obtain ⟨y, hy⟩ : ∃ y, y = -(N * q + R * c) * M := ⟨_, rfl⟩
  obtain ⟨z, hz⟩ : ∃ z, z = R + q - (N * q + R * c) * N := ⟨_, rfl⟩
  have ey : -s * M + (s - N * q - R * c) * M = y := by rw [hy]; ring
  have ez : R + q - s * N + (s - N * q - R * c) * N = z := by rw [hz]; ring
  have hsph : y^2 + (R - z)^2 = R^2 := by
    rw [hy, hz]; linear_combination ((N * q + R * c)^2 - q^2) * hu + hw2
  -- vertex-side hemisphere: `(R - z) R = N (w R) - M² (q R)` with `w = R c`, and
  -- `(M² q R)² < (N w R)²` is the guard `hap`
  -- `hap · R²` with `q n1 = R n2` substituted: `M² (q n1 + R n2) · hqn` is `M² ((q n1)² − (R n2)²)`
  have hg : M^2 * q^2 < N^2 * R^2 := by
    refine lt_of_mul_lt_mul_right ?_ (sq_nonneg n1)
    linear_combination mul_lt_mul_of_pos_right hap (mul_self_pos.mpr hR) + (M^2) * (q * n1 + R * n2) * hqn
  have hsq : (M^2 * (q * R))^2 < (N * (R * c * R))^2 := by
    linear_combination mul_lt_mul_of_pos_right hg (mul_self_pos.mpr hR) - (N^2 * R^2) * hw2
      + (M^2 * q^2 * R^2) * hu
  have hhem : 0 < (R - z) * R := by
    rw [hz]; linear_combination (abs_lt_of_sq_lt_sq' hsq (mul_pos hN hwR).le).2 - (q * R) * hu
  have hnm : mnormal 0 R (-s * M + (s - N * q - R * c) * M) = (y / R, -(R - z) / R) := by
    rw [ey]
    exact mnormal_eq 0 R y (R - z) R (by linear_combination hsph) hhem
      (by linear_combination (-1 : ℝ) * hsph) (mul_self_pos.mpr hR)
  have hrf := mrefract_of_neg n1 n2 M N (y / R) (-(R - z) / R) c N
    (by rw [hy, hz]; field_simp; linear_combination (-(N * q + R * c)) * hu) hc hN.le
    (by field_simp; linear_combination n2^2 * hu - hc2')
  rw [mstep_eq hd hnm hrf, ey, ez, ← hy, ← hz]
  simp only [MRay.mk.injEq, Prod.mk.injEq, true_and, and_true]
  rw [hy, hz, hq]
  constructor
  · field_simp; linear_combination (-M) * hc2' + (M * n2^2) * hu
  · field_simp; linear_combination (-N) * hc2' + (N * n2^2) * hu

/-! ### conic `k = -n²`, `R > 0`, hit from the air side by light leaving the far focus -/

/-- Both intersections lie ahead (`a = 1 − n²N² < 0`): `R/(nN−1)` on the sag sheet and `R/(1+nN)` on the
other sheet; the guard `hap` is what makes the first the one with the smaller `|z|`.  The refracted ray
is parallel to the axis. -/
theorem mstep_hyperbola_focus (n R M N : ℝ) (hn : 1 < n) (hR : 0 < R) (hN : 0 < N) (hu : M^2 + N^2 = 1)
    (hap : 1 < n * N^2) :
    mstep (-n^2) R 1 n ⟨0, -(R / (n - 1)), M, N⟩ =
      (⟨R / (n * N - 1) * M, R * (1 - N) / ((n - 1) * (n * N - 1)), 0, 1⟩, R / (n * N - 1)) ∧
      1 < n * N ∧ N ≤ 1 := by
  have hN1 := (unit_N_bounds hu).2
  have hnN : 1 < n * N := by
    have := mul_nonneg (mul_pos (zero_lt_one.trans hn) hN).le (sub_nonneg.mpr hN1)
    linarith
  refine ⟨?_, hnN, hN1⟩
  have hm : 0 < n - 1 := sub_pos.mpr hn
  have hp : 0 < n * N - 1 := sub_pos.mpr hnN
  have hq : 0 < 1 + n * N := by linarith
  have hm0 := hm.ne'
  have hp0 := hp.ne'
  have hq0 := hq.ne'
  -- the end points of the two roots
  have ez : -(R / (n - 1)) + R / (n * N - 1) * N = R * (1 - N) / ((n - 1) * (n * N - 1)) := by
    field_simp; ring
  have ez' : -(R / (n - 1)) + R / (1 + n * N) * N = -(R * (1 + N) / ((n - 1) * (1 + n * N))) := by
    field_simp; ring
  have hd : mdist (-n^2) R ⟨0, -(R / (n - 1)), M, N⟩ = R / (n * N - 1) := by
    refine mdist_of_roots _ _ _ _ _ _ (-((n * N - 1) * (1 + n * N))) _ (R / (1 + n * N))
      (neg_ne_zero.mpr (mul_ne_zero hp0 hq0)) (by linear_combination hu)
      (by field_simp; ring) (by field_simp; ring) (div_pos hR hp).le (div_pos hR hq).le ?_
    rw [ez, ez', abs_neg,
      abs_of_nonneg (div_nonneg (mul_nonneg hR.le (sub_nonneg.mpr hN1)) (mul_pos hm hp).le),
      abs_of_pos (div_pos (mul_pos hR (by linarith)) (mul_pos hm hq)),
      div_lt_div_iff₀ (mul_pos hm hp) (mul_pos hm hq)]
    linarith [mul_pos (mul_pos hR hm) (sub_pos.mpr hap)]
  have hnm : 0 < n - N := sub_pos.mpr (hN1.trans_lt hn)
  obtain ⟨G, hG, hG2⟩ : ∃ G, 0 < G ∧ G^2 = 1 + n^2 - 2 * n * N := by
    have hq2 : 0 < 1 + n^2 - 2 * n * N := by linarith [pow_pos hnm 2, sq_nonneg M]
    exact ⟨_, Real.sqrt_pos.mpr hq2, Real.sq_sqrt hq2.le⟩
  have hG0 := hG.ne'
  have hR0 := hR.ne'
  have hnrm : mnormal (-n^2) R (0 + R / (n * N - 1) * M) = (M / G, -(n - N) / G) := by
    rw [zero_add, mnormal_eq (-n^2) R _ (R * (n - N) / (n * N - 1)) (R * G / (n * N - 1))
      (by field_simp; linear_combination (1 - n^2) * hu)
      (mul_pos (div_pos (mul_pos hR hnm) hp) hR)
      (by rw [div_pow, mul_pow, hG2]; field_simp; linear_combination (-1 : ℝ) * hu)
      (mul_pos (div_pos (mul_pos hR hG) hp) hR), Prod.mk.injEq]
    constructor <;> field_simp
  have hrf : mrefract 1 n M N (M / G) (-(n - N) / G) = (0, 1) := by
    rw [mrefract_of_neg 1 n M N _ _ ((n * N - 1) / G) ((n - N) / G) (by field_simp; linear_combination hu)
      (div_pos hp hG) (div_pos hnm hG).le (by field_simp; linear_combination (1 - n^2) * hG2),
      Prod.mk.injEq]
    constructor
    · field_simp; linear_combination M * hG2
    · field_simp; linear_combination (N - n) * hG2
  rw [mstep_eq hd hnrm hrf, zero_add, ez]

end ConicRefract
