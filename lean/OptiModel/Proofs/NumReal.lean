import OptiModel.Num
import Mathlib.Analysis.SpecialFunctions.Sqrt
import Mathlib.Analysis.SpecialFunctions.Trigonometric.Inverse
import Mathlib.Analysis.SpecialFunctions.Trigonometric.Arctan
import Mathlib.Analysis.SpecialFunctions.Exp
/-! The carrier ℝ (noncomputable; proof files only) and the `rfl` bridge lemmas that turn the
scoped `Num` notation into Mathlib's.  A proof about a model function unfolds it (`simp only [defs]`)
and calls the tactic `num_real`, or rewrites with an equation over ℝ stated once next to its users.
`Num.inf` has no meaning over ℝ (junk value 0); theorems guard the branches that produce it. -/

open Classical in
noncomputable instance : Num ℝ where
  add := (· + ·)
  sub := (· - ·)
  mul := (· * ·)
  div := (· / ·)
  neg := (- ·)
  zero := 0
  one := 1
  two := 2
  ofRat a b := (a:ℝ)/(b:ℝ)
  inf := 0
  sqrt := Real.sqrt
  abs := fun x => |x|
  lt a b := decide (a < b)
  le a b := decide (a ≤ b)
  sin := Real.sin
  cos := Real.cos
  tan := Real.tan
  asin := Real.arcsin
  acos := Real.arccos
  exp := Real.exp
  atan2 := fun y x => Real.arctan (y / x)   -- no theorem speaks of `atan2`
  pi := Real.pi

namespace NumReal
theorem add_eq (a b : ℝ) : @HAdd.hAdd ℝ ℝ ℝ (@instHAdd ℝ Num.instAdd) a b = a + b := rfl
theorem sub_eq (a b : ℝ) : @HSub.hSub ℝ ℝ ℝ (@instHSub ℝ Num.instSub) a b = a - b := rfl
theorem mul_eq (a b : ℝ) : @HMul.hMul ℝ ℝ ℝ (@instHMul ℝ Num.instMul) a b = a * b := rfl
theorem div_eq (a b : ℝ) : @HDiv.hDiv ℝ ℝ ℝ (@instHDiv ℝ Num.instDiv) a b = a / b := rfl
theorem neg_eq (a : ℝ) : @Neg.neg ℝ Num.instNeg a = -a := rfl
theorem zero_eq : @OfNat.ofNat ℝ 0 Num.inst0 = 0 := rfl
theorem one_eq : @OfNat.ofNat ℝ 1 Num.inst1 = 1 := rfl
theorem two_eq : @OfNat.ofNat ℝ 2 Num.inst2 = 2 := rfl
theorem fadd_eq (a b : ℝ) : Num.add a b = a + b := rfl
theorem fsub_eq (a b : ℝ) : Num.sub a b = a - b := rfl
theorem fmul_eq (a b : ℝ) : Num.mul a b = a * b := rfl
theorem fdiv_eq (a b : ℝ) : Num.div a b = a / b := rfl
theorem fneg_eq (a : ℝ) : Num.neg a = -a := rfl
theorem fzero_eq : (Num.zero : ℝ) = 0 := rfl
theorem fone_eq : (Num.one : ℝ) = 1 := rfl
theorem ftwo_eq : (Num.two : ℝ) = 2 := rfl
theorem ofRat_eq (a b : ℕ) : (Num.ofRat a b : ℝ) = (a:ℝ)/(b:ℝ) := rfl
theorem ofNat_eq (n : ℕ) : (Num.ofNat n : ℝ) = n := by
  show (n : ℝ) / ((1 : ℕ) : ℝ) = n
  rw [Nat.cast_one, div_one]
theorem sqrt_eq (a : ℝ) : Num.sqrt a = Real.sqrt a := rfl
theorem abs_eq (a : ℝ) : Num.abs a = |a| := rfl
theorem sin_eq (a : ℝ) : Num.sin a = Real.sin a := rfl
theorem cos_eq (a : ℝ) : Num.cos a = Real.cos a := rfl
theorem tan_eq (a : ℝ) : Num.tan a = Real.tan a := rfl
theorem asin_eq (a : ℝ) : Num.asin a = Real.arcsin a := rfl
theorem acos_eq (a : ℝ) : Num.acos a = Real.arccos a := rfl
theorem exp_eq (a : ℝ) : Num.exp a = Real.exp a := rfl
theorem pi_eq : (Num.pi : ℝ) = Real.pi := rfl
theorem lt_eq (a b : ℝ) : (Num.lt a b = true) = (a < b) := by
  show (decide (a < b) = true) = (a < b); simp
theorem le_eq (a b : ℝ) : (Num.le a b = true) = (a ≤ b) := by
  show (decide (a ≤ b) = true) = (a ≤ b); simp
theorem lt_decide (a b : ℝ) : Num.lt a b = @decide (a < b) (Classical.propDecidable _) := rfl
theorem le_decide (a b : ℝ) : Num.le a b = @decide (a ≤ b) (Classical.propDecidable _) := rfl
theorem isZero_eq (a : ℝ) : (Num.isZero a = true) = (a = 0) := by
  unfold Num.isZero
  rw [Bool.and_eq_true, le_eq, le_eq]
  exact propext ⟨fun h => le_antisymm h.1 h.2, fun h => ⟨h.le, h.ge⟩⟩
theorem isNaN_false (a : ℝ) : (!(Num.le a a)) = false := by
  rw [le_decide]; simp
end NumReal

/-- `simp only` with the bridge lemmas, at the goal and at every hypothesis (so it is dear in a context
with large hypotheses, and fails when nothing mentions the `Num` operations) -/
macro "num_real" : tactic => `(tactic|
  simp only [NumReal.add_eq, NumReal.sub_eq, NumReal.mul_eq, NumReal.div_eq, NumReal.neg_eq,
    NumReal.zero_eq, NumReal.one_eq, NumReal.two_eq, NumReal.fadd_eq, NumReal.fsub_eq, NumReal.fmul_eq,
    NumReal.fdiv_eq, NumReal.fneg_eq, NumReal.fzero_eq, NumReal.fone_eq, NumReal.ftwo_eq, NumReal.ofRat_eq,
    NumReal.sqrt_eq, NumReal.abs_eq, NumReal.sin_eq, NumReal.cos_eq, NumReal.tan_eq, NumReal.asin_eq,
    NumReal.acos_eq, NumReal.exp_eq, NumReal.pi_eq, NumReal.lt_eq, NumReal.le_eq, NumReal.isZero_eq] at *)
