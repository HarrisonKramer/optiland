import OptiModel.Model.Material
import OptiModel.Proofs.NumReal
import Mathlib.Analysis.SpecialFunctions.Pow.Real
import Mathlib.Analysis.Convex.Basic
import Mathlib.Tactic.Ring
/-! Helper lemmas for C18 over the carrier ℝ: `x ** y` is `Real.rpow`; the pair loop of the dispersion
formulas as a sum over zero-padded coefficients; `np.interp` on increasing knot lists. -/
namespace Model.Mat

/-- `x ** y` over ℝ -/
noncomputable instance : NumPow ℝ := ⟨fun x y => x ^ y⟩

theorem rpow_real (x y : ℝ) : rpow x y = x ^ y := rfl

/-- `w ** -2` for a positive wavelength -/
theorem rpow_neg_two (w : ℝ) (hw : 0 < w) : rpow w (Num.neg Num.two) = 1 / (w * w) := by
  show w ^ (-(2 : ℝ)) = 1 / (w * w)
  rw [Real.rpow_neg hw.le, Real.rpow_two, one_div, pow_two]

theorem npow_two {α : Type} [Num α] (x : α) : Num.npow x 2 = Num.mul (Num.mul Num.one x) x := rfl
theorem npow_four {α : Type} [Num α] (x : α) :
    Num.npow x 4 = Num.mul (Num.mul (Num.mul (Num.mul Num.one x) x) x) x := rfl
theorem npow_six {α : Type} [Num α] (x : α) :
    Num.npow x 6 = Num.mul (Num.mul (Num.mul (Num.mul (Num.mul (Num.mul Num.one x) x) x) x) x) x := rfl

/-! ### `foldPairs`

In both lemmas `l` is what follows the first coefficient, so that `l.length + 1` counts them all. -/

/-- the loop raises exactly when there is an even number of coefficients -/
theorem foldPairs_eq_none_iff {α : Type} [Num α] (term : α → α → α) :
    ∀ (l : List α) (acc : α), foldPairs term acc l = none ↔ (l.length + 1) % 2 = 0
  | [], _ => iff_of_false nofun nofun
  | [_], _ => iff_of_true rfl (Nat.mod_self 2)
  | _ :: _ :: rest, _ => (foldPairs_eq_none_iff term rest _).trans
      (Eq.congr_left (Nat.add_mod_right (rest.length + 1) 2).symm)

/-- `acc + term (C 0) (C 1) + term (C 2) (C 3) + …` with `n` pair terms: the shape of the published
sums, which read a fixed number of coefficients -/
noncomputable def pairSum (term : ℝ → ℝ → ℝ) : ℕ → (ℕ → ℝ) → ℝ → ℝ
  | 0, _, acc => acc
  | n + 1, C, acc => pairSum term n (fun j => C (j + 2)) (acc + term (C 0) (C 1))

theorem pairSum_add (term : ℝ → ℝ → ℝ) : ∀ (n : ℕ) (C : ℕ → ℝ) (a b : ℝ),
    pairSum term n C (a + b) = a + pairSum term n C b
  | 0, _, _, _ => rfl
  | n + 1, C, a, b => by rw [pairSum, pairSum, add_assoc, pairSum_add]

/-- for an odd number of coefficients the loop computes the published sum of any `n` pair terms that
cover them, the absent coefficients being read as zero: a term with zero coefficients adds nothing -/
theorem foldPairs_eq_pairSum (term : ℝ → ℝ → ℝ) (h0 : term 0 0 = 0) :
    ∀ (n : ℕ) (l : List ℝ) (acc : ℝ), (l.length + 1) % 2 = 1 → l.length + 1 ≤ 2 * n + 1 →
      foldPairs term acc l = some (pairSum term n (fun j => l.getD j 0) acc)
  | 0, [], _, _, _ => rfl
  | 0, _ :: _, _, _, h => absurd (Nat.le_of_succ_le_succ h) (Nat.not_succ_le_zero _)
  | n + 1, [], acc, _, _ => by
    have e : acc + term 0 0 = acc := by rw [h0, add_zero]
    exact (foldPairs_eq_pairSum term h0 n [] acc rfl (Nat.le_add_left _ _)).trans
      (congrArg (fun a => some (pairSum term n (fun _ => 0) a)) e.symm)
  | _ + 1, [_], _, h, _ => absurd ((Nat.mod_self 2).symm.trans h) Nat.zero_ne_one
  | n + 1, _ :: _ :: rest, _, h, hl =>
    foldPairs_eq_pairSum term h0 n rest _
      ((Nat.add_mod_right (rest.length + 1) 2).symm.trans h)
      (Nat.le_of_add_le_add_right (show rest.length + 1 + 2 ≤ 2 * n + 1 + 2 from hl))

/-- Herzberger's polynomial part on at most three remaining coefficients `C4, C5, C6` -/
theorem herzTail_three (w acc : ℝ) (l : List ℝ) (h : l.length ≤ 3) :
    herzTail w 3 acc l
      = acc + l.getD 0 0 * (w * w) + l.getD 1 0 * Num.npow w 4 + l.getD 2 0 * Num.npow w 6 := by
  rcases l with _ | ⟨a, _ | ⟨b, _ | ⟨c, _ | ⟨d, l⟩⟩⟩⟩
  · show acc = acc + 0 * _ + 0 * _ + 0 * _
    simp only [zero_mul, add_zero]
  · show acc + a * (1 * w * w) = acc + a * _ + 0 * _ + 0 * _
    simp only [zero_mul, add_zero, one_mul]
  · show acc + a * (1 * w * w) + b * _ = acc + a * _ + b * _ + 0 * _
    simp only [zero_mul, add_zero, one_mul]
  · show acc + a * (1 * w * w) + b * _ + c * _ = acc + a * _ + b * _ + c * _
    rw [one_mul]
  · exact absurd h (by simp)

/-! ### `np.interp` -/

/-- knots strictly increasing -/
def Incr (l : List (ℝ × ℝ)) : Prop := l.Pairwise (fun a b => a.1 < b.1)

/-- all ordinates lie in `[lo, hi]` -/
def Within (lo hi : ℝ) (l : List (ℝ × ℝ)) : Prop := ∀ p ∈ l, lo ≤ p.2 ∧ p.2 ≤ hi

theorem Incr.head_lt {p q : ℝ × ℝ} {pre rest : List (ℝ × ℝ)} (h : Incr (p :: (pre ++ q :: rest))) :
    p.1 < q.1 :=
  (List.pairwise_cons.mp h).1 q (List.mem_append_right _ List.mem_cons_self)

theorem interpFrom_unfold (x : ℝ) (p q : ℝ × ℝ) (rest : List (ℝ × ℝ)) :
    interpFrom x p (q :: rest) =
      if q.1 ≤ x then interpFrom x q rest else if p.1 ≤ x ∧ x ≤ p.1 then p.2
      else (q.2 - p.2) / (q.1 - p.1) * (x - p.1) + p.2 := by
  simp only [interpFrom, feq, linPiece, Bool.and_eq_true]
  num_real

theorem interp_unfold (x : ℝ) (p : ℝ × ℝ) (rest : List (ℝ × ℝ)) :
    interp x (p :: rest) = some (if x < p.1 then p.2 else interpFrom x p rest) := by
  simp only [interp]
  num_real

/-- at a knot that is followed only by larger knots the table value is returned -/
theorem interpFrom_at_knot (p : ℝ × ℝ) (rest : List (ℝ × ℝ)) (h : Incr (p :: rest)) :
    interpFrom p.1 p rest = p.2 := by
  cases rest with
  | nil => rfl
  | cons q rest =>
    rw [interpFrom_unfold, if_neg (not_le.mpr (Incr.head_lt (pre := []) h)),
      if_pos ⟨le_refl _, le_refl _⟩]

/-- the search passes over every knot up to the last one `p` with `p.1 ≤ x` that it is told of -/
theorem interpFrom_append (x : ℝ) (p : ℝ × ℝ) (rest : List (ℝ × ℝ)) :
    ∀ (pre : List (ℝ × ℝ)) (p0 : ℝ × ℝ), Incr (p0 :: (pre ++ p :: rest)) → p.1 ≤ x →
      interpFrom x p0 (pre ++ p :: rest) = interpFrom x p rest
  | [], p0, _, hx => by rw [List.nil_append, interpFrom_unfold, if_pos hx]
  | a :: pre, p0, hinc, hx => by
    have h1 := (List.pairwise_cons.mp hinc).2
    rw [List.cons_append, interpFrom_unfold, if_pos ((Incr.head_lt h1).le.trans hx)]
    exact interpFrom_append x p rest pre a h1 hx

theorem interp_append (x : ℝ) (pre : List (ℝ × ℝ)) (p : ℝ × ℝ) (rest : List (ℝ × ℝ))
    (hinc : Incr (pre ++ p :: rest)) (hx : p.1 ≤ x) :
    interp x (pre ++ p :: rest) = some (interpFrom x p rest) := by
  cases pre with
  | nil => rw [List.nil_append, interp_unfold, if_neg (not_lt.mpr hx)]
  | cons p0 pre =>
    rw [List.cons_append, interp_unfold, if_neg (not_lt.mpr ((Incr.head_lt hinc).le.trans hx)),
      interpFrom_append x p rest pre p0 hinc hx]

/-- from `p`, up to the next knot `q`: the straight line through `p` and `q` (NumPy's
`slope*(x - xp[j]) + fp[j]`, its two special cases `x = q.1` and `x = p.1` lying on that line) -/
theorem interpFrom_bracket (x : ℝ) (p q : ℝ × ℝ) (post : List (ℝ × ℝ)) (hinc : Incr (p :: q :: post))
    (hxq : x ≤ q.1) :
    interpFrom x p (q :: post) = p.2 + (x - p.1) * (q.2 - p.2) / (q.1 - p.1) := by
  have hne : q.1 - p.1 ≠ 0 := sub_ne_zero.mpr (Incr.head_lt (pre := []) hinc).ne'
  rw [interpFrom_unfold]
  split_ifs with hq hp
  · rw [le_antisymm hxq hq, interpFrom_at_knot q post (List.pairwise_cons.mp hinc).2,
      mul_div_cancel_left₀ _ hne, add_sub_cancel]
  · rw [le_antisymm hp.2 hp.1, sub_self, zero_mul, zero_div, add_zero]
  · ring

/-- from a knot `p ≤ x` on, the value stays in the hull of the remaining ordinates -/
theorem interpFrom_in_hull (x lo hi : ℝ) : ∀ (rest : List (ℝ × ℝ)) (p : ℝ × ℝ),
    Incr (p :: rest) → Within lo hi (p :: rest) → p.1 ≤ x →
      lo ≤ interpFrom x p rest ∧ interpFrom x p rest ≤ hi
  | [], p, _, hw, _ => hw p List.mem_cons_self
  | q :: rest, p, hinc, hw, hpx => by
    rw [interpFrom_unfold]
    split_ifs with hqx hpe
    · exact interpFrom_in_hull x lo hi rest q (List.pairwise_cons.mp hinc).2
        (fun r hr => hw r (List.mem_cons_of_mem _ hr)) hqx
    · exact hw p List.mem_cons_self
    · -- a point `p.2 + t (q.2 - p.2)`, `0 ≤ t ≤ 1`, of the segment between two points of `[lo, hi]`
      have hpos : 0 < q.1 - p.1 := sub_pos.mpr (Incr.head_lt (pre := []) hinc)
      have ht : (x - p.1) / (q.1 - p.1) ∈ Set.Icc (0 : ℝ) 1 :=
        ⟨div_nonneg (sub_nonneg.mpr hpx) hpos.le,
          (div_le_one hpos).mpr (sub_le_sub_right (not_le.mp hqx).le _)⟩
      have := (convex_Icc lo hi).add_smul_sub_mem (hw p List.mem_cons_self)
        (hw q (List.mem_cons_of_mem _ List.mem_cons_self)) ht
      rwa [smul_eq_mul, div_mul_eq_mul_div, mul_comm (x - p.1), ← div_mul_eq_mul_div,
        add_comm] at this

/-! ### Horner -/
/-- the polynomial with coefficient list `p`, highest power first -/
noncomputable def polyEval (x : ℝ) : List ℝ → ℝ
  | [] => 0
  | a :: as => a * x ^ as.length + polyEval x as

theorem foldl_horner (x : ℝ) : ∀ (p : List ℝ) (y : ℝ),
    p.foldl (fun y pv => y * x + pv) y = y * x ^ p.length + polyEval x p
  | [], y => by simp [polyEval]
  | a :: as, y => by
    simp only [List.foldl_cons, List.length_cons, polyEval]
    rw [foldl_horner x as]
    ring

end Model.Mat
