import OptiModel.Model.Material
/-! Helper lemmas for C18, discrete part (core Lean only): Levenshtein DP = recurrence, literal
substring test, minimal-score selection, soundness of the catalogue certificate. -/
namespace Model.Mat

/-! ### Levenshtein: the matrix DP computes the Wagner–Fischer recurrence -/

/-- the matrix row for the prefix `rs` (reversed), from the column of the prefix `rt` (reversed) on,
the remaining columns being given by `bs` -/
def rowOf (rs : Str) : Str → Str → List Nat
  | rt, [] => [levP rs rt]
  | rt, b :: bs => levP rs rt :: rowOf rs (b :: rt) bs

theorem levP_nil_left (rt : Str) : levP [] rt = rt.length := by
  cases rt <;> simp [levP]

theorem levP_nil_right (rs : Str) : levP rs [] = rs.length := by
  cases rs <;> simp [levP]

theorem rowOf_head (rs rt : Str) : ∀ bs, ∃ T, rowOf rs rt bs = levP rs rt :: T
  | [] => ⟨[], rfl⟩
  | _ :: _ => ⟨_, rfl⟩

theorem rowOf_ne_nil (rs rt bs : Str) : rowOf rs rt bs ≠ [] := by
  obtain ⟨T, h⟩ := rowOf_head rs rt bs
  exact h ▸ List.cons_ne_nil _ _

theorem levRowGo_spec (a : Nat) (rs : Str) : ∀ (bs rt : Str),
    levRowGo a bs (rowOf rs rt bs) (levP (a :: rs) rt) = rowOf (a :: rs) rt bs
  | [], rt => rfl
  | b :: bs, rt => by
    -- the previous row from this column on is `D[i-1][j-1] :: D[i-1][j] :: …`
    obtain ⟨T, hT⟩ := rowOf_head rs (b :: rt) bs
    have ih := levRowGo_spec a rs bs (b :: rt)
    rw [hT, levP] at ih
    rw [rowOf, rowOf, hT, levRowGo, ih]

theorem rowOf_nil_eq_range' : ∀ (bs rt : Str), rowOf [] rt bs = List.range' rt.length (bs.length + 1)
  | [], rt => congrArg (· :: []) (levP_nil_left rt)
  | b :: bs, rt => by
    rw [rowOf, levP_nil_left, rowOf_nil_eq_range' bs (b :: rt)]
    rfl

theorem rowOf_getLastD : ∀ (bs rt : Str) (rs : Str) (d : Nat),
    (rowOf rs rt bs).getLastD d = levP rs (bs.reverse ++ rt)
  | [], rt, rs, d => rfl
  | b :: bs, rt, rs, d => by
    rw [rowOf, List.getLastD_cons, rowOf_getLastD bs (b :: rt), List.reverse_cons, List.append_assoc]
    rfl

theorem levRows_spec (s2 : Str) : ∀ (s1 rs : Str),
    levRows s2 s1 rs.length (rowOf rs [] s2) = rowOf (s1.reverse ++ rs) [] s2
  | [], rs => rfl
  | a :: s1, rs => by
    have h := levRowGo_spec a rs s2 []
    rw [levP_nil_right] at h
    rw [levRows, List.reverse_cons, List.append_assoc]
    exact (congrArg (levRows s2 s1 _) h).trans (levRows_spec s2 s1 (a :: rs))

/-- `Material._levenshtein_distance` (matrix DP) = the recurrence -/
theorem levDP_eq_levSpec (s t : Str) : levDP s t = levSpec s t := by
  have h0 : List.range (t.length + 1) = rowOf [] [] t := by
    rw [rowOf_nil_eq_range', List.range_eq_range']
    rfl
  have h : levRows t s 0 (rowOf [] [] t) = _ := levRows_spec t s []
  rw [levDP, h0, h, rowOf_getLastD, List.append_nil, List.append_nil]
  rfl

theorem levP_eq_zero_iff : ∀ (rs rt : Str), levP rs rt = 0 ↔ rs = rt
  | [], rt => by rw [levP_nil_left, List.length_eq_zero_iff, eq_comm]
  | a :: rs, [] => iff_of_false (by rw [levP]; exact Nat.succ_ne_zero _) nofun
  | a :: rs, b :: rt => by
    -- of the three candidates only the diagonal one can be 0
    rw [levP, Nat.min_eq_zero_iff, Nat.min_eq_zero_iff, List.cons.injEq, ← levP_eq_zero_iff rs rt]
    simp only [Nat.add_one_ne_zero, false_or]
    split <;> simp only [*, Nat.add_zero, Nat.add_one_ne_zero, true_and, false_and]

theorem levDP_eq_zero_iff (s t : Str) : levDP s t = 0 ↔ s = t := by
  rw [levDP_eq_levSpec, levSpec, levP_eq_zero_iff]
  exact List.reverse_inj

/-! ### literal substring test -/
theorem isPrefix_refl : ∀ (l : Str), isPrefix l l = true
  | [] => rfl
  | a :: l => by simp [isPrefix, isPrefix_refl l]

theorem isInfix_refl (l : Str) : isInfix l l = true := by
  cases l with
  | nil => rfl
  | cons a l => simp [isInfix, isPrefix_refl]

/-! ### minimal-score selection -/
theorem minNat_le_of_mem : ∀ (l : List Nat) (a : Nat), a ∈ l → minNat l ≤ a
  | [b], a, h => Nat.le_of_eq (List.mem_singleton.mp h).symm
  | b :: c :: rest, a, h => by
    rcases List.mem_cons.mp h with rfl | h
    · exact Nat.min_le_left _ _
    · exact Nat.le_trans (Nat.min_le_right _ _) (minNat_le_of_mem (c :: rest) a h)

theorem mem_lrowsFrom_of_mem : ∀ (rows : List Row) (i : Nat) (r : Row), r ∈ rows →
    ∃ j, LRow.of j r ∈ lrowsFrom i rows
  | r0 :: rs, i, r, h => by
    rcases List.mem_cons.mp h with rfl | h
    · exact ⟨i, List.mem_cons_self⟩
    · exact (mem_lrowsFrom_of_mem rs (i + 1) r h).imp fun _ hj => List.mem_cons_of_mem _ hj

theorem of_mem_lrowsFrom : ∀ (rows : List Row) (i : Nat) (x : LRow), x ∈ lrowsFrom i rows →
    x.row ∈ rows ∧ ∃ j, x = LRow.of j x.row
  | r0 :: rs, i, x, h => by
    rcases List.mem_cons.mp h with rfl | h
    · exact ⟨List.mem_cons_self, i, rfl⟩
    · exact (of_mem_lrowsFrom rs (i + 1) x h).imp_left (List.mem_cons_of_mem _)

/-! ### the lookup over an arbitrary table -/

/-- a row passes the (optional, literal) reference filter -/
def passesRef (ref : Option Str) (r : Row) : Prop :=
  match ref with
  | none => True
  | some s => refMatch (isInfix (lowerL s)) (LRow.of 0 r) = true

theorem mem_minimal_iff (q : Str) (cands : List LRow) (x : LRow) :
    x ∈ minimal q cands ↔ x ∈ cands ∧ score q x = minNat (cands.map (score q)) := by
  simp [minimal, List.mem_filter]

/-- every candidate of score 0 is among the rows `.loc[0]` may return -/
theorem mem_minimal_of_score_zero (q : Str) (cands : List LRow) (x : LRow) (hx : x ∈ cands)
    (h0 : score q x = 0) : x ∈ minimal q cands := by
  have := minNat_le_of_mem (cands.map (score q)) (score q x) (List.mem_map_of_mem hx)
  exact (mem_minimal_iff _ _ _).mpr ⟨hx, by omega⟩

/-- a row of the table whose lower-cased `category_name` or `name` equals the lower-cased query, and
which passes the reference filter, is one of the rows a lookup may return; its score is 0 -/
theorem mem_lookup_spec_of_key_eq (rows : List Row) (x : Row) (hx : x ∈ rows) (name : Str)
    (ref : Option Str) (href : passesRef ref x)
    (h : lowerL x.cat.str = lowerL name ∨ lowerL x.name.str = lowerL name) :
    ∃ lx ∈ lookup_spec (lrows rows) name ref, lx.row = x ∧ score (lowerL name) lx = 0 := by
  obtain ⟨j, hj⟩ := mem_lrowsFrom_of_mem rows 0 x hx
  have h0 : score (lowerL name) (LRow.of j x) = 0 := by
    rcases h with h | h <;> simp [score, LRow.of, h, (levDP_eq_zero_iff _ _).mpr rfl]
  refine ⟨LRow.of j x, mem_minimal_of_score_zero _ _ _ ?_ h0, rfl, h0⟩
  simp only [candidates, List.mem_filter, Bool.and_eq_true]
  refine ⟨hj, ?_, ?_⟩
  · rcases h with h | h <;> simp [nameMatch, LRow.of, h, isInfix_refl]
  · cases ref with
    | none => rfl
    | some s => exact href

/-- table-free part of `lookup_exact_name`: if the table contains a row `r` (passing the reference
filter), a lookup of `r.name` finds something, and whatever it may return is a row of the table whose
lower-cased `category_name` or `name` equals the lower-cased query -/
theorem lookup_spec_sound (rows : List Row) (r : Row) (hr : r ∈ rows) (ref : Option Str)
    (href : passesRef ref r) :
    lookup_spec (lrows rows) r.name.str ref ≠ [] ∧
    ∀ x ∈ lookup_spec (lrows rows) r.name.str ref, x.row ∈ rows ∧
      (lowerL x.row.cat.str = lowerL r.name.str ∨ lowerL x.row.name.str = lowerL r.name.str) := by
  obtain ⟨lx, hlx, -, h0⟩ := mem_lookup_spec_of_key_eq rows r hr r.name.str ref href (Or.inr rfl)
  refine ⟨List.ne_nil_of_mem hlx, fun x hx => ?_⟩
  -- `x` and `lx` both have the minimal score, which is 0
  obtain ⟨hxc, hxs⟩ := (mem_minimal_iff _ _ _).mp hx
  have hx0 := hxs.trans (((mem_minimal_iff _ _ _).mp hlx).2.symm.trans h0)
  obtain ⟨hrow, k, hk⟩ := of_mem_lrowsFrom rows 0 x (List.mem_filter.mp hxc).1
  rw [score, Nat.min_eq_zero_iff, levDP_eq_zero_iff, levDP_eq_zero_iff, hk] at hx0
  exact ⟨hrow, hx0.imp Eq.symm Eq.symm⟩

/-! ### the case-insensitive key -/

theorem unpack_length : ∀ (len n : Nat), (unpack len n).length = len
  | 0, _ => rfl
  | len + 1, n => by simp [unpack, unpack_length len]

/-- `(B^len − 1)/(B − 1)` is the repunit `1 + B + … + B^(len−1)` -/
def repunit : Nat → Nat
  | 0 => 0
  | len + 1 => 1 + strBase * repunit len

theorem repunit_spec : ∀ len, (strBase - 1) * repunit len + 1 = strBase ^ len
  | 0 => by simp [repunit]
  | len + 1 => by
    have ih := repunit_spec len
    rw [Nat.pow_succ, ← ih]
    simp only [repunit, strBase] at *
    omega

theorem orMask_succ (len : Nat) : orMask (len + 1) = strBase * orMask len + 32 := by
  have e (n : Nat) : orMask n = 32 * repunit n :=
    congrArg (32 * ·) (Nat.div_eq_of_eq_mul_right (by decide) (by have := repunit_spec n; omega))
  rw [e, e]
  simp only [repunit, strBase]
  omega

/-- OR acts lane-wise on `2^k·a + x` when the low parts fit into `k` bits -/
theorem lor_lanes (k a b x y : Nat) (hx : x < 2 ^ k) (hy : y < 2 ^ k) :
    (2 ^ k * a + x) ||| (2 ^ k * b + y) = 2 ^ k * (a ||| b) + (x ||| y) := by
  have hxy : x ||| y < 2 ^ k := Nat.or_lt_two_pow hx hy
  apply Nat.eq_of_testBit_eq
  intro j
  rw [Nat.testBit_or, Nat.testBit_two_pow_mul_add _ hx, Nat.testBit_two_pow_mul_add _ hy,
    Nat.testBit_two_pow_mul_add _ hxy]
  by_cases hj : j < k <;> simp [hj, Nat.testBit_or]

theorem lowerCode_or (c : Nat) : lowerCode c ||| 32 = c ||| 32 := by
  unfold lowerCode
  split
  · next h =>
    -- an upper-case letter is `c = 2⁵·2 + k` with `k < 2⁵`: bit 5 is clear, and `c + 32 = 2⁵·3 + k`
    simp only [Bool.and_eq_true, decide_eq_true_eq] at h
    obtain ⟨k, hk, rfl⟩ : ∃ k, k < 2 ^ 5 ∧ c = 2 ^ 5 * 2 + k := ⟨c - 64, by omega, by omega⟩
    rw [show 2 ^ 5 * 2 + k + 32 = 2 ^ 5 * 3 + k by omega]
    exact (lor_lanes 5 3 1 k 0 hk (by decide)).trans (lor_lanes 5 2 1 k 0 hk (by decide)).symm
  · rfl

/-- the key of a packed string, one character at a time -/
theorem lor_orMask_succ (len a : Nat) :
    a ||| orMask (len + 1) = 2 ^ 21 * (a / strBase ||| orMask len) + (a % strBase ||| 32) := by
  have h := lor_lanes 21 (a / strBase) (orMask len) (a % strBase) 32
    (Nat.mod_lt a (by decide : 0 < strBase)) (by decide)
  have ea : 2 ^ 21 * (a / strBase) + a % strBase = a := Nat.div_add_mod a strBase
  have em : 2 ^ 21 * orMask len + 32 = orMask (len + 1) := (orMask_succ len).symm
  rwa [ea, em] at h

/-- equal lower-case forms ⇒ equal keys (for well-formed packed strings of the same length) -/
theorem key_congr_aux : ∀ (len a b : Nat), a < strBase ^ len → b < strBase ^ len →
    lowerL (unpack len a) = lowerL (unpack len b) → a ||| orMask len = b ||| orMask len
  | 0, a, b, ha, hb, _ => by
    rw [Nat.lt_one_iff.mp ha, Nat.lt_one_iff.mp hb]
  | len + 1, a, b, ha, hb, h => by
    rw [unpack, unpack, lowerL, lowerL, List.map_cons, List.map_cons, List.cons.injEq] at h
    have hB : 0 < strBase := by decide
    have ih := key_congr_aux len (a / strBase) (b / strBase)
      ((Nat.div_lt_iff_lt_mul hB).mpr ha) ((Nat.div_lt_iff_lt_mul hB).mpr hb) h.2
    rw [lor_orMask_succ, lor_orMask_succ, ih, ← lowerCode_or (a % strBase), h.1, lowerCode_or]

theorem key_congr (p q : PStr) (hp : p.wf = true) (hq : q.wf = true)
    (h : lowerL p.str = lowerL q.str) : p.key = q.key := by
  have hlen : p.len = q.len := by
    simpa [lowerL, PStr.str, unpack_length] using congrArg List.length h
  rw [PStr.wf, decide_eq_true_eq] at hp hq
  rw [PStr.str, PStr.str, ← hlen] at h
  rw [PStr.key, PStr.key, ← hlen]
  exact key_congr_aux p.len p.code q.code hp (hlen ▸ hq) h

theorem PStr.eq_of_beq {p q : PStr} (h : p.beq q = true) : p = q := by
  cases p; cases q
  simpa [PStr.beq] using h

theorem KTree.findF_eq (t : KTree) (q : Nat) : t.findF q = t.find q := by
  cases q <;> rfl

/-- soundness of the certificate: if every row passes `rowCheck`, then a row whose name is not on the
exception list shares its lower-cased name only with rows of exactly that name -/
theorem unambiguous_of_rowCheck (t : KTree) (amb : List PStr) (rows : List Row)
    (hall : ∀ r ∈ rows, rowCheck t amb r = true) :
    ∀ r ∈ rows, ∀ x ∈ rows, r.name ∉ amb →
      (lowerL x.cat.str = lowerL r.name.str ∨ lowerL x.name.str = lowerL r.name.str) →
      x.name = r.name := by
  intro r hr x hx hamb hkey
  have cr := hall r hr
  have cx := hall x hx
  simp only [rowCheck, Bool.and_eq_true, KTree.findF_eq] at cr cx
  obtain ⟨⟨⟨hrn, _⟩, hr1⟩, _⟩ := cr
  obtain ⟨⟨⟨hxn, hxc⟩, hx1⟩, hx2⟩ := cx
  have hv : t.find r.name.key = some (.uniq r.name) := by
    split at hr1
    · next nm hf => rw [hf, PStr.eq_of_beq hr1]
    · obtain ⟨a, ha, hab⟩ := List.any_eq_true.mp hr1
      exact absurd (PStr.eq_of_beq hab ▸ ha) hamb
    · exact nomatch hr1
  rcases hkey with h | h
  · rw [key_congr _ _ hxc hrn h, hv] at hx2
    exact (PStr.eq_of_beq hx2).symm
  · rw [key_congr _ _ hxn hrn h, hv] at hx1
    exact (PStr.eq_of_beq hx1).symm

/-- what `ambCheck` certifies: each listed name belongs to a row of the table, and a row with another
name has the same lower-cased `category_name` or `name` -/
theorem ambCheck_sound (rows : List Row) (amb : List PStr) (wit : List (Nat × Nat))
    (h : ambCheck rows amb wit = true) : ∀ a ∈ amb, (∃ r ∈ rows, r.name = a) ∧
      ∃ x ∈ rows, x.name ≠ a ∧
        (lowerL x.cat.str = lowerL a.str ∨ lowerL x.name.str = lowerL a.str) := by
  intro a ha
  rw [ambCheck, Bool.and_eq_true, beq_iff_eq, List.all_eq_true] at h
  -- `a` is paired with a witness: the two lists have the same length
  rw [← List.map_fst_zip (Nat.le_of_eq h.1)] at ha
  obtain ⟨⟨_, w⟩, hz, rfl⟩ := List.mem_map.mp ha
  have hw := h.2 _ hz
  split at hw
  · next r x hr hx =>
    simp only [Bool.and_eq_true, Bool.not_eq_true', Bool.or_eq_true, beq_iff_eq] at hw
    obtain ⟨⟨⟨⟨hrn, hxn⟩, _⟩, _⟩, hkey⟩ := hw
    refine ⟨⟨r, List.mem_of_getElem? hr, PStr.eq_of_beq hrn⟩, x, List.mem_of_getElem? hx, ?_, hkey⟩
    rintro rfl
    rw [PStr.beq, beq_self_eq_true, beq_self_eq_true] at hxn
    exact nomatch hxn
  · exact nomatch hw

end Model.Mat
