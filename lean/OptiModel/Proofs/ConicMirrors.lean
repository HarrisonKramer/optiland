import OptiModel.Proofs.SelectRoot
import Mathlib.Tactic.Positivity
/-!
# Conic mirrors between their foci (helper lemmas for C06)

The optiland conic `(1+k) z² − 2 R z + y² = 0` (vertex at the origin of the surface frame).  With a
*signed* eccentricity `ε` (`ε² = −k`; `ε = +e` for the focus next to the vertex, `ε = −e` for the other
one) the foci are `z = R/(1+ε)` and `z = R/(1−ε)`; a ray leaving `R/(1+ε)` in the unit direction `(M,N)`
meets the conic at distance `R/(1−εN)` and at `−R/(1+εN)`.  The lemmas below are about the model's own
`selectRoot`, `mdist`, `mnormal`, `malign`, `mreflect`, `mstepMirror` over ℝ.
-/
namespace ConicMirrors
open Model

/-! ### `mreflect`: the sign alignment never matters for a mirror -/

theorem mreflect_eq (M N ny nz : ℝ) :
    mreflect M N ny nz = (M - 2 * (M*ny + N*nz) * ny, N - 2 * (M*ny + N*nz) * nz) := by
  simp only [mreflect, malign]
  num_real
  have h := RayReal.sign_mul_abs (M*ny + N*nz)
  simp only [Prod.mk.injEq]
  constructor
  · linear_combination (-2 * ny) * h
  · linear_combination (-2 * nz) * h

/-! ### unit directions, eccentricity -/

theorem unit_N_bounds {M N : ℝ} (hu : M^2 + N^2 = 1) : -1 ≤ N ∧ N ≤ 1 :=
  abs_le.mp ((sq_le_one_iff_abs_le_one N).mp (by linarith [sq_nonneg M]))

/-- the eccentricity `e = √(−k)` of a conic with `k < 0` -/
theorem ecc_sqrt (k : ℝ) (hk0 : k < 0) : 0 < √(-k) ∧ √(-k)^2 = -k :=
  ⟨Real.sqrt_pos.2 (neg_pos.2 hk0), Real.sq_sqrt (neg_pos.2 hk0).le⟩

/-- ellipsoid: `0 < e < 1` -/
theorem ecc_ellipse (k : ℝ) (hk1 : -1 < k) (hk0 : k < 0) :
    k = -√(-k)^2 ∧ 0 < √(-k) ∧ √(-k) < 1 ∧ 0 < 1 - √(-k)^2 := by
  obtain ⟨h0, h⟩ := ecc_sqrt k hk0
  exact ⟨by linarith, h0, (Real.sqrt_lt' one_pos).2 (by linarith), by linarith⟩

/-- hyperboloid: `1 < e` -/
theorem ecc_hyperbola (k : ℝ) (hk1 : k < -1) : k = -√(-k)^2 ∧ 1 < √(-k) ∧ 1 - √(-k)^2 < 0 := by
  obtain ⟨-, h⟩ := ecc_sqrt k (by linarith)
  exact ⟨by linarith, (Real.lt_sqrt zero_le_one).2 (by linarith), by linarith⟩

/-- `1 − εN = (1 + N) + (−N)(1 + ε)` -/
theorem one_sub_mul_pos {ε M N : ℝ} (hε : -1 < ε) (hN : N < 0) (hu : M^2 + N^2 = 1) : 0 < 1 - ε * N := by
  have h := mul_pos (neg_pos.2 hN) (neg_lt_iff_pos_add'.1 hε)
  linarith [(unit_N_bounds hu).1]

/-- `1 − 2εN + ε² = (ε − N)² + M²` -/
theorem focal_quad_pos {ε M N : ℝ} (hD : N < ε) (hu : M^2 + N^2 = 1) : 0 < 1 - 2 * ε * N + ε^2 := by
  linarith [pow_pos (sub_pos.2 hD) 2, sq_nonneg M]

/-! ### the line through the focus `F = (0, R/(1+ε))` -/

/-- `mdist` for the ray with unit direction `(M, N)` started at `F − u (M, N)`: the quadratic handed to
`selectRoot`, written in `1 ∓ εN` -/
theorem mdist_focal_line (k R ε M N u y0 z0 : ℝ) (hk : k = -ε^2) (hε : 1 + ε ≠ 0) (hu : M^2 + N^2 = 1)
    (hy0 : y0 = -(u * M)) (hz0 : z0 = R / (1 + ε) - u * N) :
    mdist k R ⟨y0, z0, M, N⟩ =
      selectRoot ((1 - ε * N) * (1 + ε * N)) (-(2 * N * ε * R) - 2 * u * ((1 - ε * N) * (1 + ε * N)))
        ((1 - ε * N) * (1 + ε * N) * u^2 + 2 * N * ε * R * u - R * R) z0 N := by
  subst hk hy0
  have ea : -ε^2 * (N * N) + M * M + N * N = (1 - ε * N) * (1 + ε * N) := by linear_combination hu
  have eb : 2 * -ε^2 * N * z0 + 2 * M * -(u * M) - 2 * N * R + 2 * N * z0
      = -(2 * N * ε * R) - 2 * u * ((1 - ε * N) * (1 + ε * N)) := by
    rw [hz0]; field_simp; linear_combination (-u * (1 + ε)) * hu
  have ec : -ε^2 * (z0 * z0) - 2 * R * z0 + -(u * M) * -(u * M) + z0 * z0
      = (1 - ε * N) * (1 + ε * N) * u^2 + 2 * N * ε * R * u - R * R := by
    rw [hz0]; field_simp; linear_combination (u^2 * (1 + ε)^2) * hu
  rw [mdist_eq, ea, eb, ec]

/-- that quadratic in `w = 1 − εN`, `p = 1 + εN`, through its roots `t₁ = u + R/w` and `t₂ = u − R/p`
(Vieta); the sags `z₁`, `z₂` of their end points, and `z₁² − z₂²`, which has the sign of `N` (so of the
two end points the one nearer to the vertex plane is that of `t₁` for a ray travelling in `−z`, that of
`t₂` for a ray travelling in `+z`) -/
theorem focal_line_roots (R N ε u z0 w p : ℝ) (hε : 1 + ε ≠ 0) (hw : w ≠ 0) (hp : p ≠ 0)
    (hwd : w = 1 - ε * N) (hpd : p = 1 + ε * N) (hz0 : z0 = R / (1 + ε) - u * N) :
    -(2 * N * ε * R) - 2 * u * (w * p) = -(w * p * (u + R / w + (u - R / p))) ∧
    w * p * u^2 + 2 * N * ε * R * u - R * R = w * p * ((u + R / w) * (u - R / p)) ∧
    z0 + (u + R / w) * N = R * (1 + N) / ((1 + ε) * w) ∧
    z0 + (u - R / p) * N = R * (1 - N) / ((1 + ε) * p) ∧
    (R * (1 + N) / ((1 + ε) * w) - R * (1 - N) / ((1 + ε) * p))
        * (R * (1 + N) / ((1 + ε) * w) + R * (1 - N) / ((1 + ε) * p))
      = N * (4 * R^2 * (1 + ε * N^2) / ((1 + ε) * (w * p)^2)) := by
  -- `w`, `p` stay variables until `field_simp` has cancelled them as atoms; only then are they unfolded
  refine ⟨?_, ?_, ?_, ?_, ?_⟩
  · field_simp; subst hwd hpd; ring
  · field_simp; subst hwd hpd; ring
  · rw [hz0]; field_simp; subst hwd; ring
  · rw [hz0]; field_simp; subst hpd; ring
  · field_simp; subst hwd hpd; ring

/-- **root selection at the focus**: for `R > 0`, `ε > −1` (`ε² = −k`: both foci of an ellipsoid, the
parabola, the focus `R/(1+e)` of a hyperboloid) and a ray leaving the focus `(0, R/(1+ε))` towards the
vertex side (`N < 0`), `StandardGeometry.distance` returns `t₁ = R/(1−εN)`: by the linear branch when
`εN = −1`, with `t₂ = −R/(1+εN)` masked when it is negative, and by the `|z|` comparison otherwise. -/
theorem mdist_focus (k R ε M N : ℝ) (hR : 0 < R) (hk : k = -ε^2) (hε : -1 < ε) (hN : N < 0)
    (hu : M^2 + N^2 = 1) :
    mdist k R ⟨0, R / (1 + ε), M, N⟩ = R / (1 - ε * N) := by
  have hε0 : 0 < 1 + ε := by linarith
  have hw := one_sub_mul_pos hε hN hu
  rw [mdist_focal_line k R ε M N 0 0 _ hk hε0.ne' hu (by ring) (by ring)]
  rcases eq_or_ne (1 + ε * N) 0 with hp | hp
  · rw [selectRoot_linear _ _ _ _ _ (by rw [hp, mul_zero])]
    have hb : -(2 * N * ε * R) - 2 * 0 * ((1 - ε * N) * (1 + ε * N)) = 2 * R := by
      linear_combination (-2 * R) * hp
    have hc : -((1 - ε * N) * (1 + ε * N) * 0^2 + 2 * N * ε * R * 0 - R * R) = R * R := by ring
    have h2 : 1 - ε * N = 2 := by linarith only [hp]
    rw [hb, hc, h2, mul_div_mul_right R 2 hR.ne']
  · obtain ⟨hb, hc, z1, z2, hz⟩ := focal_line_roots R N ε 0 (R / (1 + ε)) _ _ hε0.ne' hw.ne' hp rfl rfl
      (by ring)
    have ha := mul_ne_zero hw.ne' hp
    have ht1 : 0 < 0 + R / (1 - ε * N) := by rw [zero_add]; exact div_pos hR hw
    rw [hb, hc]
    rcases lt_or_ge (0 - R / (1 + ε * N)) 0 with h2 | h2
    · rw [selectRoot_of_roots_masked _ _ _ _ _ ha ht1.le h2 ?_, zero_add]
      have hz1 : 0 ≤ R * (1 + N) / ((1 + ε) * (1 - ε * N)) :=
        div_nonneg (mul_nonneg hR.le (by linarith [(unit_N_bounds hu).1])) (mul_pos hε0 hw).le
      have hf := div_pos hR hε0
      rw [abs_of_pos hf, abs_lt]
      exact ⟨by rw [z1]; linarith only [hz1, hf], by linarith only [mul_neg_of_pos_of_neg ht1 hN]⟩
    · rw [selectRoot_of_roots _ _ _ _ _ ha ht1.le h2 ?_, zero_add]
      rw [z1, z2]
      refine sq_lt_sq.mp ?_
      -- `1 + εN² = M² + N²(1+ε)`
      have h1 : 0 < 1 + ε * N^2 := by linarith only [mul_pos (pow_pos (neg_pos.2 hN) 2) hε0, sq_nonneg M, hu]
      have hC : 0 < 4 * R^2 * (1 + ε * N^2) / ((1 + ε) * ((1 - ε * N) * (1 + ε * N))^2) :=
        div_pos (mul_pos (by positivity) h1) (mul_pos hε0 (by positivity))
      linear_combination hz + mul_neg_of_neg_of_pos hN hC

/-! ### the surface normal at a point of the sag sheet is the normalised gradient -/

/-- `StandardGeometry.surface_normal` at height `y` of the sag sheet is the normalised gradient of the
implicit equation `(1+k) z² − 2 R z + y² = 0`: with `D = R − (1+k) z` (so `D² = R² − (1+k) y²`) and the
length `S` of `(y, −D)`, both taken with the sign of `R`, it is `(y, −D)/S`. -/
theorem mnormal_eq (k R y D S : ℝ) (hD2 : D^2 = R^2 - (1 + k) * y^2) (hD : 0 < D * R)
    (hS2 : S^2 = y^2 + D^2) (hS : 0 < S * R) : mnormal k R y = (y / S, -D / S) := by
  simp only [mnormal]
  num_real
  have hR : R ≠ 0 := right_ne_zero_of_mul hD.ne'
  have hD0 : D ≠ 0 := left_ne_zero_of_mul hD.ne'
  have hS0 : S ≠ 0 := left_ne_zero_of_mul hS.ne'
  have hDR : 0 < D / R := by rw [← mul_div_mul_right D R hR]; exact div_pos hD (mul_self_pos.mpr hR)
  have hSD : 0 < S / D := by rw [← mul_div_mul_right S D hR]; exact div_pos hS hD
  have e1 : 1 - (1 + k) * (y * y) / (R * R) = (D / R)^2 := by
    rw [div_pow, hD2]; field_simp
  have e2 : R * (D / R) = D := by field_simp
  rw [e1, Real.sqrt_sq hDR.le, e2]
  have e3 : y / D * (y / D) + 1 = (S / D)^2 := by
    rw [div_pow, hS2]; field_simp
  rw [e3, Real.sqrt_sq hSD.le, Prod.mk.injEq]
  constructor <;> field_simp

/-- `mreflect` at the unit normal `(y, −D)/S`, `S² = y² + D²`, in rational form -/
theorem mreflect_unit_normal (M N y D S : ℝ) (hS : S^2 = y^2 + D^2) (hS0 : S ≠ 0) :
    mreflect M N (y / S) (-D / S) =
      (M - 2 * (M * y - N * D) * y / (y^2 + D^2), N + 2 * (M * y - N * D) * D / (y^2 + D^2)) := by
  rw [mreflect_eq, ← hS]
  simp only [Prod.mk.injEq]
  constructor
  · field_simp; ring
  · field_simp; ring

/-! ### one mirror step from a focus -/

/-- the hit point `(y, z) = F + t (M, N)`, `t = R/w`, `w = 1 − εN`, of the ray leaving `F = (0, R/(1+ε))`:
it lies on the conic; `R − (1+k) z = R (ε − N)/w`; `y² + (R − (1+k) z)² = R² (1 − 2εN + ε²)/w²`;
and `(M, N)·(y, −(R − (1+k) z)) = R`. -/
theorem focus_geometry (k R ε M N w : ℝ) (hk : k = -ε^2) (hε : 1 + ε ≠ 0) (hw : w ≠ 0) (hwd : w = 1 - ε * N)
    (hu : M^2 + N^2 = 1) :
    (1 + k) * (R / (1 + ε) + R / w * N)^2 - 2 * R * (R / (1 + ε) + R / w * N) + (0 + R / w * M)^2 = 0 ∧
    R - (1 + k) * (R / (1 + ε) + R / w * N) = R * (ε - N) / w ∧
    (0 + R / w * M)^2 + (R * (ε - N) / w)^2 = R^2 * (1 - 2 * ε * N + ε^2) / w^2 ∧
    M * (0 + R / w * M) - N * (R * (ε - N) / w) = R := by
  subst hk
  refine ⟨?_, ?_, ?_, ?_⟩
  · field_simp; subst hwd; linear_combination (R^2 * (1 + ε)^2) * hu
  · field_simp; subst hwd; ring
  · field_simp; linear_combination R^2 * hu
  · field_simp; subst hwd; linear_combination R * hu

/-- the outcome `out = (ray, t)` of a mirror step at the conic `(k, R)`: the ray has travelled `t` to a point
of the conic, its line passes through the axial point `zI` at the parameter `s`, its direction is a unit
vector, and `t + s = c` -/
def MirrorImage (k R : ℝ) (out : MRay ℝ × ℝ) (t s zI c : ℝ) : Prop :=
  out.2 = t ∧ (1 + k) * out.1.z^2 - 2 * R * out.1.z + out.1.y^2 = 0 ∧
  out.1.y + s * out.1.M = 0 ∧ out.1.z + s * out.1.N = zI ∧ out.1.M^2 + out.1.N^2 = 1 ∧ out.2 + s = c

/-- a conic mirror and a ray leaving the focus `(0, R/(1+ε))` towards the vertex side with `N < ε` (the hit
point lies on the sag sheet, i.e. strictly before the equator of an ellipsoid): the reflected line passes
through the other focus `R/(1−ε)`, at a parameter `s` of the sign of `1 − ε²`, and `t + s = 2R/(1+k)` -/
theorem focus_mirror_facts (k R ε M N : ℝ) (hR : 0 < R) (hk : k = -ε^2) (hε : -1 < ε) (hε1 : ε ≠ 1)
    (hN : N < 0) (hD : N < ε) (hu : M^2 + N^2 = 1) :
    let s := R * (1 - 2 * ε * N + ε^2) / ((1 - ε * N) * (1 - ε^2))
    MirrorImage k R (mstepMirror k R ⟨0, R / (1 + ε), M, N⟩) (R / (1 - ε * N)) s (R / (1 - ε))
      (2 * R / (1 + k)) ∧
    0 < R / (1 - ε * N) ∧ 0 < s * (1 - ε^2) := by
  have hε0 : 0 < 1 + ε := by linarith
  have hw := one_sub_mul_pos hε hN hu
  have hq := focal_quad_pos hD hu
  have hv : 1 - ε^2 ≠ 0 := by
    rw [show 1 - ε^2 = (1 - ε) * (1 + ε) by ring]; exact mul_ne_zero (sub_ne_zero.2 hε1.symm) hε0.ne'
  simp only [MirrorImage, mstepMirror, mdist_focus k R ε M N hR hk hε hN hu]
  num_real
  obtain ⟨hc, hDv, hQv, hdot⟩ := focus_geometry k R ε M N _ hk hε0.ne' hw.ne' rfl hu
  have hDpos : 0 < R - (1 + k) * (R / (1 + ε) + R / (1 - ε * N) * N) := by
    rw [hDv]; exact div_pos (mul_pos hR (sub_pos.2 hD)) hw
  have hQ := add_pos_of_nonneg_of_pos (sq_nonneg (0 + R / (1 - ε * N) * M)) (pow_pos hDpos 2)
  rw [mnormal_eq k R _ _ _ (by linear_combination (1 + k) * hc) (mul_pos hDpos hR) (Real.sq_sqrt hQ.le)
      (mul_pos (Real.sqrt_pos.2 hQ) hR),
    mreflect_unit_normal M N _ _ _ (Real.sq_sqrt hQ.le) (Real.sqrt_pos.2 hQ).ne', hDv, hdot, hQv]
  refine ⟨⟨trivial, hc, ?_⟩, div_pos hR hw, ?_⟩
  · have hkv : 1 + k = 1 - ε^2 := by rw [hk]; ring
    rw [hkv]
    generalize hvd : 1 - ε^2 = v at hv ⊢
    generalize hqd : 1 - 2 * ε * N + ε^2 = q at hq ⊢
    generalize hwd : 1 - ε * N = w at hw ⊢
    refine ⟨?_, ?_, ?_, ?_⟩
    · field_simp; subst hvd hwd hqd; ring
    · field_simp; subst hvd hwd hqd; ring
    · field_simp; subst hvd hwd hqd; linear_combination (R^2 * (1 - ε^2)^2) * hu
    · field_simp; subst hvd hwd hqd; ring
  · rw [div_mul_eq_mul_div, mul_div_mul_right _ _ hv]
    exact div_pos (mul_pos hR hq) hw

/-! ### mirror symmetry `z ↦ −z` of the surface frame (`R ↦ −R`, `N ↦ −N`) -/

theorem selectRoot_flip (a b c z N : ℝ) : selectRoot a b c (-z) (-N) = selectRoot a b c z N := by
  simp only [selectRoot]
  num_real
  have h : ∀ t : ℝ, |(-z) + t * (-N)| = |z + t * N| := fun t => by
    rw [← abs_neg]; congr 1; ring
  simp only [h]

theorem mdist_flip (k R y z M N : ℝ) : mdist k (-R) ⟨y, -z, M, -N⟩ = mdist k R ⟨y, z, M, N⟩ := by
  -- the coefficients `a`, `b`, `c` are invariant under `(R, z, N) ↦ −(R, z, N)`
  rw [mdist_eq, mdist_eq, ← selectRoot_flip _ _ _ z N]
  congr 1 <;> ring

theorem mnormal_flip (k R y : ℝ) : mnormal k (-R) y = (-(mnormal k R y).1, (mnormal k R y).2) := by
  simp only [mnormal]
  num_real
  rw [neg_mul_neg, neg_mul, div_neg, neg_mul_neg, neg_div]

theorem mreflect_flip (M N ny nz : ℝ) :
    mreflect M (-N) (-ny) nz = ((mreflect M N ny nz).1, -(mreflect M N ny nz).2) := by
  simp only [mreflect_eq, Prod.mk.injEq]
  constructor <;> ring

theorem mstepMirror_flip (k R y z M N : ℝ) :
    let o := mstepMirror k (-R) ⟨y, -z, M, -N⟩
    mstepMirror k R ⟨y, z, M, N⟩ = (⟨o.1.y, -o.1.z, o.1.M, -o.1.N⟩, o.2) := by
  simp only [mstepMirror, mdist_flip, mnormal_flip, mreflect_flip]
  num_real
  simp only [Prod.mk.injEq, MRay.mk.injEq, and_true, true_and, neg_neg]
  ring

theorem MirrorImage.flip {k R y z z' M N t s zI zI' c : ℝ} (hz : z' = -z) (hI : zI' = -zI)
    (h : MirrorImage k (-R) (mstepMirror k (-R) ⟨y, z', M, -N⟩) t s zI' c) :
    MirrorImage k R (mstepMirror k R ⟨y, z, M, N⟩) t s zI c := by
  subst hz hI
  rw [mstepMirror_flip]
  obtain ⟨h1, h2, h3, h4, h5, h6⟩ := h
  exact ⟨h1, by linear_combination h2, h3, by linear_combination (-1 : ℝ) * h4, by linear_combination h5, h6⟩

/-! ### the same for `R < 0` (vertex on the +z side of the foci: the layout of the test lenses, rays
travelling in +z) -/

theorem mdist_focus_neg (k R ε M N : ℝ) (hR : R < 0) (hk : k = -ε^2) (hε : -1 < ε) (hN : 0 < N)
    (hu : M^2 + N^2 = 1) :
    mdist k R ⟨0, R / (1 + ε), M, N⟩ = -R / (1 + ε * N) := by
  have h := mdist_focus k (-R) ε M (-N) (neg_pos.2 hR) hk hε (neg_neg_of_pos hN) (by rwa [neg_sq])
  rwa [neg_div, mdist_flip, mul_neg, sub_neg_eq_add] at h

theorem focus_mirror_facts_neg (k R ε M N : ℝ) (hR : R < 0) (hk : k = -ε^2) (hε : -1 < ε) (hε1 : ε ≠ 1)
    (hN : 0 < N) (hD : -ε < N) (hu : M^2 + N^2 = 1) :
    let s := -R * (1 + 2 * ε * N + ε^2) / ((1 + ε * N) * (1 - ε^2))
    MirrorImage k R (mstepMirror k R ⟨0, R / (1 + ε), M, N⟩) (-R / (1 + ε * N)) s (R / (1 - ε))
      (-(2 * R) / (1 + k)) ∧
    0 < -R / (1 + ε * N) ∧ 0 < s * (1 - ε^2) := by
  have h := focus_mirror_facts k (-R) ε M (-N) (neg_pos.2 hR) hk hε hε1 (neg_neg_of_pos hN) (neg_lt.1 hD)
    (by rwa [neg_sq])
  simp only [mul_neg, sub_neg_eq_add] at h
  exact ⟨h.1.flip (neg_div _ _) (neg_div _ _), h.2⟩

/-! ### a ray *aimed at* the focus from outside (virtual object; the Cassegrain secondary) -/

/-- reversing a ray that meets the surface at the same point reverses the reflected direction:
the reflected *line* is the same -/
theorem mstep_same_point (k R y0 z0 y1 z1 M N t0 t1 : ℝ)
    (h0 : mdist k R ⟨y0, z0, M, N⟩ = t0) (h1 : mdist k R ⟨y1, z1, -M, -N⟩ = t1)
    (hy : y0 + t0 * M = y1 + t1 * -M) (hz : z0 + t0 * N = z1 + t1 * -N) :
    let o := mstepMirror k R ⟨y1, z1, -M, -N⟩
    mstepMirror k R ⟨y0, z0, M, N⟩ = (⟨o.1.y, o.1.z, -o.1.M, -o.1.N⟩, t0) := by
  simp only [mstepMirror, h0, h1]
  num_real
  rw [hy, hz]
  simp only [mreflect_eq, Prod.mk.injEq, MRay.mk.injEq, and_true, true_and]
  constructor <;> ring

/-- **root selection for a ray aimed at the focus `R/(1+ε)` of a hyperboloid from the convex side**
(`R > 0`, `ε > 1`, `N > 0`, start point `F − u (M,N)`): `distance` returns `u − R/(1+εN)` — the second
root `t₂`; `t₁ = u + R/(1−εN)` is the concave-side hit behind the focus (`εN < 1`), absent (`εN = 1`, linear
branch), or the hit on the other sheet (`εN > 1`), which is either behind the start point (masked) or has
the larger `|z|`.  Guard `hfar`: the start point lies further from the vertex plane than the hit point
(`z₀ < −z_hit`); the real code needs only `t₂ ≥ 0` here because it compares with `inf`, ℝ compares with
`|z₀|`. -/
theorem mdist_aimed (k R ε M N u : ℝ) (hR : 0 < R) (hk : k = -ε^2) (hε : 1 < ε) (hN : 0 < N)
    (hu : M^2 + N^2 = 1)
    (hfar : R / (1 + ε) - u * N < -(R * (1 - N) / ((1 + ε) * (1 + ε * N)))) :
    mdist k R ⟨-(u * M), R / (1 + ε) - u * N, M, N⟩ = u - R / (1 + ε * N) := by
  have hε0 : 0 < 1 + ε := by linarith
  have hε' : 0 < ε := by linarith
  have hp : 0 < 1 + ε * N := by positivity
  have hz2 : 0 ≤ R * (1 - N) / ((1 + ε) * (1 + ε * N)) :=
    div_nonneg (mul_nonneg hR.le (by linarith [(unit_N_bounds hu).2])) (mul_pos hε0 hp).le
  rw [mdist_focal_line k R ε M N u _ _ hk hε0.ne' hu rfl rfl]
  rcases eq_or_ne (1 - ε * N) 0 with hw | hw
  · rw [selectRoot_linear _ _ _ _ _ (by rw [hw, zero_mul])]
    have hb : -(2 * N * ε * R) - 2 * u * ((1 - ε * N) * (1 + ε * N)) = -(2 * R) := by
      linear_combination (2 * R - 2 * u * (1 + ε * N)) * hw
    have hc : -((1 - ε * N) * (1 + ε * N) * u^2 + 2 * N * ε * R * u - R * R) = -(2 * R) * (u - R / 2) := by
      linear_combination (2 * R * u - (1 + ε * N) * u^2) * hw
    have h2 : 1 + ε * N = 2 := by linarith only [hw]
    rw [hb, hc, h2, mul_div_cancel_left₀ _ (neg_ne_zero.2 (mul_pos two_pos hR).ne')]
  · obtain ⟨hb, hc, z1, z2, hz⟩ := focal_line_roots R N ε u _ _ _ hε0.ne' hw hp.ne' rfl rfl rfl
    have ha := mul_ne_zero hw hp.ne'
    -- `t₂ ≥ 0` follows from the guard: otherwise `z₂ < z₀ < −z₂`
    have ht2 : 0 ≤ u - R / (1 + ε * N) := by
      by_contra hneg
      linarith only [mul_neg_of_neg_of_pos (not_le.mp hneg) hN, hfar, z2, hz2]
    rw [hb, hc, add_comm (u + _), mul_comm (u + _)]
    rcases lt_or_ge (u + R / (1 - ε * N)) 0 with h1 | h1
    · rw [selectRoot_of_roots_masked _ _ _ _ _ ha ht2 h1 ?_]
      rw [z2, abs_of_nonneg hz2, abs_of_neg (by linarith only [hfar, hz2])]
      linarith only [hfar]
    · rw [selectRoot_of_roots _ _ _ _ _ ha ht2 h1 ?_]
      rw [z1, z2]
      refine sq_lt_sq.mp ?_
      have hC : 0 < 4 * R^2 * (1 + ε * N^2) / ((1 + ε) * ((1 - ε * N) * (1 + ε * N))^2) := by positivity
      linear_combination mul_pos hN hC - hz

/-- the hyperboloid secondary: ray aimed at the focus `R/(1+ε)` from the convex side, started `u` before the
focus; `s > 0` is the parameter of the other focus along the reflected ray -/
theorem aimed_mirror_facts (k R ε M N u : ℝ) (hR : 0 < R) (hk : k = -ε^2) (hε : 1 < ε) (hN : 0 < N)
    (hu : M^2 + N^2 = 1)
    (hfar : R / (1 + ε) - u * N < -(R * (1 - N) / ((1 + ε) * (1 + ε * N)))) :
    let s := R * (1 + 2 * ε * N + ε^2) / ((1 + ε * N) * (ε^2 - 1))
    MirrorImage k R (mstepMirror k R ⟨-(u * M), R / (1 + ε) - u * N, M, N⟩) (u - R / (1 + ε * N)) s
      (R / (1 - ε)) (u - 2 * R / (1 + k)) ∧ 0 < s := by
  intro s
  have hε' : 0 < ε := by linarith
  have hv : 0 < ε^2 - 1 := by linarith [mul_pos (sub_pos.2 hε) hε']
  have hs : 0 < s := div_pos (mul_pos hR (by positivity)) (mul_pos (by positivity) hv)
  have hf := (focus_mirror_facts k R ε (-M) (-N) hR hk (by linarith) hε.ne' (neg_neg_of_pos hN) (by linarith)
    (by rwa [neg_sq, neg_sq])).1
  simp only [mul_neg, sub_neg_eq_add] at hf
  obtain ⟨f1, f2, f3, f4, f5, f6⟩ := hf
  have e : s = -(R * (1 + 2 * ε * N + ε^2) / ((1 + ε * N) * (1 - ε^2))) := by
    rw [← div_neg, ← mul_neg, neg_sub]
  rw [e] at hs ⊢
  rw [mstep_same_point k R _ _ _ _ M N _ _ (mdist_aimed k R ε M N u hR hk hε hN hu hfar) f1 (by ring) (by ring)]
  exact ⟨⟨rfl, f2, by linear_combination f3, by linear_combination f4, by linear_combination f5,
    by linear_combination f1 - f6⟩, hs⟩

/-- the same for `R < 0`, `N < 0` (layout of the Cassegrain test lens: rays return from the primary in
the −z direction, converging on the prime focus `R/(1+ε)` behind the convex secondary) -/
theorem aimed_mirror_facts_neg (k R ε M N u : ℝ) (hR : R < 0) (hk : k = -ε^2) (hε : 1 < ε) (hN : N < 0)
    (hu : M^2 + N^2 = 1)
    (hfar : -(R * (1 + N) / ((1 + ε) * (1 - ε * N))) < R / (1 + ε) - u * N) :
    let s := -R * (1 - 2 * ε * N + ε^2) / ((1 - ε * N) * (ε^2 - 1))
    MirrorImage k R (mstepMirror k R ⟨-(u * M), R / (1 + ε) - u * N, M, N⟩) (u + R / (1 - ε * N)) s
      (R / (1 - ε)) (u + 2 * R / (1 + k)) ∧ 0 < s := by
  have h := aimed_mirror_facts k (-R) ε M (-N) u (neg_pos.2 hR) hk hε (neg_pos.2 hN) (by rwa [neg_sq])
    (lt_of_eq_of_lt (by ring) (lt_of_lt_of_eq (neg_lt_neg hfar) (by ring)))
  simp only [mul_neg, sub_neg_eq_add, ← sub_eq_add_neg, neg_div] at h
  exact ⟨h.1.flip (by ring) rfl, h.2⟩

end ConicMirrors
