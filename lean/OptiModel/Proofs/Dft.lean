import Mathlib.Analysis.Fourier.ZMod
import Mathlib.Analysis.RCLike.Basic
import Mathlib.Tactic.Ring
/-!
Finite Fourier analysis used by C11, over ℂ, with sums over `Finset.range N`:
1-D Parseval in polarised form (from `ZMod.dft_dft`, DESIGN appendix A.6), carried to the separable
2-D transform by applying it to the columns and then to the rows; the shift theorem, discrete
Wiener–Khinchin, the triangle-inequality bounds.
-/
open ZMod Finset
open scoped ComplexConjugate Real

namespace DftMath

section zmod
variable {N : ℕ} [NeZero N]

lemma conj_stdAddChar (a : ZMod N) : conj ((stdAddChar a : ℂ)) = stdAddChar (-a) :=
  (AddChar.map_neg_eq_conj (stdAddChar (N := N)) a).symm

/-- the transform is symmetric for the bilinear pairing `Σ f·g` -/
lemma sum_dft_mul (f g : ZMod N → ℂ) : ∑ k, 𝓕 f k * g k = ∑ j, f j * 𝓕 g j := by
  simp_rw [dft_apply, smul_eq_mul, sum_mul, mul_sum]
  rw [sum_comm]
  refine sum_congr rfl fun j _ => sum_congr rfl fun k _ => ?_
  rw [mul_comm k j, mul_left_comm, mul_assoc]

lemma conj_dft (h : ZMod N → ℂ) (k : ZMod N) : conj (𝓕 h k) = 𝓕 (fun j => conj (h (-j))) k := by
  simp only [dft_apply, smul_eq_mul, map_sum, map_mul, conj_stdAddChar]
  rw [← Equiv.sum_comp (Equiv.neg (ZMod N))]
  simp only [Equiv.neg_apply, neg_neg, neg_mul]

/-- polarised form of A.6: move the transform of `f` onto `conj (𝓕 h) = 𝓕 (conj h ∘ neg)` and
invert the double transform -/
theorem parseval_inner (f h : ZMod N → ℂ) :
    ∑ k, (𝓕 f k) * conj (𝓕 h k) = N * ∑ j, f j * conj (h j) := by
  rw [sum_congr rfl fun k _ => congrArg _ (conj_dft h k), sum_dft_mul, dft_dft, mul_sum]
  exact sum_congr rfl fun j _ => by beta_reduce; rw [smul_eq_mul, neg_neg, mul_left_comm]

/-- `Σ_k |𝓕f k|² = N · Σ_j |f j|²` (DESIGN appendix A.6) -/
theorem parseval (f : ZMod N → ℂ) :
    ∑ k, (𝓕 f k) * conj (𝓕 f k) = N * ∑ j, f j * conj (f j) := parseval_inner f f
end zmod

/-- `exp(-2πi m/N)` -/
noncomputable def E (N : ℕ) (m : ℤ) : ℂ := Complex.exp (2 * π * Complex.I * ((-m : ℤ) : ℂ) / N)

lemma E_zero (N : ℕ) : E N 0 = 1 := by
  rw [E, neg_zero, Int.cast_zero, mul_zero, zero_div, Complex.exp_zero]

lemma E_add (N : ℕ) (a b : ℤ) : E N (a + b) = E N a * E N b := by
  unfold E
  rw [← Complex.exp_add, ← add_div, ← mul_add, neg_add, Int.cast_add]

lemma norm_E (N : ℕ) (m : ℤ) : ‖E N m‖ = 1 := by
  rw [E, Complex.norm_exp]
  simp

lemma conj_E (N : ℕ) (m : ℤ) : conj (E N m) = E N (-m) := by
  rw [← Complex.inv_eq_conj (norm_E N m)]
  apply inv_eq_of_mul_eq_one_right
  rw [← E_add, add_neg_cancel, E_zero]

lemma E_eq_stdAddChar (N : ℕ) [NeZero N] (m : ℤ) : E N m = stdAddChar ((-m : ℤ) : ZMod N) := by
  rw [stdAddChar_coe]; rfl

lemma E_congr_mod (N : ℕ) [NeZero N] (a b : ℤ) (h : (a : ZMod N) = (b : ZMod N)) : E N a = E N b := by
  rw [E_eq_stdAddChar, E_eq_stdAddChar, Int.cast_neg, Int.cast_neg, h]

lemma E_period (N : ℕ) [NeZero N] (m : ℤ) : E N (m + N) = E N m :=
  E_congr_mod N _ _ (by rw [Int.cast_add, Int.cast_natCast, ZMod.natCast_self, add_zero])

lemma E_mod (N : ℕ) [NeZero N] (m : ℕ) : E N ((m % N : ℕ) : ℤ) = E N (m : ℤ) :=
  E_congr_mod N _ _ (by rw [Int.cast_natCast, Int.cast_natCast, ZMod.natCast_mod])

/-! ### the transform over `range N` -/

/-- `X[k] = Σ_{j<N} x[j] exp(-2πi jk/N)` -/
noncomputable def dftR (N : ℕ) (x : ℕ → ℂ) (k : ℕ) : ℂ := ∑ j ∈ range N, x j * E N ((j * k : ℕ) : ℤ)

/-- separable 2-D transform: along the rows, then along the columns -/
noncomputable def dft2R (N : ℕ) (x : ℕ → ℕ → ℂ) (k1 k2 : ℕ) : ℂ :=
  dftR N (fun r => dftR N (x r) k2) k1

lemma sum_zmod_eq_sum_range {M : Type*} [AddCommMonoid M] (N : ℕ) [NeZero N] (f : ℕ → M) :
    ∑ a : ZMod N, f a.val = ∑ j ∈ range N, f j := by
  obtain ⟨n, rfl⟩ := Nat.exists_eq_succ_of_ne_zero (NeZero.ne N)
  exact Fin.sum_univ_eq_sum_range f (n + 1)

lemma dftR_eq_dft (N : ℕ) [NeZero N] (x : ℕ → ℂ) (a : ZMod N) :
    dftR N x a.val = 𝓕 (fun a : ZMod N => x a.val) a := by
  rw [dft_apply, dftR, ← sum_zmod_eq_sum_range N fun j => x j * E N ((j * a.val : ℕ) : ℤ)]
  refine sum_congr rfl fun b _ => ?_
  rw [E_eq_stdAddChar, smul_eq_mul, mul_comm, Int.cast_neg, Int.cast_natCast, Nat.cast_mul,
    ZMod.natCast_zmod_val, ZMod.natCast_zmod_val]

theorem parsevalR_inner (N : ℕ) [NeZero N] (x y : ℕ → ℂ) :
    ∑ k ∈ range N, dftR N x k * conj (dftR N y k) = N * ∑ j ∈ range N, x j * conj (y j) := by
  rw [← sum_zmod_eq_sum_range N fun k => dftR N x k * conj (dftR N y k),
    ← sum_zmod_eq_sum_range N fun j => x j * conj (y j),
    ← parseval_inner (fun a : ZMod N => x a.val) fun a : ZMod N => y a.val]
  exact sum_congr rfl fun a _ => by rw [dftR_eq_dft, dftR_eq_dft]

/-- the 1-D identity over the columns for every output row index, then over the rows -/
theorem parseval2R_inner (N : ℕ) [NeZero N] (x y : ℕ → ℕ → ℂ) :
    ∑ k1 ∈ range N, ∑ k2 ∈ range N, dft2R N x k1 k2 * conj (dft2R N y k1 k2)
      = (N : ℂ) ^ 2 * ∑ j1 ∈ range N, ∑ j2 ∈ range N, x j1 j2 * conj (y j1 j2) := by
  rw [sum_comm]
  refine (sum_congr rfl fun k2 _ =>
    parsevalR_inner N (fun r => dftR N (x r) k2) fun r => dftR N (y r) k2).trans ?_
  rw [← mul_sum, sum_comm, sum_congr rfl fun r _ => parsevalR_inner N (x r) (y r), ← mul_sum, ← mul_assoc, sq]

theorem parseval2R (N : ℕ) [NeZero N] (x : ℕ → ℕ → ℂ) :
    ∑ k1 ∈ range N, ∑ k2 ∈ range N, Complex.normSq (dft2R N x k1 k2)
      = (N : ℝ) ^ 2 * ∑ j1 ∈ range N, ∑ j2 ∈ range N, Complex.normSq (x j1 j2) := by
  apply Complex.ofReal_injective
  push_cast
  simp_rw [← Complex.mul_conj]
  exact parseval2R_inner N x x

/-- the defining double sum -/
theorem dft2R_eq_sum (N : ℕ) (x : ℕ → ℕ → ℂ) (k1 k2 : ℕ) :
    dft2R N x k1 k2 = ∑ j1 ∈ range N, ∑ j2 ∈ range N,
      x j1 j2 * E N ((j1 * k1 + j2 * k2 : ℕ) : ℤ) := by
  unfold dft2R dftR
  refine sum_congr rfl fun j1 _ => ?_
  rw [sum_mul]
  refine sum_congr rfl fun j2 _ => ?_
  rw [Nat.add_comm, Nat.cast_add, E_add, mul_assoc]

lemma dftR_zero (N : ℕ) (x : ℕ → ℂ) : dftR N x 0 = ∑ j ∈ range N, x j :=
  sum_congr rfl fun j _ => by rw [Nat.mul_zero, Nat.cast_zero, E_zero, mul_one]

lemma dft2R_zero (N : ℕ) (x : ℕ → ℕ → ℂ) : dft2R N x 0 0 = ∑ j1 ∈ range N, ∑ j2 ∈ range N, x j1 j2 :=
  (dftR_zero N _).trans (sum_congr rfl fun _ _ => dftR_zero N _)

lemma norm_dftR_le (N : ℕ) (x : ℕ → ℂ) (k : ℕ) : ‖dftR N x k‖ ≤ ∑ j ∈ range N, ‖x j‖ :=
  (norm_sum_le _ _).trans_eq (sum_congr rfl fun j _ => by rw [norm_mul, norm_E, mul_one])

/-- triangle inequality: no output of the transform exceeds the sum of the moduli of the inputs -/
lemma norm_dft2R_le (N : ℕ) (x : ℕ → ℕ → ℂ) (k1 k2 : ℕ) :
    ‖dft2R N x k1 k2‖ ≤ ∑ j1 ∈ range N, ∑ j2 ∈ range N, ‖x j1 j2‖ :=
  (norm_dftR_le N _ k1).trans (sum_le_sum fun _ _ => norm_dftR_le N _ k2)

lemma dftR_congr (N : ℕ) (x y : ℕ → ℂ) (h : ∀ j, j < N → x j = y j) (k : ℕ) : dftR N x k = dftR N y k :=
  sum_congr rfl fun j hj => by rw [h j (mem_range.mp hj)]

lemma dft2R_congr (N : ℕ) (x y : ℕ → ℕ → ℂ) (h : ∀ r c, r < N → c < N → x r c = y r c) (k1 k2 : ℕ) :
    dft2R N x k1 k2 = dft2R N y k1 k2 :=
  dftR_congr N _ _ (fun r hr => dftR_congr N _ _ (fun c hc => h r c hr hc) k2) k1

lemma dftR_const_mul (N : ℕ) (a : ℂ) (x : ℕ → ℂ) (k : ℕ) :
    dftR N (fun j => a * x j) k = a * dftR N x k := by
  rw [dftR, dftR, mul_sum]
  exact sum_congr rfl fun j _ => mul_assoc _ _ _

lemma dft2R_const_mul (N : ℕ) (a : ℂ) (x : ℕ → ℕ → ℂ) (k1 k2 : ℕ) :
    dft2R N (fun r c => a * x r c) k1 k2 = a * dft2R N x k1 k2 := by
  unfold dft2R
  simp_rw [dftR_const_mul]

/-! ### circular shifts and zero padding -/

/-- `fftshift` only permutes: a sum over all shifted indices is the sum over all indices -/
lemma sum_shift {M : Type*} [AddCommMonoid M] (N s : ℕ) (f : ℕ → M) :
    ∑ i ∈ range N, f ((i + s) % N) = ∑ i ∈ range N, f i := by
  rcases Nat.eq_zero_or_pos N with rfl | hN
  · rfl
  have : NeZero N := ⟨hN.ne'⟩
  rw [← sum_zmod_eq_sum_range N f, ← sum_zmod_eq_sum_range N fun i => f ((i + s) % N),
    ← Equiv.sum_comp (Equiv.addRight (s : ZMod N)) fun a => f a.val]
  refine sum_congr rfl fun a _ => ?_
  rw [Equiv.coe_addRight, ZMod.val_add, ZMod.val_natCast, Nat.add_mod_mod]

/-- zero padding does not change a sum -/
lemma sum_pad {M : Type*} [AddCommMonoid M] (n pad gp : ℕ) (h : pad + n ≤ gp) (f : ℕ → M) :
    ∑ r ∈ range gp, (if pad ≤ r ∧ r < pad + n then f (r - pad) else 0) = ∑ i ∈ range n, f i := by
  have hf : filter (fun r => pad ≤ r ∧ r < pad + n) (range gp) = Ico pad (pad + n) := by
    ext r
    rw [mem_filter, mem_range, mem_Ico]
    omega
  rw [← sum_filter, hf, sum_Ico_eq_sum_range]
  simp only [Nat.add_sub_cancel_left]

/-- shift theorem: a circular shift of the input multiplies the transform by a unit-modulus factor -/
theorem dftR_shift (N : ℕ) [NeZero N] (x : ℕ → ℂ) (s k : ℕ) :
    dftR N (fun j => x ((j + s) % N)) k = dftR N x k * E N (-((s * k : ℕ) : ℤ)) := by
  unfold dftR
  rw [sum_mul, ← sum_shift N s (fun i => x i * E N ((i * k : ℕ) : ℤ) * E N (-((s * k : ℕ) : ℤ)))]
  refine sum_congr rfl fun j _ => ?_
  rw [mul_assoc, ← E_add]
  congr 1
  apply E_congr_mod
  simp only [Int.cast_add, Int.cast_neg, Int.cast_mul, Int.cast_natCast, Nat.cast_mul, ZMod.natCast_mod, Nat.cast_add,
    add_mul, add_neg_cancel_right]

theorem dft2R_shift (N : ℕ) [NeZero N] (x : ℕ → ℕ → ℂ) (s1 s2 k1 k2 : ℕ) :
    dft2R N (fun r c => x ((r + s1) % N) ((c + s2) % N)) k1 k2
      = dft2R N x k1 k2 * (E N (-((s1 * k1 : ℕ) : ℤ)) * E N (-((s2 * k2 : ℕ) : ℤ))) := by
  unfold dft2R
  simp_rw [dftR_shift N (x _) s2 k2]
  rw [dftR_shift N (fun r => dftR N (x r) k2 * E N (-((s2 * k2 : ℕ) : ℤ))) s1 k1]
  unfold dftR
  rw [sum_mul, sum_mul]
  refine sum_congr rfl fun j _ => ?_
  ring

/-- a circular shift does not change the modulus of the transform -/
lemma norm_dft2R_shift (N : ℕ) [NeZero N] (x : ℕ → ℕ → ℂ) (s1 s2 k1 k2 : ℕ) :
    ‖dft2R N (fun r c => x ((r + s1) % N) ((c + s2) % N)) k1 k2‖ = ‖dft2R N x k1 k2‖ := by
  rw [dft2R_shift, norm_mul, norm_mul, norm_E, norm_E, mul_one, mul_one]

/-- conjugating the output reverses the frequency and conjugates the input -/
lemma conj_dftR (N : ℕ) [NeZero N] (x : ℕ → ℂ) (k k' : ℕ) (h : (k + k') % N = 0) :
    conj (dftR N x k) = dftR N (fun j => conj (x j)) k' := by
  have hz : (k : ZMod N) + k' = 0 := by
    rw [← Nat.cast_add, ZMod.natCast_eq_zero_iff]
    exact Nat.dvd_of_mod_eq_zero h
  unfold dftR
  rw [map_sum]
  refine sum_congr rfl fun j _ => ?_
  rw [map_mul, conj_E]
  congr 1
  apply E_congr_mod
  rw [Int.cast_neg, Int.cast_natCast, Int.cast_natCast, Nat.cast_mul, Nat.cast_mul, neg_eq_iff_add_eq_zero,
    ← mul_add, hz, mul_zero]

lemma conj_dft2R (N : ℕ) [NeZero N] (x : ℕ → ℕ → ℂ) (k1 k2 k1' k2' : ℕ)
    (h1 : (k1 + k1') % N = 0) (h2 : (k2 + k2') % N = 0) :
    conj (dft2R N x k1 k2) = dft2R N (fun r c => conj (x r c)) k1' k2' := by
  unfold dft2R
  rw [conj_dftR N _ k1 k1' h1]
  exact dftR_congr N _ _ (fun r _ => conj_dftR N (x r) k2 k2' h2) k1'

/-- discrete Wiener–Khinchin: the transform of `|DFT₂ x|²` is `N²` times the circular
autocorrelation of `x` -/
theorem wiener_khinchin2 (N : ℕ) [NeZero N] (x : ℕ → ℕ → ℂ) (s1 s2 : ℕ) :
    dft2R N (fun k1 k2 => ((Complex.normSq (dft2R N x k1 k2) : ℝ) : ℂ)) s1 s2
      = (N : ℂ) ^ 2 * ∑ j1 ∈ range N, ∑ j2 ∈ range N,
          x j1 j2 * conj (x ((j1 + s1) % N) ((j2 + s2) % N)) := by
  rw [← parseval2R_inner N x (fun r c => x ((r + s1) % N) ((c + s2) % N)), dft2R_eq_sum]
  refine sum_congr rfl fun k1 _ => sum_congr rfl fun k2 _ => ?_
  rw [dft2R_shift, map_mul, map_mul, conj_E, conj_E, neg_neg, neg_neg, ← E_add, ← Complex.mul_conj,
    Nat.cast_add, Nat.mul_comm k1, Nat.mul_comm k2, mul_assoc]

/-- the autocorrelation of `x` is bounded in modulus by the autocorrelation of `|x|`: with
Wiener–Khinchin, no OTF exceeds the OTF of the zero-phase pupil of the same amplitude -/
theorem norm_dft2R_normSq_le (N : ℕ) [NeZero N] (x x0 : ℕ → ℕ → ℂ)
    (h0 : ∀ r c, x0 r c = ((‖x r c‖ : ℝ) : ℂ)) (s1 s2 : ℕ) :
    ‖dft2R N (fun k1 k2 => ((Complex.normSq (dft2R N x k1 k2) : ℝ) : ℂ)) s1 s2‖
      ≤ ‖dft2R N (fun k1 k2 => ((Complex.normSq (dft2R N x0 k1 k2) : ℝ) : ℂ)) s1 s2‖ := by
  rw [wiener_khinchin2, wiener_khinchin2, norm_mul, norm_mul]
  refine mul_le_mul_of_nonneg_left ?_ (norm_nonneg _)
  -- the autocorrelation of `x0 = |x|` is a non-negative real: bound its modulus below by its real part
  refine le_trans ?_ (Complex.re_le_norm _)
  simp_rw [Complex.re_sum, h0, Complex.conj_ofReal, ← Complex.ofReal_mul, Complex.ofReal_re]
  refine (norm_sum_le _ _).trans (sum_le_sum fun j1 _ => (norm_sum_le _ _).trans_eq ?_)
  exact sum_congr rfl fun j2 _ => by rw [norm_mul, RCLike.norm_conj]

end DftMath
