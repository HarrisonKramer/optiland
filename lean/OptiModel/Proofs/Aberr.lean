import OptiModel.Model.Aberr
import OptiModel.Props.C04
import OptiModel.Proofs.NumReal
import Mathlib.Tactic.FieldSimp
import Mathlib.Tactic.Ring
import Mathlib.Tactic.LinearCombination
import Mathlib.Tactic.Linarith
import Mathlib.Tactic.NormNum
/-!
What `Props/C08.lean` rests on.  The per-surface quantities of `Aberrations._precalculations` and the
classical contributions get their equations over ℝ once (`B_eq`, `tscTerm_eq`, `SI_eq`, …); the
theorems about the Seidel terms rewrite with these and never unfold the model.  `B_refr` is the one
algebraic fact that makes `B`, `B̄` classical.  The second half is index bookkeeping: entry `k` of the
recursive paraxial trace (`ptrace`), of the running mirror orientation (`sigmas`) and of the media
chain (`C04.Chained`), all from `scan_getD_succ`.
-/
namespace C08
open Model Model.Classical

theorem half_eq : (Model.half : ℝ) = 1 / 2 := by
  unfold Model.half; num_real; norm_num

theorem three_eq : (Model.three : ℝ) = 3 := by
  unfold Model.three; num_real; norm_num

theorem pysum_eq (l : List ℝ) : pysum l = l.sum := List.sum_eq_foldl.symm

/-! ### the per-surface quantities of `_precalculations` over ℝ -/
section equations
variable (P : Pre ℝ) (k : ℕ)

/-- the guard against a zero denominator is invisible over ℝ, where `x / 0 = 0` -/
theorem ite_isZero_div (x d : ℝ) : (if Num.isZero d = true then 0 else x / d) = x / d := by
  split_ifs with h
  · rw [NumReal.isZero_eq] at h
    rw [h, div_zero]
  · rfl

theorem hp_eq : P.hp = P.inv / (P.nL * P.uL) := rfl
theorem i_eq : P.i k = nth P.C k * nth P.ya k + nth P.ua (k - 1) := rfl
theorem ip_eq : P.ip k = nth P.C k * nth P.yb k + nth P.ub (k - 1) := rfl

theorem B_eq : P.B k = nth P.n (k - 1) * (nth P.n k - nth P.n (k - 1)) * nth P.ya k * (nth P.ua k + P.i k)
    / (2 * nth P.n k * P.inv) := ite_isZero_div _ _

theorem Bp_eq : P.Bp k = nth P.n (k - 1) * (nth P.n k - nth P.n (k - 1)) * nth P.yb k * (nth P.ub k + P.ip k)
    / (2 * nth P.n k * P.inv) := ite_isZero_div _ _

theorem tscTerm_eq : P.tscTerm k = P.B k * (P.i k * P.i k) * P.hp := rfl
theorem ccTerm_eq : P.ccTerm k = P.B k * P.i k * P.ip k * P.hp := rfl
theorem tacTerm_eq : P.tacTerm k = P.B k * (P.ip k * P.ip k) * P.hp := rfl
theorem tpcTerm_eq : P.tpcTerm k =
    (nth P.n k - nth P.n (k - 1)) * nth P.C k * P.hp * P.inv / (2 * nth P.n k * nth P.n (k - 1)) := rfl
theorem dcTerm_eq : P.dcTerm k = P.hp * (P.Bp k * P.i k * P.ip k
    + 1 / 2 * (nth P.ub k * nth P.ub k - nth P.ub (k - 1) * nth P.ub (k - 1))) := by
  rw [← half_eq]; rfl
theorem dnFac_eq : P.dnFac k = nth P.dn (k - 1) - nth P.n (k - 1) / nth P.n k * nth P.dn k := rfl
theorem tachcTerm_spec_eq : P.tachcTerm_spec k = -nth P.ya k * P.i k / (P.nL * P.uL) * P.dnFac k := rfl
theorem tchcTerm_spec_eq : P.tchcTerm_spec k = -nth P.ya k * P.ip k / (P.nL * P.uL) * P.dnFac k := rfl

/-! the classical contributions over ℝ -/

theorem dUN_eq (L : Loc ℝ) : dUN L = L.u' / L.n' - L.u / L.n := rfl
theorem dInvN_eq (L : Loc ℝ) : dInvN L = 1 / L.n' - 1 / L.n := rfl
theorem dDisp_eq (L : Loc ℝ) : dDisp L = L.dn' / L.n' - L.dn / L.n := rfl
theorem SI_eq (L : Loc ℝ) : SI L = -(A L * A L * L.y * dUN L) := rfl
theorem SII_eq (L : Loc ℝ) : SII L = -(A L * Ab L * L.y * dUN L) := rfl
theorem SIII_eq (L : Loc ℝ) : SIII L = -(Ab L * Ab L * L.y * dUN L) := rfl
theorem SIV_eq (L : Loc ℝ) : SIV L = -(L.H * L.H * L.c * dInvN L) := rfl
/-- the refraction invariants at surface `k` are the stored incidence angles times the index -/
theorem A_loc : A (P.loc k) = nth P.n (k - 1) * P.i k := by
  rw [i_eq, mul_comm (nth P.C k), add_comm]; rfl
theorem Ab_loc : Ab (P.loc k) = nth P.n (k - 1) * P.ip k := by
  rw [ip_eq, mul_comm (nth P.C k), add_comm]; rfl

/-- what makes `B` (and, for the chief ray, `B̄`) classical: with the refraction invariant
`(n'-n)(u'+i) = -n n' Δ(u/n)`, so `-2H·B = n² y Δ(u/n)` -/
theorem B_refr {n n' c y u u' H : ℝ} (hn : n ≠ 0) (hn' : n' ≠ 0) (hH : H ≠ 0)
    (hR : n' * (u' + y * c) = n * (u + y * c)) :
    -2 * H * (n * (n' - n) * y * (u' + (c * y + u)) / (2 * n' * H)) = n * n * y * (u' / n' - u / n) := by
  field_simp
  linear_combination (-y) * hR

end equations

/-- slope after the surface from the refraction invariant `n'(u'+yc) = n(u+yc)` -/
theorem slope_after {n n' c y u u' : ℝ} (hn' : n' ≠ 0) (hR : n' * (u' + y * c) = n * (u + y * c)) :
    u' = n * (u + y * c) / n' - y * c := by
  field_simp
  linarith [hR]

/-! ### sums over the surfaces -/

theorem seidelOf_eq (P : Pre ℝ) (l : List ℝ) : P.seidelOf l = -2 * P.nL * P.uL * l.sum := by
  unfold Pre.seidelOf
  rw [pysum_eq]
  num_real
  ring

theorem arr_congr {P Q : Pre ℝ} (hN : P.N = Q.N) {f g : ℕ → ℝ}
    (h : ∀ k, 1 ≤ k → k ≤ P.N - 2 → f k = g k) : P.arr f = Q.arr g := by
  unfold Pre.arr
  rw [← hN]
  exact List.map_congr_left fun j hj => h (j + 1) j.succ_pos (List.mem_range.1 hj)

theorem sum_arr (P : Pre ℝ) (c : ℝ) (f g : ℕ → ℝ)
    (h : ∀ k, 1 ≤ k → k ≤ P.N - 2 → c * f k = g k) :
    c * (P.arr f).sum = (P.arr g).sum := by
  rw [← arr_congr (f := fun k => c * f k) rfl h]
  exact (List.sum_map_mul_left ..).symm

/-! ### entry `k` of the traced arrays -/

/-- default elements for `getD` -/
def dS : PSurf ℝ := ⟨.object, 0, 0, 0, 1, 1, false, false⟩
def dR : PRay ℝ := ⟨0, 0, 0⟩

theorem ptrace_getD_zero (s : PSurf ℝ) (ss : List (PSurf ℝ)) (r : PRay ℝ) :
    (ptrace r (s :: ss)).getD 0 dR = pstep r s := by
  simp [ptrace]

/-- entry `k+1` of a running fold `F b (s :: ss) = f b s :: F (f b s) ss` (the paraxial trace, the
running orientation) is `f` of entry `k` and element `k+1` -/
theorem scan_getD_succ {β γ : Type} {F : β → List γ → List β} {f : β → γ → β}
    (hF : ∀ b s ss, F b (s :: ss) = f b s :: F (f b s) ss) (dβ : β) (dγ : γ) :
    ∀ (ss : List γ) (b : β) (k : ℕ), k + 1 < ss.length →
      (F b ss).getD (k + 1) dβ = f ((F b ss).getD k dβ) (ss.getD (k + 1) dγ)
  | [], _, _, h => absurd h (Nat.not_lt_zero _)
  | [_], _, _, h => absurd (Nat.lt_of_succ_lt_succ h) (Nat.not_lt_zero _)
  | s :: s2 :: ss, b, 0, _ => by rw [hF, hF]; rfl
  | s :: s2 :: ss, b, k + 1, h => by
    rw [hF]; exact scan_getD_succ hF dβ dγ (s2 :: ss) (f b s) k (Nat.lt_of_succ_lt_succ h)

theorem ptrace_getD_succ (ss : List (PSurf ℝ)) (r : PRay ℝ) (k : ℕ) (h : k + 1 < ss.length) :
    (ptrace r ss).getD (k + 1) dR = pstep ((ptrace r ss).getD k dR) (ss.getD (k + 1) dS) :=
  scan_getD_succ (fun _ _ _ => rfl) dR dS ss r k h

/-- the model's Boolean mirror test is `C04.sgnIdx` -/
theorem sigmas_cons (σ : ℝ) (s : PSurf ℝ) (ss : List (PSurf ℝ)) :
    sigmas σ (s :: ss) = C04.sgnIdx σ s :: sigmas (C04.sgnIdx σ s) ss := by
  simp only [sigmas, C04.sgnIdx, Bool.and_eq_true, beq_iff_eq]
  rfl

theorem sigmas_getD_succ (ss : List (PSurf ℝ)) (σ : ℝ) (k : ℕ) (h : k + 1 < ss.length) :
    nth (sigmas σ ss) (k + 1) = C04.sgnIdx (nth (sigmas σ ss) k) (ss.getD (k + 1) dS) :=
  scan_getD_succ sigmas_cons 0 dS ss σ k h

theorem sigmas_pm : ∀ (ss : List (PSurf ℝ)) (σ : ℝ) (k : ℕ), (σ = 1 ∨ σ = -1) → k < ss.length →
    nth (sigmas σ ss) k = 1 ∨ nth (sigmas σ ss) k = -1
  | [], _, _, _, h => absurd h (Nat.not_lt_zero _)
  | s :: ss, σ, k, hσ, h => by
    have hs : C04.sgnIdx σ s = 1 ∨ C04.sgnIdx σ s = -1 := by
      unfold C04.sgnIdx; split_ifs
      · rw [neg_eq_iff_eq_neg, neg_inj]; exact hσ.symm
      · exact hσ
    rw [sigmas_cons]
    cases k with
    | zero => exact hs
    | succ k => exact sigmas_pm ss _ k hs (Nat.lt_of_succ_lt_succ h)

theorem nth_mulLists : ∀ (a b : List ℝ) (k : ℕ), nth (mulLists a b) k = nth a k * nth b k
  | [], _, _ => (zero_mul _).symm
  | _ :: _, [], _ => (mul_zero _).symm
  | _ :: _, _ :: _, 0 => rfl
  | _ :: a, _ :: b, k + 1 => nth_mulLists a b k

theorem getD_map' {β γ : Type} (f : β → γ) (l : List β) (k : ℕ) (d : β) :
    (l.map f).getD k (f d) = f (l.getD k d) := by
  rw [List.getD_eq_getElem?_getD, List.getD_eq_getElem?_getD, List.getElem?_map]
  cases l[k]? <;> rfl

theorem nth_ys (rs : List (PRay ℝ)) (k : ℕ) : nth (ys rs) k = (rs.getD k dR).y :=
  getD_map' PRay.y rs k dR

theorem nth_us (rs : List (PRay ℝ)) (k : ℕ) : nth (us rs) k = (rs.getD k dR).u :=
  getD_map' PRay.u rs k dR

theorem nth_curv (ss : List (PSurf ℝ)) (k : ℕ) : nth (curvatures ss) k = 1 / (ss.getD k dS).r := by
  rw [← getD_map' (fun s : PSurf ℝ => 1 / s.r)]
  exact congrArg _ (div_zero 1).symm

theorem nth_n2 (ss : List (PSurf ℝ)) (k : ℕ) (h : k < ss.length) :
    nth (ss.map (·.n2)) k = (ss.getD k dS).n2 := by
  rw [nth, List.getD_eq_getElem?_getD, List.getD_eq_getElem?_getD, List.getElem?_map,
    List.getElem?_eq_getElem h]
  rfl

theorem signedN_getD (ss : List (PSurf ℝ)) (σ : ℝ) (k : ℕ) (h : k < ss.length) :
    nth (mulLists (sigmas σ ss) (ss.map (·.n2))) k = nth (sigmas σ ss) k * (ss.getD k dS).n2 := by
  rw [nth_mulLists, nth_n2 ss k h]

theorem chained_getD : ∀ (ss : List (PSurf ℝ)) (n : ℝ) (k : ℕ), C04.Chained n ss → k + 1 < ss.length →
    (ss.getD (k + 1) dS).n1 = (ss.getD k dS).n2 ∧
    ((ss.getD (k + 1) dS).kind ≠ .standard ∨ (ss.getD (k + 1) dS).refl = true →
      (ss.getD (k + 1) dS).n2 = (ss.getD (k + 1) dS).n1)
  | [], _, _, _, h => absurd h (Nat.not_lt_zero _)
  | [_], _, _, _, h => absurd (Nat.lt_of_succ_lt_succ h) (Nat.not_lt_zero _)
  | _ :: _ :: _, _, 0, hc, _ => ⟨hc.2.2.1, hc.2.2.2.1⟩
  | s :: s2 :: ss, _, k + 1, hc, h => chained_getD (s2 :: ss) s.n2 k hc.2.2 (Nat.lt_of_succ_lt_succ h)

theorem getD_mem (ss : List (PSurf ℝ)) (k : ℕ) (h : k < ss.length) : ss.getD k dS ∈ ss := by
  rw [List.getD_eq_getElem?_getD, List.getElem?_eq_getElem h]
  exact List.getElem_mem h

/-- one ordinary surface with `dy = 0`: the record sits on the vertex plane and the refraction
(reflection) invariant holds with the orientation carried along -/
theorem refr_step (r : PRay ℝ) (s : PSurf ℝ) (σ : ℝ) (hdy : s.dy = 0) (hk : s.kind = .standard)
    (hn2 : s.n2 ≠ 0) (hmir : s.refl = true → s.n2 = s.n1) :
    (pstep r s).z = s.z ∧
    C04.sgnIdx σ s * s.n2 * ((pstep r s).u + (pstep r s).y * (1 / s.r))
      = σ * s.n1 * (r.u + (pstep r s).y * (1 / s.r)) := by
  unfold pstep C04.sgnIdx
  rw [hk]
  simp only [pstepStd, true_and]
  num_real
  rw [hdy]
  rcases Bool.eq_false_or_eq_true s.refl with h | h
  · simp only [h, if_true]
    rw [hmir h]
    refine ⟨by ring, ?_⟩
    simp only [div_eq_mul_inv]
    ring
  · simp only [h, Bool.false_eq_true, if_false]
    refine ⟨by ring, ?_⟩
    rw [mul_assoc σ, mul_add, ← mul_assoc s.n2 (1 / s.n2), mul_one_div_cancel hn2, one_mul]
    ring

theorem marginal_is_trace (S : PSys ℝ) : ∃ r, marginalRay S = ptrace r S.surfs := by
  unfold marginalRay
  split_ifs <;> exact ⟨_, rfl⟩

theorem chief_is_trace (S : PSys ℝ) : ∃ r, chiefRay S = ptrace r S.surfs := ⟨_, rfl⟩

theorem mulLists_sigmas_one : ∀ (ss : List (PSurf ℝ)) (l : List ℝ), (∀ s ∈ ss, s.refl = false) →
    l.length ≤ ss.length → mulLists (sigmas 1 ss) l = l
  | _, [], _, _ => List.zipWith_nil_right
  | [], _ :: _, _, h => absurd h (Nat.not_succ_le_zero _)
  | s :: ss, x :: l, hm, h => by
    have hs : C04.sgnIdx 1 s = 1 := by
      rw [C04.sgnIdx, if_neg]; rw [hm s List.mem_cons_self]; exact fun h => Bool.false_ne_true h.2
    rw [sigmas_cons, hs, mulLists, List.zipWith_cons_cons, one_mul]
    exact congrArg _ (mulLists_sigmas_one ss l (fun t ht => hm t (List.mem_cons_of_mem _ ht))
      (Nat.le_of_succ_le_succ h))

/-! ### the exact ray through one surface -/

/-- the algebra behind `realErr_closed` (`C`, `C'` the two cosines, `μ = n/n'`, `a = c h`).  With
`T = (1−μ) + μC − C'`: `key1` turns the numerator into `μT` and `key2` is `T·D1 = −2μ(1−μ)a²`. -/
theorem real_core (μ c h C C' : ℝ) (hC : C ^ 2 = 1 - (c * h) ^ 2) (hC' : C' ^ 2 = 1 - (μ * (c * h)) ^ 2)
    (hc : c ≠ 0) (hμ : 1 - μ ≠ 0) (hD1 : (1 + C) * (1 + C') - μ * (c * h) ^ 2 ≠ 0)
    (hD2 : C * C' + μ * (c * h) ^ 2 ≠ 0) :
    h + (1 / ((1 - μ) * c) - (1 - C) / c) * ((μ * (c * h) * C - C' * (c * h)) / (C' * C + μ * (c * h) * (c * h)))
      = -μ ^ 2 * c ^ 2 * h ^ 3 / 2
        * (4 / (((1 + C) * (1 + C') - μ * (c * h) ^ 2) * (C * C' + μ * (c * h) ^ 2))) := by
  have key1 : (μ + (1 - μ) * C) * (μ * C - C') =
      μ * ((1 - μ) + μ * C - C') - (1 - μ) * (C * C' + μ * (c * h) ^ 2) := by
    linear_combination ((1 - μ) * μ) * hC
  have key2 : ((1 - μ) + μ * C - C') * ((1 + C) * (1 + C') - μ * (c * h) ^ 2) = -2 * μ * (1 - μ) * (c * h) ^ 2 := by
    linear_combination (μ * (1 + C')) * hC - (1 + C) * hC'
  rw [show C' * C + μ * (c * h) * (c * h) = C * C' + μ * (c * h) ^ 2 by ring]
  generalize (1 + C) * (1 + C') - μ * (c * h) ^ 2 = d1 at *
  generalize C * C' + μ * (c * h) ^ 2 = d2 at *
  field_simp
  linear_combination (2 * h * d1) * key1 + (2 * h * μ) * key2

end C08
