import OptiModel.Model.Analysis
import OptiModel.Proofs.NumReal
/-! The NumPy helpers of `Model/Analysis.lean` over ℝ, in Mathlib's terms: `sumL` = `List.sum`, `mean`,
`npMax` = running maximum, `linspace` = an affine map of `List.range`; and the few facts about sums
of zipped lists that the analyses share. -/
namespace AnProofs
open Model Model.An

theorem sumFrom_eq (l : List ℝ) (acc : ℝ) : sumFrom acc l = acc + l.sum := by
  induction l generalizing acc with
  | nil => exact (add_zero acc).symm
  | cons a l ih => rw [sumFrom, ih, List.sum_cons]; exact add_assoc acc a l.sum

theorem sumL_eq (l : List ℝ) : sumL l = l.sum := (sumFrom_eq l 0).trans (zero_add _)

theorem mean_eq (l : List ℝ) : mean l = l.sum / (l.length : ℝ) := by
  unfold mean
  rw [sumL_eq, NumReal.ofNat_eq]

theorem length_pos_real {β : Type} (l : List β) (h : l ≠ []) : (0 : ℝ) < (l.length : ℝ) :=
  Nat.cast_pos.mpr (List.length_pos_of_ne_nil h)

/-- translating every sample translates the mean -/
theorem mean_map_sub (l : List ℝ) (a : ℝ) (h : l ≠ []) : mean (l.map (· - a)) = mean l - a := by
  simp only [sub_eq_add_neg]
  rw [mean_eq, mean_eq, List.length_map, List.sum_map_add, List.map_id', List.map_const', List.sum_replicate,
    nsmul_eq_mul, add_div, mul_div_cancel_left₀ _ (length_pos_real l h).ne']

theorem sum_nonneg_of_forall (l : List ℝ) (h : ∀ v ∈ l, 0 ≤ v) : 0 ≤ l.sum := List.sum_nonneg h

theorem mean_le_of_forall_le (l : List ℝ) (B : ℝ) (hne : l ≠ []) (h : ∀ v ∈ l, v ≤ B) : mean l ≤ B := by
  rw [mean_eq, div_le_iff₀ (length_pos_real l hne), mul_comm, ← nsmul_eq_mul]
  exact List.sum_le_card_nsmul l B h

/-! ### sums of zipped lists -/

/-- two ways of combining the same pair of lists, related term by term, give related lists -/
theorem forall₂_zipWith {β γ δ : Type} (R : δ → δ → Prop) (f g : β → γ → δ) : ∀ (xs : List β) (ys : List γ),
    (∀ a ∈ xs, ∀ b ∈ ys, R (f a b) (g a b)) → List.Forall₂ R (List.zipWith f xs ys) (List.zipWith g xs ys)
  | [], _, _ => List.Forall₂.nil
  | _ :: _, [], _ => List.Forall₂.nil
  | a :: xs, b :: ys, h =>
    List.Forall₂.cons (h a List.mem_cons_self b List.mem_cons_self)
      (forall₂_zipWith R f g xs ys fun a' ha b' hb => h a' (List.mem_cons_of_mem _ ha) b' (List.mem_cons_of_mem _ hb))

theorem zipWith_snd {β γ : Type} : ∀ (xs : List β) (ys : List γ), xs.length = ys.length →
    List.zipWith (fun _ b => b) xs ys = ys
  | [], [], _ => rfl
  | _ :: xs, b :: ys, h => by
    rw [List.zipWith_cons_cons, zipWith_snd xs ys (Nat.succ.inj h)]

/-! ### `npMax` over ℝ is the running maximum -/

theorem npMax_cons (a : ℝ) (l : List ℝ) : npMax (a :: l) = l.foldl max a := by
  show List.foldl _ a l = List.foldl max a l
  congr 1
  funext acc v
  rw [show isNaN acc = false from NumReal.isNaN_false acc, show isNaN v = false from NumReal.isNaN_false v,
    NumReal.lt_decide]
  simp only [Bool.false_eq_true, if_false, decide_eq_true_eq]
  exact (max_def_lt acc v).symm

/-- `np.max` of a non-empty array is an element of it and bounds all of them (`List.max?` is the same fold) -/
theorem npMax_spec (l : List ℝ) (h : l ≠ []) : npMax l ∈ l ∧ ∀ v ∈ l, v ≤ npMax l := by
  obtain ⟨a, t, rfl⟩ := List.exists_cons_of_ne_nil h
  rw [npMax_cons]
  exact List.max?_eq_some_iff.mp List.max?_cons'

theorem npMax_ge (l : List ℝ) (v : ℝ) (hv : v ∈ l) : v ≤ npMax l :=
  (npMax_spec l (List.ne_nil_of_mem hv)).2 v hv

theorem npMax_nonneg (l : List ℝ) (h : ∀ v ∈ l, 0 ≤ v) : 0 ≤ npMax l := by
  by_cases hl : l = []
  · rw [hl]; exact le_refl (0 : ℝ)
  · exact h _ (npMax_spec l hl).1

/-! ### `linspace` over ℝ -/

theorem linspace_step_last (a b : ℝ) (m : ℕ) : ((m + 1 : ℕ) : ℝ) * ((b - a) / ((m + 1 : ℕ) : ℝ)) + a = b := by
  rw [mul_div_cancel₀ _ (Nat.cast_ne_zero.mpr (Nat.succ_ne_zero m)), sub_add_cancel]

/-- `np.linspace(a, b, m+2)` is affine in the index: the last point, which the code sets to `b`, is
`a + (m+1)·step` as well -/
theorem linspace_eq (a b : ℝ) (m : ℕ) :
    linspace a b (m + 2) = (List.range (m + 2)).map fun i : ℕ => (i : ℝ) * ((b - a) / ((m + 1 : ℕ) : ℝ)) + a := by
  unfold linspace
  refine List.map_congr_left fun i _ => ?_
  rw [NumReal.ofNat_eq, NumReal.ofNat_eq]
  split_ifs with h
  · rw [h, linspace_step_last]
  · rfl

theorem linspace_length (a b : ℝ) (m : ℕ) : (linspace a b (m + 2)).length = m + 2 := by
  rw [linspace_eq, List.length_map, List.length_range]

theorem linspace_getD_affine (a b d : ℝ) (m i : ℕ) (hi : i < m + 2) :
    (linspace a b (m + 2)).getD i d = (i : ℝ) * ((b - a) / ((m + 1 : ℕ) : ℝ)) + a := by
  rw [linspace_eq, List.getD_eq_getElem?_getD, List.getElem?_map, List.getElem?_range hi]
  rfl

theorem linspace_mono (a b : ℝ) (hab : a ≤ b) : ∀ n, (linspace a b n).Pairwise (· ≤ ·)
  | 0 => List.Pairwise.nil
  | 1 => List.pairwise_singleton _ _
  | m + 2 => by
    rw [linspace_eq, List.pairwise_map]
    refine List.pairwise_lt_range.imp fun {i j} hij => ?_
    have hs : 0 ≤ (b - a) / ((m + 1 : ℕ) : ℝ) := div_nonneg (sub_nonneg.mpr hab) (Nat.cast_nonneg _)
    exact add_le_add_left (mul_le_mul_of_nonneg_right (Nat.cast_le.mpr hij.le) hs) a


/-! ### the analyses' own definitions over ℝ -/

theorem parabasalT_eq (y1 z1 M1 N1 y2 z2 M2 N2 : ℝ) :
    parabasalT y1 z1 M1 N1 y2 z2 M2 N2 = (M2 * z1 - M2 * z2 - N2 * y1 + N2 * y2) / (M1 * N2 - M2 * N1) := rfl

/-- `SpotDiagram.centroid` of a one-field data set that has a spot at the index asked for -/
theorem centroid_code_single (fd : List (Spot ℝ)) (p : ℕ) (hp : p < fd.length) :
    centroid_code [fd] p = some [centroidOf (fd.getD p default)] := by
  unfold centroid_code
  rw [if_pos (List.all_eq_true.mpr fun fd' hfd => decide_eq_true (by rwa [List.mem_singleton.mp hfd]))]
  rfl

/-- negating image height and reference height leaves a distortion term unchanged -/
theorem dist_term_neg (y p : ℝ) : 100 * (-y - -p) / -p = 100 * (y - p) / p := by
  rw [← neg_sub', mul_neg, neg_div_neg_eq]

/-- the forced-odd point count, for `num_points ≥ 2` -/
theorem oddPoints_eq (n : ℕ) (h2 : 2 ≤ n) : ∃ j, oddPoints n = 2 * j + 1 + 2 := by
  unfold oddPoints
  obtain ⟨k, rfl | rfl⟩ := Nat.even_or_odd' n
  · rw [if_pos (Nat.mul_mod_right 2 k)]
    cases k with
    | zero => exact absurd h2 (by decide)
    | succ j => exact ⟨j, rfl⟩
  · rw [if_neg (by rw [Nat.mul_add_mod]; decide)]
    cases k with
    | zero => exact absurd h2 (by decide)
    | succ j => exact ⟨j, rfl⟩

end AnProofs
