import OptiModel.Props.C14
import OptiModel.Proofs.TolerPresc
/-!
# C14, §6 continued: the protocol hypotheses `LensHyp` for *several* variables

This file continues `Props/C14.lean` (it imports it, and `Proofs/TolerPresc.lean`); its theorems are results
of property C14 in their own namespace `C14Multi`, not helpers of C14.  `Props/C14.lean` proves `C14.LensHyp`
(what `optimize_leaves_solution`, `undo_restores`, `optimise_undo_sequences`,
`not_worse_of_minimising_oracle`, `within_bounds_of_bounded_oracle` need from the lens) only for problems with
one variable.  Here it is proved

* abstractly (`frame_lensHyp`): for any lens type whose variables obey the read/write laws
  `TolerAbs.Frame.Lawful` (C15), any list of variables with pairwise distinct targets,
  `scale ∘ inverse_scale = id`, an `update_optics` that is the identity on the states that occur;
  the view is the observable lens (`frameView`: everything no variable writes + every variable's
  reading);
* for the concrete optimisation problem `Model.Optim.lensProblem vars ops` on `Model.Optim.Lens ℝ`
  (`multi_variable_hyp`): any number of radius (on curved surfaces) / conic / thickness / tilt /
  decentre / asphere-coefficient variables with distinct targets, scaled or not, on a lens without
  pickups and solves.  Index, polynomial and Chebyshev variables are not covered here (the first has
  its one-variable theorem `C14.index_variable_hyp`).

`Model.Optim.VKind` with `rawGet`/`rawSet` (optimisation layer) and `Model.VKind` with `Var.get`/`Var.set`
(tolerancing layer) are two transcriptions of the same Python classes `optimization/variable/*.py`.  The
read/write laws are proved for the second (`TolerPresc.frameP_lawful`); `kindOf`, `rawGet_eq`, `rawSet_eq`
below are the bridge that carries them to the first.
-/
set_option linter.unusedSectionVars false
namespace C14Multi
open TolerAbs

section Abstract
variable {σ ι α ρ : Type} [DecidableEq ι] [Num α]

/-- a `Variable` as a handle of the optimisation protocol -/
def handleOf (S : Model.Sys σ ι α) (v : Model.TVar ι α) : Model.Optim.Handle σ α :=
  ⟨v.value S, v.update S⟩

/-- the writes `for idvar, var in enumerate(variables): var.update(x[idvar])` performs -/
def writes (S : Model.Sys σ ι α) : List (Model.TVar ι α × α) → σ → σ
  | [], s => s
  | p :: l, s => writes S l (S.set s p.1.idx (p.1.un p.2))

def keys (l : List (Model.TVar ι α × α)) : List ι := l.map fun p => p.1.idx

theorem setAll_eq_writes (S : Model.Sys σ ι α) (vars : List (Model.TVar ι α)) (x : List α) (s : σ) :
    Model.Optim.setAll (vars.map (handleOf S)) x s = writes S (vars.zip x) s := by
  induction vars generalizing x s with
  | nil => simp [Model.Optim.setAll, writes]
  | cons v vs ih =>
    cases x with
    | nil => simp [Model.Optim.setAll, writes]
    | cons a xs =>
      have := ih xs (S.set s v.idx (v.un a))
      simp only [Model.Optim.setAll, List.map_cons, List.zip_cons_cons, List.foldl_cons, writes] at this ⊢
      exact this

/-- the observable lens: everything no variable writes, and what every existing variable reads -/
def frameView (F : Frame σ ι α ρ) (s : σ) : ρ × ({j // F.ok j} → α) :=
  (F.rest s, fun j => F.S.get s j.1)

theorem frameView_eq_iff (F : Frame σ ι α ρ) (s t : σ) :
    frameView F s = frameView F t ↔ F.rest s = F.rest t ∧ ∀ j, F.ok j → F.S.get s j = F.S.get t j := by
  constructor
  · intro h
    exact ⟨congrArg Prod.fst h, fun j hj => congrFun (congrArg Prod.snd h) ⟨j, hj⟩⟩
  · rintro ⟨h1, h2⟩
    exact Prod.ext h1 (funext fun j => h2 j.1 j.2)

variable {F : Frame σ ι α ρ}

/-- the writes keep the lens well formed and leave alone everything but their targets -/
theorem writes_reads (L : F.Lawful) : ∀ (l : List (Model.TVar ι α × α)) (s : σ), F.inv s →
    (∀ p ∈ l, F.ok p.1.idx) → Reads F s (· ∉ keys l) (writes F.S l s)
  | [], _, h, _ => reads_refl h _
  | p :: l, s, h, hk => by
    have hp := hk p List.mem_cons_self
    have g : Reads F s (· ≠ p.1.idx) (F.S.set s p.1.idx (p.1.un p.2)) :=
      reads_set L (reads_refl h fun _ => True) hp _ fun j hj => by rw [if_neg hj]; trivial
    refine reads_mono ?_ (reads_trans (writes_reads L l _ g.1 fun q hq => hk q (List.mem_cons_of_mem _ hq)) g)
    intro j hn
    simp only [keys, List.map_cons, List.mem_cons, not_or] at hn
    exact ⟨hn.2, hn.1⟩

theorem writes_inv (L : F.Lawful) : ∀ (l : List (Model.TVar ι α × α)) (s : σ), F.inv s →
    (∀ p ∈ l, F.ok p.1.idx) → F.inv (writes F.S l s) :=
  fun l s h hk => (writes_reads L l s h hk).1

/-- with distinct targets every written variable reads what was written -/
theorem writes_get_mem (L : F.Lawful) : ∀ (l : List (Model.TVar ι α × α)) (s : σ), F.inv s →
    (∀ p ∈ l, F.ok p.1.idx) → (keys l).Nodup → ∀ p ∈ l, F.S.get (writes F.S l s) p.1.idx = p.1.un p.2
  | [], _, _, _, _, p, hp => by simp at hp
  | q :: l, s, h, hk, hnd, p, hp => by
    have hq := hk q (by simp)
    have hk' : ∀ r ∈ l, F.ok r.1.idx := fun r hr => hk r (by simp [hr])
    have hs' := L.inv_set s _ (q.1.un q.2) h hq
    simp only [keys, List.map_cons, List.nodup_cons] at hnd
    rcases List.mem_cons.1 hp with rfl | hp
    · rw [writes, (writes_reads L l _ hs' hk').2.2 _ hq hnd.1, L.get_set s _ _ _ h hq hq, if_pos rfl]
    · exact writes_get_mem L l _ hs' hk' hnd.2 p hp

theorem keys_zip_subset (vars : List (Model.TVar ι α)) (x : List α) :
    ∀ j ∈ keys (vars.zip x), j ∈ vars.map (·.idx) := by
  intro j hj
  simp only [keys, List.mem_map] at hj ⊢
  obtain ⟨p, hp, rfl⟩ := hj
  exact ⟨p.1, (List.of_mem_zip hp).1, rfl⟩

theorem keys_zip_eq (vars : List (Model.TVar ι α)) (x : List α) (h : x.length = vars.length) :
    keys (vars.zip x) = vars.map (·.idx) := by
  have : (vars.zip x).map Prod.fst = vars := List.map_fst_zip (by omega)
  calc keys (vars.zip x) = ((vars.zip x).map Prod.fst).map (·.idx) := by simp [keys, List.map_map]
    _ = vars.map (·.idx) := by rw [this]

/-- the problem made of the variables `vars` of a frame -/
def frameProblem (F : Frame σ ι α ρ) (vars : List (Model.TVar ι α)) (upd : σ → σ)
    (ops : List (Model.Optim.Operand σ α)) : Model.Optim.Problem σ α :=
  { vars := vars.map (handleOf F.S), upd := upd, ops := ops }

/-- hypotheses on a list of variables and the invariant -/
structure VarsOK (F : Frame σ ι α ρ) (vars : List (Model.TVar ι α)) (upd : σ → σ) (I : σ → Prop) : Prop where
  inv : ∀ s, I s → F.inv s
  iset : ∀ s i a, I s → F.ok i → I (F.S.set s i a)
  upd_id : ∀ s, I s → upd s = s
  ok : ∀ v ∈ vars, F.ok v.idx
  sc_un : ∀ v ∈ vars, ∀ x, v.sc (v.un x) = x
  nodup : (vars.map (·.idx)).Nodup

theorem writes_I {vars : List (Model.TVar ι α)} {upd : σ → σ} {I : σ → Prop} (V : VarsOK F vars upd I) :
    ∀ (l : List (Model.TVar ι α × α)) (s : σ), I s → (∀ p ∈ l, F.ok p.1.idx) → I (writes F.S l s)
  | [], _, h, _ => h
  | p :: l, s, h, hk => writes_I V l _ (V.iset s _ _ h (hk p (by simp))) (fun q hq => hk q (by simp [hq]))

theorem zip_ok {vars : List (Model.TVar ι α)} {upd : σ → σ} {I : σ → Prop} (V : VarsOK F vars upd I)
    (x : List α) : ∀ p ∈ vars.zip x, F.ok p.1.idx :=
  fun p hp => V.ok p.1 (List.of_mem_zip hp).1

theorem applyX_eq {vars : List (Model.TVar ι α)} {upd : σ → σ} {I : σ → Prop} (V : VarsOK F vars upd I)
    (ops : List (Model.Optim.Operand σ α)) (x : List α) (s : σ) (hs : I s) :
    Model.Optim.applyX (frameProblem F vars upd ops) x s = writes F.S (vars.zip x) s := by
  show upd (Model.Optim.setAll (vars.map (handleOf F.S)) x s) = _
  rw [setAll_eq_writes, V.upd_id _ (writes_I V _ s hs (zip_ok V x))]

/-- off the targets the writes of `_fun(x)` change nothing … -/
theorem zip_reads (L : F.Lawful) {vars : List (Model.TVar ι α)} {upd : σ → σ} {I : σ → Prop}
    (V : VarsOK F vars upd I) (x : List α) (s : σ) (hs : I s) :
    Reads F s (· ∉ keys (vars.zip x)) (writes F.S (vars.zip x) s) :=
  writes_reads L _ s (V.inv _ hs) (zip_ok V x)

/-- … and at the targets, which are distinct, they read what a full vector wrote -/
theorem zip_get (L : F.Lawful) {vars : List (Model.TVar ι α)} {upd : σ → σ} {I : σ → Prop}
    (V : VarsOK F vars upd I) (x : List α) (hx : x.length = vars.length) (s : σ) (hs : I s) :
    ∀ p ∈ vars.zip x, F.S.get (writes F.S (vars.zip x) s) p.1.idx = p.1.un p.2 :=
  writes_get_mem L _ s (V.inv _ hs) (zip_ok V x) (by rw [keys_zip_eq vars x hx]; exact V.nodup)

/-- **frame_lensHyp**: the protocol hypotheses of C14 §4 hold for any number of lawful variables with
distinct targets; the view is the observable lens -/
theorem frame_lensHyp (L : F.Lawful) {vars : List (Model.TVar ι α)} {upd : σ → σ} {I : σ → Prop}
    (V : VarsOK F vars upd I) (ops : List (Model.Optim.Operand σ α))
    (hops : ∀ op ∈ ops, ∀ s t, frameView F s = frameView F t → op.value s = op.value t) :
    C14.LensHyp (frameProblem F vars upd ops) (frameView F) I where
  closed := by
    intro s x hs
    rw [applyX_eq V ops x s hs]
    exact writes_I V _ s hs (zip_ok V x)
  overwrites := by
    intro s x y hs hx
    have hx' : x.length = vars.length := by simpa [frameProblem] using hx
    have hs1 : I (writes F.S (vars.zip y) s) := writes_I V _ s hs (zip_ok V y)
    rw [applyX_eq V ops y s hs, applyX_eq V ops x _ hs1, applyX_eq V ops x s hs, frameView_eq_iff]
    refine ⟨by rw [(zip_reads L V x _ hs1).2.1, (zip_reads L V x s hs).2.1, (zip_reads L V y s hs).2.1], fun j hj => ?_⟩
    by_cases hm : j ∈ keys (vars.zip x)
    · obtain ⟨p, hp, rfl⟩ := List.mem_map.1 hm
      rw [zip_get L V x hx' _ hs1 p hp, zip_get L V x hx' s hs p hp]
    · rw [(zip_reads L V x _ hs1).2.2 j hj hm, (zip_reads L V x s hs).2.2 j hj hm]
      exact (zip_reads L V y s hs).2.2 j hj fun h =>
        hm (by rw [keys_zip_eq vars x hx']; exact keys_zip_subset vars y j h)
  readsBack := by
    intro s x hs hx
    have hx' : x.length = vars.length := by simpa [frameProblem] using hx
    rw [applyX_eq V ops x s hs]
    simp only [Model.Optim.values, frameProblem, List.map_map]
    apply List.ext_getElem
    · simp [hx']
    · intro n h1 h2
      simp only [List.getElem_map, Function.comp, handleOf, Model.TVar.value]
      have hn : n < vars.length := by simpa using h1
      have hmem : (vars[n], x[n]) ∈ vars.zip x := by
        rw [← List.getElem_zip (h := by simp [hx', hn])]; exact List.getElem_mem _
      have := zip_get L V x hx' s hs _ hmem
      simp only at this
      rw [this]
      exact V.sc_un _ (List.getElem_mem hn) _
  observes := by
    intro s t h
    refine ⟨?_, fun op hop => hops op hop s t h⟩
    have h2 := ((frameView_eq_iff F s t).1 h).2
    simp only [Model.Optim.values, frameProblem, List.map_map]
    apply List.map_congr_left
    intro v hv
    simp only [Function.comp, handleOf, Model.TVar.value]
    rw [h2 v.idx (V.ok v hv)]

/-- a lens on which every variable's `inverse_scale ∘ scale` is the identity is *settled*:
re-applying its own variable values changes nothing observable -/
theorem frame_settled (L : F.Lawful) {vars : List (Model.TVar ι α)} {upd : σ → σ} {I : σ → Prop}
    (V : VarsOK F vars upd I) (ops : List (Model.Optim.Operand σ α))
    (hun : ∀ v ∈ vars, ∀ x, v.un (v.sc x) = x) (s : σ) (hs : I s) :
    C14.Settled (frameProblem F vars upd ops) (frameView F) s := by
  unfold C14.Settled
  rw [applyX_eq V ops _ s hs, frameView_eq_iff]
  have hlen : (Model.Optim.values (frameProblem F vars upd ops) s).length = vars.length := by
    simp [Model.Optim.values, frameProblem]
  refine ⟨(zip_reads L V _ s hs).2.1, fun j hj => ?_⟩
  by_cases hm : j ∈ keys (vars.zip (Model.Optim.values (frameProblem F vars upd ops) s))
  · simp only [keys, List.mem_map] at hm
    obtain ⟨p, hp, rfl⟩ := hm
    rw [zip_get L V _ hlen s hs p hp]
    -- `p.2` is the value read through `p.1`
    have hp2 : p.2 = p.1.sc (F.S.get s p.1.idx) := by
      obtain ⟨n, hn, e⟩ := List.getElem_of_mem hp
      have hn' : n < vars.length := by simp at hn; omega
      rw [List.getElem_zip] at e
      rw [← e]
      simp [Model.Optim.values, frameProblem, handleOf, Model.TVar.value]
    rw [hp2]
    exact hun p.1 (List.of_mem_zip hp).1 _
  · exact (zip_reads L V _ s hs).2.2 j hj hm

end Abstract
/-! ## the concrete problem `Model.Optim.lensProblem` -/
section Concrete
open TolerPresc

abbrev OLens := Model.Optim.Lens ℝ
abbrev OVar := Model.Optim.Variable ℝ

/-- the frame of C15 (`TolerPresc.frameP`) lifted to the lens of the optimisation layer (prescription +
polynomial tables; no variable treated here writes the tables) -/
noncomputable def frameL (N : OLens) : Frame OLens Model.Var ℝ (RestT × List (List (List ℝ))) :=
  ⟨⟨fun L v => Model.Var.get L.presc v, fun L v a => { L with presc := Model.Var.set L.presc v a }⟩,
   okShape (shapes N.presc), fun L => invP N.presc L.presc, fun L => (restP L.presc, L.poly)⟩

theorem frameL_lawful (N : OLens) : (frameL N).Lawful where
  inv_set := fun s i a hs hi => (frameP_lawful N.presc).inv_set s.presc i a hs hi
  get_set := fun s i a j hs hi hj => (frameP_lawful N.presc).get_set s.presc i a j hs hi hj
  rest_set := fun s i a hs hi => congrArg (·, s.poly) ((frameP_lawful N.presc).rest_set s.presc i a hs hi)

/-- variable types covered here -/
def Plain : Model.Optim.VKind → Prop
  | .index => False
  | .poly _ _ => False
  | .cheb _ _ => False
  | _ => True

/-- the quantity a (plain) variable type addresses -/
def kindOf : Model.Optim.VKind → Model.VKind
  | .radius => .radius
  | .conic => .conic
  | .thickness => .thickness
  | .tilt true => .tiltX
  | .tilt false => .tiltY
  | .decenter true => .decX
  | .decenter false => .decY
  | .asphere i => .coeff i
  | .index => .index
  | .poly _ _ => .conic
  | .cheb _ _ => .conic

def targetOf (v : OVar) : Model.Var := ⟨kindOf v.kind, v.surf⟩

noncomputable def tvarOf (v : OVar) : Model.TVar Model.Var ℝ :=
  ⟨targetOf v, fun r => if v.scaling then v.kind.scale r else r,
   fun x => if v.scaling then v.kind.invScale x else x⟩

theorem rawGet_eq (K : Model.Optim.VKind) (hK : Plain K) (L : OLens) (k : Nat) :
    K.rawGet L k = Model.Var.get L.presc ⟨kindOf K, k⟩ := by
  cases K with
  | index => exact absurd hK id
  | poly i j => exact absurd hK id
  | cheb i j => exact absurd hK id
  | tilt b => cases b <;> rfl
  | decenter b => cases b <;> rfl
  | radius => rfl
  | conic => rfl
  | thickness => rfl
  | asphere i => rfl

theorem rawSet_eq (K : Model.Optim.VKind) (hK : Plain K) (L : OLens) (k : Nat) (a : ℝ) :
    K.rawSet L k a = { L with presc := Model.Var.set L.presc ⟨kindOf K, k⟩ a } := by
  cases K with
  | index => exact absurd hK id
  | poly i j => exact absurd hK id
  | cheb i j => exact absurd hK id
  | tilt b => cases b <;> rfl
  | decenter b => cases b <;> rfl
  | radius => rfl
  | conic => rfl
  | thickness => rfl
  | asphere i => rfl

/-- `Variable.toHandle` (what `lensProblem` uses) is the frame handle of the variable -/
theorem toHandle_eq (N : OLens) (v : OVar) (hK : Plain v.kind) :
    v.toHandle = handleOf (frameL N).S (tvarOf v) := by
  unfold Model.Optim.Variable.toHandle handleOf
  congr 1
  · funext L
    simp only [Model.Optim.Variable.value, Model.TVar.value, tvarOf, targetOf, frameL, rawGet_eq _ hK]
  · funext L x
    simp only [Model.Optim.Variable.update, Model.TVar.update, tvarOf, targetOf, frameL, rawSet_eq _ hK]

theorem lensProblem_eq (N : OLens) (vars : List OVar) (ops : List (Model.Optim.Operand OLens ℝ))
    (hplain : ∀ v ∈ vars, Plain v.kind) :
    Model.Optim.lensProblem vars ops =
      frameProblem (frameL N) (vars.map tvarOf) Model.Optim.lensUpdate ops := by
  unfold Model.Optim.lensProblem frameProblem
  congr 1
  rw [List.map_map]
  exact List.map_congr_left fun v hv => toHandle_eq N v (hplain v hv)

/-- the invariant: shape of the nominal lens `N` (C15's `invP`), no pickups, no solves -/
def MultiInv (N : OLens) (L : OLens) : Prop := invP N.presc L.presc ∧ C14.NoPick L

theorem sc_un_tvar (v : OVar) (x : ℝ) : (tvarOf v).sc ((tvarOf v).un x) = x := by
  simp only [tvarOf]
  cases v.scaling
  · simp
  · simp only [if_true]; exact C14.scale_invScale _ _

theorem un_sc_tvar (v : OVar) (x : ℝ) : (tvarOf v).un ((tvarOf v).sc x) = x := by
  simp only [tvarOf]
  cases v.scaling
  · simp
  · simp only [if_true]; exact C14.invScale_scale _ _

theorem varsOK (N : OLens) (vars : List OVar)
    (hok : ∀ v ∈ vars, okShape (shapes N.presc) (targetOf v)) (hnd : (vars.map targetOf).Nodup) :
    VarsOK (frameL N) (vars.map tvarOf) Model.Optim.lensUpdate (MultiInv N) where
  inv := fun s h => h.1
  iset := by
    intro s i a hs hi
    refine ⟨(frameL_lawful N).inv_set s i a hs.1 hi, ?_⟩
    -- pickups and solves are part of `rest`
    have hr : restP (Model.Var.set s.presc i a) = restP s.presc :=
      (frameP_lawful N.presc).rest_set s.presc i a hs.1 hi
    exact ⟨(congrArg (fun r : RestT => r.2.2.2.2.2.1) hr).trans hs.2.1,
      (congrArg (fun r : RestT => r.2.2.2.2.2.2.1) hr).trans hs.2.2⟩
  upd_id := fun s h => C14.lensUpdate_noPick s h.2
  ok := by
    intro v hv
    obtain ⟨u, hu, rfl⟩ := List.mem_map.1 hv
    exact hok u hu
  sc_un := by
    intro v hv
    obtain ⟨u, _, rfl⟩ := List.mem_map.1 hv
    exact sc_un_tvar u
  nodup := by
    rw [List.map_map]
    exact hnd

/-- **multi_variable_hyp**: the protocol hypotheses of C14 hold for `lensProblem vars ops` with any
number of radius / conic / thickness / tilt / decentre / asphere-coefficient variables (scaled or
not) that exist on the lens (`okShape`: surface in range, radius variables on curved surfaces,
coefficient number in range) and have pairwise distinct targets, on lenses of the shape of `N`
without pickups and solves; the operands may read the observable lens (`frameView`). -/
theorem multi_variable_hyp (N : OLens) (vars : List OVar) (ops : List (Model.Optim.Operand OLens ℝ))
    (hplain : ∀ v ∈ vars, Plain v.kind)
    (hok : ∀ v ∈ vars, okShape (shapes N.presc) (targetOf v)) (hnd : (vars.map targetOf).Nodup)
    (hops : ∀ op ∈ ops, ∀ s t, frameView (frameL N) s = frameView (frameL N) t → op.value s = op.value t) :
    C14.LensHyp (Model.Optim.lensProblem vars ops) (frameView (frameL N)) (MultiInv N) := by
  rw [lensProblem_eq N vars ops hplain]
  exact frame_lensHyp (frameL_lawful N) (varsOK N vars hok hnd) ops hops

/-- … and every such lens is a consistent start state -/
theorem multi_variable_settled (N : OLens) (vars : List OVar) (ops : List (Model.Optim.Operand OLens ℝ))
    (hplain : ∀ v ∈ vars, Plain v.kind)
    (hok : ∀ v ∈ vars, okShape (shapes N.presc) (targetOf v)) (hnd : (vars.map targetOf).Nodup)
    (L : OLens) (hL : MultiInv N L) :
    C14.Settled (Model.Optim.lensProblem vars ops) (frameView (frameL N)) L := by
  rw [lensProblem_eq N vars ops hplain]
  apply frame_settled (frameL_lawful N) (varsOK N vars hok hnd) ops _ L hL
  intro v hv
  obtain ⟨u, _, rfl⟩ := List.mem_map.1 hv
  exact un_sc_tvar u

/-- hence, for every oracle: on a problem with several variables `optimizeSpec` leaves the variables
at the returned vector, and optimise followed by undo gives back the observable start lens -/
theorem multi_variable_leaves_solution_and_undo (N : OLens) (vars : List OVar)
    (ops : List (Model.Optim.Operand OLens ℝ)) (hplain : ∀ v ∈ vars, Plain v.kind)
    (hok : ∀ v ∈ vars, okShape (shapes N.presc) (targetOf v)) (hnd : (vars.map targetOf).Nodup)
    (hops : ∀ op ∈ ops, ∀ s t, frameView (frameL N) s = frameView (frameL N) t → op.value s = op.value t)
    (o : Model.Optim.Oracle ℝ) (ho : C14.OSized o vars.length) (L : OLens) (hL : MultiInv N L) :
    Model.Optim.values (Model.Optim.lensProblem vars ops)
        (Model.Optim.optimizeSpec (Model.Optim.lensProblem vars ops) o { lens := L }).1.lens
      = (Model.Optim.optimizeSpec (Model.Optim.lensProblem vars ops) o { lens := L }).2.1 ∧
    frameView (frameL N) (Model.Optim.undoSpec (Model.Optim.lensProblem vars ops)
        (Model.Optim.optimizeSpec (Model.Optim.lensProblem vars ops) o { lens := L }).1).lens
      = frameView (frameL N) L := by
  have H := multi_variable_hyp N vars ops hplain hok hnd hops
  have ho' : C14.OSized o (Model.Optim.lensProblem vars ops).vars.length := by
    simpa [Model.Optim.lensProblem] using ho
  exact ⟨(C14.optimize_leaves_solution H o { lens := L } hL ho').1,
    (C14.undo_restores H L hL (multi_variable_settled N vars ops hplain hok hnd L hL) o ho').1⟩

/-! ### non-vacuity: a singlet with three variables -/

noncomputable def demoSurf (z r : ℝ) (gk : Model.GKind) (pre post : Nat) : Model.SRec ℝ :=
  ⟨.standard, gk, z, 0, 0, 0, 0, r, 0, [], pre, post, false, false⟩

/-- object plane, one refracting sphere (R = 50, n = 1.5), image plane -/
noncomputable def demoLens : OLens :=
  { presc := { surfs := [demoSurf (-10) 0 .plane 0 0, demoSurf 0 50 .standard 0 1, demoSurf 100 0 .plane 1 1],
               lastThickness := 0, mats := [1, 3/2], apValue := 1, maxYField := 0 } }

/-- scaled radius and unscaled conic of surface 1, scaled thickness behind surface 1 -/
noncomputable def demoVars : List OVar :=
  [{ kind := .radius, surf := 1 }, { kind := .conic, surf := 1, scaling := false }, { kind := .thickness, surf := 1 }]

theorem demo_inv : MultiInv demoLens demoLens := by
  refine ⟨⟨rfl, ?_, ?_⟩, rfl, rfl⟩
  · simp [Model.posAt, Model.positions, demoLens, demoSurf]
  · intro t ht
    simp only [demoLens, List.mem_cons, List.not_mem_nil, or_false] at ht
    rcases ht with rfl | rfl | rfl <;> simp [demoSurf, demoLens]

theorem demo_ok : ∀ v ∈ demoVars, okShape (shapes demoLens.presc) (targetOf v) := by
  intro v hv
  simp only [demoVars, List.mem_cons, List.not_mem_nil, or_false] at hv
  rcases hv with rfl | rfl | rfl
  · exact ⟨(Model.SKind.standard, Model.GKind.standard, false, false, 0), rfl, by simp⟩
  · show 1 < (shapes demoLens.presc).length
    simp [shapes, demoLens]
  · show 1 + 1 < (shapes demoLens.presc).length
    simp [shapes, demoLens]

theorem demo_nodup : (demoVars.map targetOf).Nodup := by
  simp [demoVars, targetOf, kindOf]

/-- all hypotheses of `multi_variable_hyp` hold for the singlet with its three variables -/
example (ops : List (Model.Optim.Operand OLens ℝ))
    (hops : ∀ op ∈ ops, ∀ s t, frameView (frameL demoLens) s = frameView (frameL demoLens) t →
      op.value s = op.value t) :
    C14.LensHyp (Model.Optim.lensProblem demoVars ops) (frameView (frameL demoLens)) (MultiInv demoLens) :=
  multi_variable_hyp demoLens demoVars ops
    (by intro v hv; simp only [demoVars, List.mem_cons, List.not_mem_nil, or_false] at hv
        rcases hv with rfl | rfl | rfl <;> trivial)
    demo_ok demo_nodup hops

/-- the operand hypothesis is satisfiable by an operand that really reads the lens: the radius of
surface 1 is a function of the observable lens -/
example : ∀ s t : OLens, frameView (frameL demoLens) s = frameView (frameL demoLens) t →
    Model.Var.get s.presc ⟨.radius, 1⟩ = Model.Var.get t.presc ⟨.radius, 1⟩ :=
  fun s t h => ((frameView_eq_iff _ s t).1 h).2 ⟨.radius, 1⟩
    (demo_ok { kind := .radius, surf := 1 } (by simp [demoVars]))

end Concrete
end C14Multi
