import OptiModel.Model.Zernike
/-! Exact tables for C10, checked by kernel computation (`decide +kernel`), on the whole range the three
families reach (Standard/Noll `n ≤ 14`, Fringe `n ≤ 19`): for all `m ≤ n ≤ 19` of equal parity (110 pairs)
the coefficients of `R_n^m` are integers below 2^53 and sum to 1 (the edge value); for all `m ≤ n ≤ n' ≤ 19`
of equal parity (440 triples) `∫₀¹ R_n^m R_n'^m r dr = δ/(2n+2)` in coefficient form.  The last two are
computed on the integer coefficient lists `radialZ`, the inner product scaled by `lcm40 = lcm(1..40)`, a
common multiple of the denominators `e + e' + 2 ≤ 40`: the kernel's integer arithmetic is several times
cheaper than its rational arithmetic.  `Proofs/Zernike.lean` carries them over to `radialCoeffs` and
`innerR` (`radialCoeffs_supported`, `innerR_castZ`).  No Mathlib. -/
namespace ZernikeTab
open Model.Zern

/-- every coefficient the code forms by a float division is an integer (the division is exact) -/
theorem coeff_integral_table : ∀ m : Nat, m < 20 → ∀ n : Nat, n < 20 → (m ≤ n ∧ (n - m) % 2 = 0) →
    ∀ k : Nat, k < sMax n m → (coeffFrac n m k).2 ∣ (coeffFrac n m k).1 ∧ (coeffFrac n m k).1 / (coeffFrac n m k).2 < 2^53 := by
  decide +kernel

/-- `coeffQ` with the division carried out in `ℕ` -/
def coeffZ (n m : Int) (k : Nat) : Int :=
  let f := coeffFrac n m k
  if k % 2 = 0 then ((f.1 / f.2 : Nat) : Int) else -((f.1 / f.2 : Nat) : Int)

def radialZ (n m : Int) : List (Nat × Int) :=
  (List.range (sMax n m)).map fun k => (expo n k, coeffZ n m k)

/-- `L · innerR p q` when every `e + e' + 2` divides `L` -/
def innerZ (L : Int) (p q : List (Nat × Int)) : Int :=
  (p.map fun a => a.2 * (q.map fun b => b.2 * (L / ((a.1 + b.1 + 2 : Nat) : Int))).sum).sum

/-- the least common multiple of 1, …, 40 -/
def lcm40 : Int := 5342931457063200

theorem lcm40_dvd : ∀ d : Nat, d < 41 → 0 < d → (d:Int) ∣ lcm40 := by decide +kernel

theorem ortho_table : ∀ n' : Nat, n' < 20 → ∀ n : Nat, n < n' + 1 → ∀ m : Nat, m < n + 1 →
    ((n - m) % 2 = 0 ∧ (n' - n) % 2 = 0) →
    innerZ lcm40 (radialZ n m) (radialZ n' m) * (2 * (n:Int) + 2) = if n = n' then lcm40 else 0 := by
  decide +kernel

theorem at_one_table : ∀ n : Nat, n < 20 → ∀ m : Nat, m < n + 1 → (n - m) % 2 = 0 →
    ((radialZ n m).map (·.2)).sum = 1 := by decide +kernel

end ZernikeTab
