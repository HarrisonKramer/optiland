import OptiModel.Model.Toler
/-!
Helper lemmas for C15 that need no arithmetic: the tolerancing loops over an arbitrary lens type `σ`
whose variables obey the read/write laws `Frame.Lawful`.  (`Proofs/TolerPresc.lean` shows that the
prescription state machine `Presc ℝ` obeys them.)
-/
set_option linter.unusedSectionVars false
namespace TolerAbs
open Model

variable {σ ι α β ρ : Type}

/-- a lens type with variables `S`, the variables that exist on the lens at hand (`ok`), a
well-formedness invariant of the lens (`inv`) and everything no variable writes (`rest`) -/
structure Frame (σ ι α ρ : Type) where
  S : Sys σ ι α
  ok : ι → Prop
  inv : σ → Prop
  rest : σ → ρ

/-- read/write laws: writing variable `i` is read back, leaves every other variable and the rest of
the lens alone, keeps the lens well formed -/
structure Frame.Lawful [DecidableEq ι] (F : Frame σ ι α ρ) : Prop where
  inv_set : ∀ s i a, F.inv s → F.ok i → F.inv (F.S.set s i a)
  get_set : ∀ s i a j, F.inv s → F.ok i → F.ok j →
    F.S.get (F.S.set s i a) j = if j = i then a else F.S.get s j
  rest_set : ∀ s i a, F.inv s → F.ok i → F.rest (F.S.set s i a) = F.rest s

/-- same observable prescription: every variable reads the same, the rest is the same -/
def Frame.Eqv (F : Frame σ ι α ρ) (s t : σ) : Prop :=
  F.inv s ∧ F.inv t ∧ F.rest s = F.rest t ∧ ∀ j, F.ok j → F.S.get s j = F.S.get t j

/-- a `Variable` that exists on the lens and whose `inverse_scale` undoes `scale` -/
def Frame.VarOK (F : Frame σ ι α ρ) (v : TVar ι α) : Prop := F.ok v.idx ∧ ∀ x, v.un (v.sc x) = x

/-- `Tolerancing` built on the nominal lens `N`: every variable valid, `initial_value` read on `N` -/
def Frame.TolWF (F : Frame σ ι α ρ) (T : Tol σ ι α β) (N : σ) : Prop :=
  ∀ p, p ∈ T.perts ++ T.comps → F.VarOK p.var ∧ p.init = p.var.value F.S N

def tolIdxs (T : Tol σ ι α β) : List ι := (T.perts ++ T.comps).map fun p => p.var.idx

/-- `s` differs from the nominal lens `N` at most in the perturbed and compensated variables
(by definition `Reads F N (· ∉ tolIdxs T) s`, see `Reads` below; the proofs pass one for the other) -/
def Frame.Agree (F : Frame σ ι α ρ) (T : Tol σ ι α β) (N s : σ) : Prop :=
  F.inv s ∧ F.rest s = F.rest N ∧ ∀ j, F.ok j → j ∉ tolIdxs T → F.S.get s j = F.S.get N j

/-- operands and the compensator optimiser are functions of the observable prescription -/
def Frame.Resp (F : Frame σ ι α ρ) (T : Tol σ ι α β) : Prop :=
  (∀ f, f ∈ T.operands → ∀ s t, F.Eqv s t → f s = f t) ∧ (∀ j s t, F.Eqv s t → T.oracle j s = T.oracle j t)

section
variable {F : Frame σ ι α ρ}

theorem eqv_refl {s : σ} (h : F.inv s) : F.Eqv s s := ⟨h, h, rfl, fun _ _ => rfl⟩
theorem eqv_symm {s t : σ} (h : F.Eqv s t) : F.Eqv t s :=
  ⟨h.2.1, h.1, h.2.2.1.symm, fun j hj => (h.2.2.2 j hj).symm⟩
theorem eqv_trans {s t u : σ} (h : F.Eqv s t) (g : F.Eqv t u) : F.Eqv s u :=
  ⟨h.1, g.2.1, h.2.2.1.trans g.2.2.1, fun j hj => (h.2.2.2 j hj).trans (g.2.2.2 j hj)⟩

variable [DecidableEq ι]

theorem eqv_set (L : F.Lawful) {s t : σ} (h : F.Eqv s t) {i : ι} (hi : F.ok i) (a : α) :
    F.Eqv (F.S.set s i a) (F.S.set t i a) := by
  refine ⟨L.inv_set s i a h.1 hi, L.inv_set t i a h.2.1 hi, ?_, ?_⟩
  · rw [L.rest_set s i a h.1 hi, L.rest_set t i a h.2.1 hi]; exact h.2.2.1
  · intro j hj
    rw [L.get_set s i a j h.1 hi hj, L.get_set t i a j h.2.1 hi hj]
    by_cases e : j = i
    · simp [e]
    · simp [e, h.2.2.2 j hj]

/-- `s` reads like the nominal lens `N` on the variables in `D` and in everything no variable writes
(`Agree T N` is the case `D = (· ∉ tolIdxs T)`; with `D` everything, `s` and `N` are `Eqv`) -/
def Reads (F : Frame σ ι α ρ) (N : σ) (D : ι → Prop) (s : σ) : Prop :=
  F.inv s ∧ F.rest s = F.rest N ∧ ∀ j, F.ok j → D j → F.S.get s j = F.S.get N j

theorem reads_mono {N s : σ} {D D' : ι → Prop} (h : ∀ j, D' j → D j) (g : Reads F N D s) : Reads F N D' s :=
  ⟨g.1, g.2.1, fun j hj hd => g.2.2 j hj (h j hd)⟩

theorem reads_refl {s : σ} (h : F.inv s) (D : ι → Prop) : Reads F s D s := ⟨h, rfl, fun _ _ _ => rfl⟩

theorem reads_trans {M N s : σ} {D D' : ι → Prop} (g : Reads F N D s) (g' : Reads F M D' N) :
    Reads F M (fun j => D j ∧ D' j) s :=
  ⟨g.1, g.2.1.trans g'.2.1, fun j hj hd => (g.2.2 j hj hd.1).trans (g'.2.2 j hj hd.2)⟩

/-- one write: afterwards the lens reads like `N` wherever it did before, except at `i`, and also at `i`
if the value written is the nominal one -/
theorem reads_set (L : F.Lawful) {N s : σ} {D D' : ι → Prop} (g : Reads F N D s) {i : ι} (hi : F.ok i) (a : α)
    (hD : ∀ j, D' j → if j = i then a = F.S.get N i else D j) : Reads F N D' (F.S.set s i a) := by
  refine ⟨L.inv_set s i a g.1 hi, (L.rest_set s i a g.1 hi).trans g.2.1, fun j hj hd => ?_⟩
  rw [L.get_set s i a j g.1 hi hj]
  have := hD j hd
  by_cases e : j = i
  · rw [if_pos e] at this ⊢
    rw [e]; exact this
  · rw [if_neg e] at this ⊢
    exact g.2.2 j hj this

theorem agree_of_eqv {T : Tol σ ι α β} {N s : σ} (h : F.Eqv s N) : F.Agree T N s :=
  ⟨h.1, h.2.2.1, fun j hj _ => h.2.2.2 j hj⟩

theorem agree_congr {T : Tol σ ι α β} {N s t : σ} (h : F.Eqv s t) (g : F.Agree T N t) : F.Agree T N s :=
  ⟨h.1, h.2.2.1.trans g.2.1, fun j hj hn => (h.2.2.2 j hj).trans (g.2.2 j hj hn)⟩

/-! ### reset -/

/-- resetting a variable of a well-formed `Tolerancing` writes its nominal value -/
theorem reads_reset (L : F.Lawful) {T : Tol σ ι α β} {N s : σ} (hT : F.TolWF T N) {D : ι → Prop}
    (g : Reads F N D s) {p : PVar ι α} (hp : p ∈ T.perts ++ T.comps) :
    Reads F N (fun j => j = p.var.idx ∨ D j) (PVar.reset F.S s p) := by
  obtain ⟨⟨hok, hun⟩, hinit⟩ := hT p hp
  refine reads_set L g hok _ fun j hd => ?_
  split
  · rw [hinit]; exact hun _
  · exact hd.resolve_left ‹_›

theorem reads_foldl (L : F.Lawful) {T : Tol σ ι α β} {N : σ} (hT : F.TolWF T N) :
    ∀ (l : List (PVar ι α)), (∀ p, p ∈ l → p ∈ T.perts ++ T.comps) → ∀ (D : ι → Prop) (s : σ),
      Reads F N D s → Reads F N (fun j => (∃ p, p ∈ l ∧ j = p.var.idx) ∨ D j) (l.foldl (PVar.reset F.S) s)
  | [], _, D, s, g => reads_mono (fun j h => h.resolve_left fun ⟨_, hp, _⟩ => List.not_mem_nil hp) g
  | p :: l, hl, D, s, g => by
    have g1 := reads_reset L hT g (hl p List.mem_cons_self)
    refine reads_mono ?_ (reads_foldl L hT l (fun q hq => hl q (List.mem_cons_of_mem _ hq)) _ _ g1)
    rintro j (⟨q, hq, e⟩ | h)
    · rcases List.mem_cons.mp hq with rfl | hq
      · exact Or.inr (Or.inl e)
      · exact Or.inl ⟨q, hq, e⟩
    · exact Or.inr (Or.inr h)

/-- `Tolerancing.reset()` brings every lens that differs from the nominal one only in perturbed and
compensated variables back to the nominal observable prescription -/
theorem reset_eqv (L : F.Lawful) {T : Tol σ ι α β} {N s : σ} (hN : F.inv N) (hT : F.TolWF T N)
    (h : F.Agree T N s) : F.Eqv (T.reset F.S s) N := by
  have g1 := reads_foldl L hT T.perts (fun p hp => List.mem_append_left _ hp) _ _ h
  have g2 := reads_foldl L hT T.comps (fun p hp => List.mem_append_right _ hp) _ _ g1
  refine ⟨g2.1, hN, g2.2.1, fun j hj => g2.2.2 j hj ?_⟩
  by_cases hm : j ∈ tolIdxs T
  · obtain ⟨p, hp, e⟩ := List.mem_map.mp hm
    rcases List.mem_append.mp hp with hp | hp
    · exact Or.inr (Or.inl ⟨p, hp, e.symm⟩)
    · exact Or.inl ⟨p, hp, e.symm⟩
  · exact Or.inr (Or.inr hm)

/-! ### the updates of one trial respect `Eqv` and `Agree` -/

theorem pert_mem {T : Tol σ ι α β} {i : Nat} {p : PVar ι α} (h : T.perts[i]? = some p) :
    p ∈ T.perts ++ T.comps := List.mem_append_left _ (List.mem_of_getElem? h)

/-- the two loops that write the lens during a trial (`applyVals`, `assignAll`) only `update` variables
of the `Tolerancing`: a relation between two lenses that every such update keeps is kept by the loop.
With `Eqv` the loops respect the observable prescription; a relation that ignores its second argument
is a property of one lens (`Agree`). -/
theorem applyVals_keeps {T : Tol σ ι α β} (R : σ → σ → Prop)
    (hR : ∀ s t (p : PVar ι α) x, p ∈ T.perts ++ T.comps → R s t →
      R (p.var.update F.S s x) (p.var.update F.S t x)) :
    ∀ (l : List (Nat × α)) (s t : σ), R s t → R (applyVals F.S T s l) (applyVals F.S T t l)
  | [], _, _, h => h
  | iv :: l, s, t, h => by
    unfold applyVals
    cases hp : T.perts[iv.1]? with
    | none => exact applyVals_keeps R hR l s t h
    | some p => exact applyVals_keeps R hR l _ _ (hR s t p _ (pert_mem hp) h)

theorem assignAll_keeps {T : Tol σ ι α β} (R : σ → σ → Prop)
    (hR : ∀ s t (p : PVar ι α) x, p ∈ T.perts ++ T.comps → R s t →
      R (p.var.update F.S s x) (p.var.update F.S t x)) :
    ∀ (ps : List (PVar ι α)) (xs : List α) (s t : σ), (∀ p, p ∈ ps → p ∈ T.perts ++ T.comps) → R s t →
      R (assignAll F.S ps xs s) (assignAll F.S ps xs t)
  | [], _, _, _, _, h => by simpa [assignAll] using h
  | _ :: _, [], _, _, _, h => by simpa [assignAll] using h
  | p :: ps, x :: xs, s, t, hm, h => by
    simp only [assignAll]
    exact assignAll_keeps R hR ps xs _ _ (fun q hq => hm q (List.mem_cons_of_mem _ hq))
      (hR s t p x (hm p List.mem_cons_self) h)

theorem eqv_step (L : F.Lawful) {T : Tol σ ι α β} {N : σ} (hT : F.TolWF T N) (s t : σ) (p : PVar ι α) (x : α)
    (hp : p ∈ T.perts ++ T.comps) (h : F.Eqv s t) : F.Eqv (p.var.update F.S s x) (p.var.update F.S t x) :=
  eqv_set L h (hT p hp).1.1 _

/-- `Agree` as a relation that ignores its second lens `_t`, in the shape `applyVals_keeps` and
`assignAll_keeps` ask for -/
theorem agree_step (L : F.Lawful) {T : Tol σ ι α β} {N : σ} (hT : F.TolWF T N) (s _t : σ) (p : PVar ι α) (x : α)
    (hp : p ∈ T.perts ++ T.comps) (h : F.Agree T N s) : F.Agree T N (p.var.update F.S s x) :=
  reads_set L h (hT p hp).1.1 _ fun j hn => by
    rw [if_neg fun e => hn (by rw [e]; exact List.mem_map.mpr ⟨p, hp, rfl⟩)]; exact hn

theorem applyCompensators_eqv (L : F.Lawful) {T : Tol σ ι α β} {N : σ} (hT : F.TolWF T N) (hR : F.Resp T)
    (j : Nat) {s t : σ} (h : F.Eqv s t) :
    F.Eqv (T.applyCompensators F.S j s).1 (T.applyCompensators F.S j t).1 ∧
    (T.applyCompensators F.S j s).2 = (T.applyCompensators F.S j t).2 := by
  unfold Tol.applyCompensators
  by_cases hc : T.comps.isEmpty
  · rw [if_pos hc, if_pos hc]; exact ⟨h, rfl⟩
  · rw [if_neg hc, if_neg hc]
    simp only
    rw [hR.2 j s t h]
    have e := assignAll_keeps F.Eqv (eqv_step L hT) T.comps (T.oracle j t) s t
      (fun p hp => List.mem_append_right _ hp) h
    refine ⟨e, List.map_congr_left fun p hp => ?_⟩
    show p.var.sc _ = p.var.sc _
    rw [e.2.2.2 _ (hT p (List.mem_append_right _ hp)).1.1]

theorem applyCompensators_agree (L : F.Lawful) {T : Tol σ ι α β} {N : σ} (hT : F.TolWF T N)
    (j : Nat) {s : σ} (h : F.Agree T N s) : F.Agree T N (T.applyCompensators F.S j s).1 := by
  unfold Tol.applyCompensators
  by_cases hc : T.comps.isEmpty
  · rw [if_pos hc]; exact h
  · rw [if_neg hc]
    exact assignAll_keeps (fun s _ => F.Agree T N s) (agree_step L hT) T.comps _ s s
      (fun p hp => List.mem_append_right _ hp) h

theorem evaluate_eqv {T : Tol σ ι α β} (hR : F.Resp T) {s t : σ} (h : F.Eqv s t) :
    T.evaluate s = T.evaluate t := by
  unfold Tol.evaluate
  exact List.map_congr_left fun f hf => hR.1 f hf s t h

/-! ### the loops -/
variable [Num α]

/-- every run that starts on a lens differing from nominal at most in the toleranced variables
produces the table of fresh evaluations on the nominal lens, ends on such a lens again, and moves
the samplers exactly as `drawTrials` -/
theorem runTrials_spec (L : F.Lawful) {T : Tol σ ι α β} {N : σ} (hN : F.inv N) (hT : F.TolWF T N)
    (hR : F.Resp T) :
    ∀ (trials : List (List Nat)) (j : Nat) (r : Run σ α), F.Agree T N r.lens →
      (runTrials F.S T j r trials).2 = specRows F.S T N j r.samplers r.stream trials ∧
      F.Agree T N (runTrials F.S T j r trials).1.lens ∧
      ((runTrials F.S T j r trials).1.samplers, (runTrials F.S T j r trials).1.stream) =
        (drawTrials T.perts.length r.samplers r.stream trials).1
  | [], _, r, h => ⟨rfl, h, rfl⟩
  | t :: ts, j, r, h => by
    have e0 := reset_eqv L hN hT h
    have e1 := applyVals_keeps F.Eqv (eqv_step L hT) (drawMany T.perts.length r.samplers r.stream t).2 _ _ e0
    have e2 := applyCompensators_eqv L hT hR j e1
    have a2 : F.Agree T N (trial F.S T j r t).1.lens :=
      applyCompensators_agree L hT j
        (applyVals_keeps (fun s _ => F.Agree T N s) (agree_step L hT) _ _ N (agree_of_eqv e0))
    have ih := runTrials_spec L hN hT hR ts (j+1) (trial F.S T j r t).1 a2
    have hstep : runTrials F.S T j r (t :: ts) =
        ((runTrials F.S T (j+1) (trial F.S T j r t).1 ts).1,
         (trial F.S T j r t).2 :: (runTrials F.S T (j+1) (trial F.S T j r t).1 ts).2) := rfl
    rw [hstep]
    refine ⟨?_, ih.2.1, ?_⟩
    · simp only
      rw [ih.1]
      simp only [specRows, trial]
      congr 1
      rw [evaluate_eqv hR e2.1, e2.2]
    · simp only
      rw [ih.2.2]; rfl

theorem runTrials_append (S : Sys σ ι α) (T : Tol σ ι α β) :
    ∀ (ts : List (List Nat)) (t : List Nat) (j : Nat) (r : Run σ α),
      runTrials S T j r (ts ++ [t]) =
        ((trial S T (j + ts.length) (runTrials S T j r ts).1 t).1,
         (runTrials S T j r ts).2 ++ [(trial S T (j + ts.length) (runTrials S T j r ts).1 t).2])
  | [], t, j, r => by simp [runTrials]
  | u :: ts, t, j, r => by
    simp only [List.cons_append, runTrials, List.length_cons]
    rw [runTrials_append S T ts t (j+1) (trial S T j r u).1]
    have : j + 1 + ts.length = j + (ts.length + 1) := by omega
    simp [this]

/-- perturbation values equal to the nominal values give back the nominal observable prescription:
each such write is a reset -/
theorem applyVals_nominal (L : F.Lawful) {T : Tol σ ι α β} {N : σ} (hT : F.TolWF T N) :
    ∀ (l : List (Nat × α)) (s : σ), F.Eqv s N →
      (∀ iv, iv ∈ l → ∃ p, T.perts[iv.1]? = some p ∧ iv.2 = p.init) → F.Eqv (applyVals F.S T s l) N
  | [], _, h, _ => h
  | iv :: l, s, h, hv => by
    unfold applyVals
    obtain ⟨p, hp, hi⟩ := hv iv List.mem_cons_self
    rw [hp, hi]
    have g := reads_reset L hT (D := fun _ => True) ⟨h.1, h.2.2.1, fun j hj _ => h.2.2.2 j hj⟩ (pert_mem hp)
    exact applyVals_nominal L hT l _ ⟨g.1, h.2.1, g.2.1, fun j hj => g.2.2 j hj (Or.inr trivial)⟩
      (fun q hq => hv q (List.mem_cons_of_mem _ hq))

/-! ### a scalar sampler records its value in every row -/

theorem specRows_scalar (S : Sys σ ι α) (T : Tol σ ι α β) (N : σ) (v : α) (h1 : T.perts.length = 1) :
    ∀ (n j : Nat) (st : List α) (row : Row α β),
      row ∈ specRows S T N j [Sampler.scalar v] st (List.replicate n [0]) → row.applied = [(0, v)]
  | 0, _, _, _, h => by simp [specRows] at h
  | n+1, j, st, row, h => by
    have hd : drawMany T.perts.length [Sampler.scalar v] st [0] = (([Sampler.scalar v], st), [(0, v)]) := by
      simp [drawMany, drawOne, h1, Sampler.sample]
    rw [List.replicate_succ] at h
    simp only [specRows, hd, List.mem_cons] at h
    rcases h with rfl | h
    · rfl
    · exact specRows_scalar S T N v h1 n (j+1) st row h

end

/-! ### range sampler -/
section Range
open scoped Num
variable [Num α]

theorem sampler_state_range (vs : List α) (st : List α) (i : Nat) :
    ((Sampler.range vs i).sample st).2.1 = .range vs ((if vs.length ≤ i then 0 else i) + 1) := rfl

end Range

end TolerAbs
