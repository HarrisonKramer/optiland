import OptiModel.Model.RayGen
import OptiModel.Proofs.NumReal
import Mathlib.Tactic.Ring
import Mathlib.Tactic.LinearCombination
import Mathlib.Tactic.Positivity
import Mathlib.Tactic.Linarith
import Mathlib.Tactic.NormNum
/-!
# The ray launch of `Model/RayGen.lean` over ℝ (for C03)

Each model function gets its equation over ℝ in Mathlib's notation once (`rayOrigin` and
`generateRay` per accepted configuration, `interp` per branch, `npMaxL` as a maximum, `sortBy` as a
sorted permutation); C03 argues from these.
-/
namespace Launch
open Model

theorem radians_eq (x : ℝ) : radians x = x * (Real.pi / 180) := by
  unfold radians; num_real; norm_num

/-! ### `rayOrigin` in the three accepted configurations -/

theorem rayOrigin_infinite (S : RGSys ℝ) (Hx Hy Px Py vx vy : ℝ)
    (hinf : S.psys.objInf = true) (hf : S.psys.fieldType = .angle) (ht : S.telecentric = false) :
    rayOrigin S Hx Hy Px Py vx vy = .ok
      (Px * EPD S.psys / 2 * vx
          + Real.tan (maxField S.fields * Hx * (Real.pi / 180)) * (startOffset S + EPL S.psys),
       Py * EPD S.psys / 2 * vy
          + -Real.tan (maxField S.fields * Hy * (Real.pi / 180)) * (startOffset S + EPL S.psys),
       posOf S.psys.surfs 1 - startOffset S) := by
  unfold rayOrigin
  simp only [hinf, hf, ht, if_true, Bool.false_eq_true, if_false, radians_eq]
  num_real

theorem rayOrigin_finite_height (S : RGSys ℝ) (Hx Hy Px Py vx vy : ℝ)
    (hinf : S.psys.objInf = false) (hf : S.psys.fieldType = .objectHeight) :
    rayOrigin S Hx Hy Px Py vx vy = .ok
      (maxField S.fields * Hx, maxField S.fields * Hy,
       (if S.objPlane then 0 else conicSag S.objR S.objK (maxField S.fields * Hx) (maxField S.fields * Hy))
         + posOf S.psys.surfs 0) := by
  unfold rayOrigin
  simp only [hinf, hf, Bool.false_eq_true, if_false]

theorem rayOrigin_finite_angle (S : RGSys ℝ) (Hx Hy Px Py vx vy : ℝ)
    (hinf : S.psys.objInf = false) (hf : S.psys.fieldType = .angle) :
    rayOrigin S Hx Hy Px Py vx vy = .ok
      (Real.tan (maxField S.fields * Hx * (Real.pi / 180)) * (EPL S.psys - posOf S.psys.surfs 0),
       -Real.tan (maxField S.fields * Hy * (Real.pi / 180)) * (EPL S.psys - posOf S.psys.surfs 0),
       posOf S.psys.surfs 0) := by
  unfold rayOrigin
  simp only [hinf, hf, Bool.false_eq_true, if_false, radians_eq]
  num_real

/-! ### insertion sort `sortBy` -/
section SortSec
variable {β : Type}

theorem insertBy_perm (p : ℝ × β) : ∀ l : List (ℝ × β), (insertBy p l).Perm (p :: l)
  | [] => by simp [insertBy]
  | q :: l => by
    unfold insertBy
    split
    · exact ((insertBy_perm p l).cons q).trans (List.Perm.swap p q l)
    · exact List.Perm.refl _

theorem sortBy_cons (p : ℝ × β) (l : List (ℝ × β)) : sortBy (p :: l) = insertBy p (sortBy l) := rfl

theorem sortBy_perm' (l : List (ℝ × β)) : (sortBy l).Perm l := by
  induction l with
  | nil => exact List.Perm.refl _
  | cons p l ih => rw [sortBy_cons]; exact (insertBy_perm p _).trans (ih.cons p)

theorem insertBy_sorted (p : ℝ × β) : ∀ l : List (ℝ × β), l.Pairwise (fun a b => a.1 ≤ b.1) →
    (insertBy p l).Pairwise (fun a b => a.1 ≤ b.1)
  | [], _ => by simp [insertBy]
  | q :: l, h => by
    rw [List.pairwise_cons] at h
    rw [insertBy]
    split_ifs with hq <;> rw [NumReal.lt_eq] at hq <;> rw [List.pairwise_cons]
    · refine ⟨fun r hr => ?_, insertBy_sorted p l h.2⟩
      rcases List.mem_cons.mp ((insertBy_perm p l).subset hr) with rfl | hr'
      exacts [hq.le, h.1 r hr']
    · refine ⟨fun r hr => ?_, List.pairwise_cons.mpr h⟩
      rcases List.mem_cons.mp hr with rfl | hr'
      exacts [not_lt.mp hq, (not_lt.mp hq).trans (h.1 r hr')]

theorem sortBy_sorted' (l : List (ℝ × β)) : (sortBy l).Pairwise (fun a b => a.1 ≤ b.1) := by
  induction l with
  | nil => exact List.Pairwise.nil
  | cons p l ih => rw [sortBy_cons]; exact insertBy_sorted p _ ih

/-- distinct keys: the result is strictly increasing -/
theorem sortBy_strict (l : List (ℝ × β)) (hd : (l.map (·.1)).Nodup) :
    (sortBy l).Pairwise (fun a b => a.1 < b.1) := by
  have hd' : ((sortBy l).map (·.1)).Nodup := ((sortBy_perm' l).map _).nodup_iff.mpr hd
  have h2 : (sortBy l).Pairwise (fun a b => a.1 ≠ b.1) := by
    have := hd'
    unfold List.Nodup at this
    rwa [List.pairwise_map] at this
  exact ((sortBy_sorted' l).and h2).imp (fun ⟨h1, h2⟩ => lt_of_le_of_ne h1 h2)

/-- distinct keys: the sorted list does not depend on the order of the input -/
theorem sortBy_eq_of_perm (l₁ l₂ : List (ℝ × β)) (hp : l₁.Perm l₂) (hd : (l₁.map (·.1)).Nodup) :
    sortBy l₁ = sortBy l₂ := by
  have hd2 : (l₂.map (·.1)).Nodup := (hp.map _).nodup_iff.mp hd
  refine List.Perm.eq_of_pairwise (le := fun a b => a.1 < b.1) ?_ (sortBy_strict l₁ hd)
    (sortBy_strict l₂ hd2) (((sortBy_perm' l₁).trans hp).trans (sortBy_perm' l₂).symm)
  intro a b _ _ h1 h2
  exact absurd h1 (not_lt.mpr h2.le)
end SortSec

/-! ### `npMaxL` is the maximum -/

/-- the step of `npMaxL` over ℝ -/
theorem lt_ite_eq_max (a b : ℝ) : (if Num.lt a b then b else a) = max a b := by
  by_cases h : a < b
  · rw [if_pos ((NumReal.lt_eq a b).mpr h), max_eq_right h.le]
  · rw [if_neg (mt (NumReal.lt_eq a b).mp h), max_eq_left (not_lt.1 h)]

theorem foldl_max_ge (l : List ℝ) : ∀ a : ℝ,
    a ≤ l.foldl (fun acc v => if Num.lt acc v then v else acc) a ∧
    (∀ x ∈ l, x ≤ l.foldl (fun acc v => if Num.lt acc v then v else acc) a) ∧
    (l.foldl (fun acc v => if Num.lt acc v then v else acc) a ∈ a :: l) := by
  induction l with
  | nil => intro a; simp
  | cons b l ih =>
    intro a
    rw [List.foldl_cons, lt_ite_eq_max]
    obtain ⟨i1, i2, i3⟩ := ih (max a b)
    refine ⟨(le_max_left a b).trans i1, fun x hx => ?_, ?_⟩
    · rcases List.mem_cons.mp hx with rfl | hx'
      exacts [(le_max_right a x).trans i1, i2 x hx']
    · rcases List.mem_cons.mp i3 with h3 | h3
      · rw [h3]; rcases max_choice a b with h | h <;> rw [h] <;> simp
      · exact List.mem_cons_of_mem _ (List.mem_cons_of_mem _ h3)

theorem npMaxL_ge (l : List ℝ) : ∀ x ∈ l, x ≤ npMaxL l := by
  cases l with
  | nil => intro x hx; simp at hx
  | cons a l =>
    intro x hx
    obtain ⟨i1, i2, _⟩ := foldl_max_ge l a
    rcases List.mem_cons.mp hx with rfl | hx'
    · exact i1
    · exact i2 x hx'

theorem npMaxL_mem (l : List ℝ) (h : l ≠ []) : npMaxL l ∈ l := by
  cases l with
  | nil => exact absurd rfl h
  | cons a l => exact (foldl_max_ge l a).2.2

theorem npMaxL_perm (l₁ l₂ : List ℝ) (hp : l₁.Perm l₂) : npMaxL l₁ = npMaxL l₂ := by
  by_cases h : l₁ = []
  · subst h; rw [List.Perm.nil_eq hp]
  · have h2 : l₂ ≠ [] := fun e => h (by subst e; exact List.Perm.eq_nil hp)
    exact le_antisymm (npMaxL_ge l₂ _ (hp.subset (npMaxL_mem l₁ h)))
      (npMaxL_ge l₁ _ (hp.symm.subset (npMaxL_mem l₂ h2)))

/-! ### `interp` -/

/-- `interp` on a table with at least two knots, over ℝ -/
theorem interp_cons_cons (x : ℝ) (p q : ℝ × ℝ) (rest : List (ℝ × ℝ)) :
    interp x (p :: q :: rest) =
      if x < p.1 then p.2
      else if x < q.1 then
        if x ≤ p.1 then p.2 else (q.2 - p.2) / (q.1 - p.1) * (x - p.1) + p.2
      else interp x (q :: rest) := by
  rw [interp]; num_real

/-- the chord from `a` to `b` over `[0, d]` stays between bounds of `a` and `b` -/
theorem chord_mem {lo hi a b d e : ℝ} (ha : lo ≤ a ∧ a ≤ hi) (hb : lo ≤ b ∧ b ≤ hi) (hd : 0 < d)
    (he0 : 0 ≤ e) (he1 : e ≤ d) : lo ≤ (b - a) / d * e + a ∧ (b - a) / d * e + a ≤ hi := by
  obtain ⟨w, hw⟩ : ∃ w, w = e / d := ⟨_, rfl⟩
  have hw0 : 0 ≤ w := hw ▸ div_nonneg he0 hd.le
  have hw1 : w ≤ 1 := hw ▸ (div_le_one hd).mpr he1
  rw [show (b - a) / d * e + a = a + w * (b - a) by rw [hw]; ring]
  exact ⟨by linear_combination mul_nonneg hw0 (sub_nonneg.2 hb.1) +
            mul_nonneg (sub_nonneg.2 hw1) (sub_nonneg.2 ha.1),
          by linear_combination mul_nonneg hw0 (sub_nonneg.2 hb.2) +
            mul_nonneg (sub_nonneg.2 hw1) (sub_nonneg.2 ha.2)⟩

/-- the interpolated value stays in the hull of the table values; no monotonicity of the knots is
needed (the code never divides by a non-positive knot distance on the branch it takes) -/
theorem interp_hull (x lo hi : ℝ) : ∀ (l : List (ℝ × ℝ)), l ≠ [] → (∀ p ∈ l, lo ≤ p.2 ∧ p.2 ≤ hi) →
    lo ≤ interp x l ∧ interp x l ≤ hi
  | [], h, _ => absurd rfl h
  | [p], _, hw => hw p List.mem_cons_self
  | p :: q :: rest, _, hw => by
      have hp := hw p List.mem_cons_self
      rw [interp_cons_cons]
      split_ifs with h1 h2 h3
      · exact hp
      · exact hp
      · exact chord_mem hp (hw q (List.mem_cons_of_mem _ List.mem_cons_self)) (by linarith)
          (by linarith) (by linarith)
      · exact interp_hull x lo hi (q :: rest) (List.cons_ne_nil _ _)
          (fun r hr => hw r (List.mem_cons_of_mem _ hr))

/-- right of (or at) the second knot the first knot is skipped -/
theorem interp_skip (x : ℝ) (a b : ℝ × ℝ) (rest : List (ℝ × ℝ)) (hab : a.1 < b.1) (hx : b.1 ≤ x) :
    interp x (a :: b :: rest) = interp x (b :: rest) := by
  rw [interp_cons_cons, if_neg (not_lt.mpr (hab.le.trans hx)), if_neg (not_lt.mpr hx)]

/-- at a knot of a strictly increasing table the table value is returned -/
theorem interp_at_knot : ∀ (l : List (ℝ × ℝ)), l.Pairwise (fun a b => a.1 < b.1) →
    ∀ p ∈ l, interp p.1 l = p.2
  | [], _, p, hp => absurd hp List.not_mem_nil
  | [a], _, p, hp => by rw [List.mem_singleton.mp hp]; rfl
  | a :: b :: rest, hs, p, hp => by
      rw [List.pairwise_cons] at hs
      have hab : a.1 < b.1 := hs.1 b List.mem_cons_self
      rcases List.mem_cons.mp hp with rfl | hp'
      · rw [interp_cons_cons, if_neg (lt_irrefl _), if_pos hab, if_pos le_rfl]
      · have hbp : b.1 ≤ p.1 := by
          rcases List.mem_cons.mp hp' with rfl | h
          · exact le_refl _
          · exact ((List.pairwise_cons.mp hs.2).1 p h).le
        rw [interp_skip _ a b rest hab hbp]
        exact interp_at_knot (b :: rest) hs.2 p hp'

/-- between two neighbouring knots `p`, `q` of a strictly increasing table (no knot strictly
between them) the value is the straight line through them -/
theorem interp_between (x : ℝ) (p q : ℝ × ℝ) : ∀ (l : List (ℝ × ℝ)), l.Pairwise (fun a b => a.1 < b.1) →
    p ∈ l → q ∈ l → p.1 < q.1 → (∀ r ∈ l, ¬ (p.1 < r.1 ∧ r.1 < q.1)) → p.1 ≤ x → x < q.1 →
    interp x l = p.2 + (x - p.1) / (q.1 - p.1) * (q.2 - p.2)
  | [], _, hp, _, _, _, _, _ => absurd hp List.not_mem_nil
  | [a], _, hp, hq, hpq, _, _, _ => by
      rw [List.mem_singleton.mp hp, List.mem_singleton.mp hq] at hpq; exact absurd hpq (lt_irrefl _)
  | a :: b :: rest, hs, hp, hq, hpq, hno, hx1, hx2 => by
      have hs' := List.pairwise_cons.mp hs
      have hab : a.1 < b.1 := hs'.1 b List.mem_cons_self
      rcases List.mem_cons.mp hp with rfl | hp'
      · -- p is the head; q must be the second knot
        have hqb : q = b := by
          rcases List.mem_cons.mp hq with rfl | hq'
          · exact absurd hpq (lt_irrefl _)
          · rcases List.mem_cons.mp hq' with h | h
            · exact h
            · exact absurd ⟨hab, (List.pairwise_cons.mp hs'.2).1 q h⟩
                (hno b (List.mem_cons_of_mem _ List.mem_cons_self))
        subst hqb
        rw [interp_cons_cons, if_neg (not_lt.mpr hx1), if_pos hx2]
        split_ifs with h3
        · rw [le_antisymm h3 hx1, sub_self, zero_div, zero_mul, add_zero]
        · ring
      · have hbp : b.1 ≤ p.1 := by
          rcases List.mem_cons.mp hp' with rfl | h
          · exact le_refl _
          · exact ((List.pairwise_cons.mp hs'.2).1 p h).le
        have hq' : q ∈ b :: rest := by
          rcases List.mem_cons.mp hq with rfl | h
          · exact absurd (lt_of_lt_of_le hab hbp) (not_lt.mpr hpq.le)
          · exact h
        rw [interp_skip _ a b rest hab (le_trans hbp hx1)]
        exact interp_between x p q (b :: rest) hs'.2 hp' hq' hpq
          (fun r hr => hno r (List.mem_cons_of_mem _ hr)) hx1 hx2

/-- same, including the right end point -/
theorem interp_between_closed (x : ℝ) (p q : ℝ × ℝ) (l : List (ℝ × ℝ))
    (hs : l.Pairwise (fun a b => a.1 < b.1)) (hp : p ∈ l) (hq : q ∈ l) (hpq : p.1 < q.1)
    (hno : ∀ r ∈ l, ¬ (p.1 < r.1 ∧ r.1 < q.1)) (hx1 : p.1 ≤ x) (hx2 : x ≤ q.1) :
    interp x l = p.2 + (x - p.1) / (q.1 - p.1) * (q.2 - p.2) := by
  rcases lt_or_eq_of_le hx2 with h | h
  · exact interp_between x p q l hs hp hq hpq hno hx1 h
  · rw [h, interp_at_knot l hs q hq]
    rw [div_self (sub_ne_zero.2 hpq.ne'), one_mul, add_sub_cancel]

/-! ### the knot table of `get_vig_factor` -/

/-- the table `get_vig_factor` hands to `np.interp`: keys `y / max_y_field` (all 0 when
`max_y_field == 0`) of the fields sorted by `y`, values the component `sel` of `(vx, vy)` -/
noncomputable def vigKnots (fs : List (FieldRec ℝ)) (sel : ℝ × ℝ → ℝ) : List (ℝ × ℝ) :=
  (sortBy (fs.map fun f => (f.y, (f.vx, f.vy)))).map fun p =>
    (if npMaxL (fs.map (·.y)) = 0 then 0 else p.1 / npMaxL (fs.map (·.y)), sel p.2)

theorem vigFactor_eq (fs : List (FieldRec ℝ)) (Hx Hy : ℝ) :
    vigFactor fs Hx Hy = (interp (Real.sqrt (Hx * Hx + Hy * Hy)) (vigKnots fs Prod.fst),
                          interp (Real.sqrt (Hx * Hx + Hy * Hy)) (vigKnots fs Prod.snd)) := by
  unfold vigFactor vigKnots
  num_real
  by_cases h : npMaxL (fs.map (·.y)) = 0
  · simp only [if_pos h, List.zip_map']
  · simp only [if_neg h, List.zip_map']

theorem keys_map (fs : List (FieldRec ℝ)) :
    (fs.map fun f => (f.y, (f.vx, f.vy))).map (·.1) = fs.map (·.y) := by
  rw [List.map_map]; rfl

theorem vigKnots_ne_nil (fs : List (FieldRec ℝ)) (sel : ℝ × ℝ → ℝ) (h : fs ≠ []) :
    vigKnots fs sel ≠ [] := by
  intro e
  have := congrArg List.length e
  unfold vigKnots at this
  rw [List.length_map, (sortBy_perm' _).length_eq, List.length_map] at this
  exact h (List.length_eq_zero_iff.mp this)

/-- every table value is the factor of a defined field -/
theorem vigKnots_value (fs : List (FieldRec ℝ)) (sel : ℝ × ℝ → ℝ) (p : ℝ × ℝ) (hp : p ∈ vigKnots fs sel) :
    ∃ f ∈ fs, p.2 = sel (f.vx, f.vy) ∧
      p.1 = (if npMaxL (fs.map (·.y)) = 0 then 0 else f.y / npMaxL (fs.map (·.y))) := by
  unfold vigKnots at hp
  obtain ⟨s, hs, rfl⟩ := List.mem_map.mp hp
  have hs' := (sortBy_perm' _).subset hs
  obtain ⟨f, hf, rfl⟩ := List.mem_map.mp hs'
  exact ⟨f, hf, rfl, rfl⟩

/-- with a non-zero largest `y` the keys are `y_f / max_y` -/
theorem vigKnots_key (fs : List (FieldRec ℝ)) (sel : ℝ × ℝ → ℝ) (hm : npMaxL (fs.map (·.y)) ≠ 0)
    (r : ℝ × ℝ) (hr : r ∈ vigKnots fs sel) : ∃ e ∈ fs, r.1 = e.y / npMaxL (fs.map (·.y)) := by
  obtain ⟨e, he, -, hk⟩ := vigKnots_value fs sel r hr
  exact ⟨e, he, by rw [hk, if_neg hm]⟩

/-- a pair that each of the two tables returns through its selector is the pair of factors -/
theorem vigFactor_of_sel (fs : List (FieldRec ℝ)) (Hx Hy : ℝ) (v : ℝ × ℝ)
    (h : ∀ sel : ℝ × ℝ → ℝ, interp (Real.sqrt (Hx * Hx + Hy * Hy)) (vigKnots fs sel) = sel v) :
    vigFactor fs Hx Hy = v := by
  rw [vigFactor_eq, h, h]

/-- every defined field has its knot -/
theorem vigKnots_mem (fs : List (FieldRec ℝ)) (sel : ℝ × ℝ → ℝ) (f : FieldRec ℝ) (hf : f ∈ fs)
    (hm : npMaxL (fs.map (·.y)) ≠ 0) :
    (f.y / npMaxL (fs.map (·.y)), sel (f.vx, f.vy)) ∈ vigKnots fs sel := by
  unfold vigKnots
  refine List.mem_map.mpr ⟨(f.y, (f.vx, f.vy)), (sortBy_perm' _).symm.subset (List.mem_map.mpr ⟨f, hf, rfl⟩), ?_⟩
  simp only [hm, if_false]

/-- distinct `y` and a positive largest `y`: the keys are strictly increasing -/
theorem vigKnots_strict (fs : List (FieldRec ℝ)) (sel : ℝ × ℝ → ℝ) (hd : (fs.map (·.y)).Nodup)
    (hm : 0 < npMaxL (fs.map (·.y))) :
    (vigKnots fs sel).Pairwise (fun a b => a.1 < b.1) := by
  unfold vigKnots
  rw [List.pairwise_map]
  have hs := sortBy_strict (fs.map fun f => (f.y, (f.vx, f.vy))) (by rw [keys_map]; exact hd)
  refine hs.imp ?_
  intro a b hab
  simp only [ne_of_gt hm, if_false]
  exact div_lt_div_of_pos_right hab hm

theorem vigKnots_perm (fs₁ fs₂ : List (FieldRec ℝ)) (sel : ℝ × ℝ → ℝ) (hp : fs₁.Perm fs₂)
    (hd : (fs₁.map (·.y)).Nodup) : vigKnots fs₁ sel = vigKnots fs₂ sel := by
  unfold vigKnots
  rw [npMaxL_perm _ _ (hp.map (·.y)),
    sortBy_eq_of_perm _ _ (hp.map fun f => (f.y, (f.vx, f.vy))) (by rw [keys_map]; exact hd)]

/-! ### the launch direction in terms of the difference vector `(a, b, c)` aim − origin -/

/- Squares are written `^(2:ℕ)` in this section: a bare `^2` under `.ok ⟨…⟩` or in a long conjunction
elaborates an order of magnitude slower (same term). -/
theorem sq_sum_pos {c : ℝ} (a b : ℝ) (hc : c ≠ 0) : 0 < a^(2:ℕ) + b^(2:ℕ) + c^(2:ℕ) := by positivity

/-- algebra of `mag`, `L M N`: unit vector, and `mag · dir` is the difference vector -/
theorem launch_core {a b c m : ℝ} (hm : Real.sqrt (a^(2:ℕ) + b^(2:ℕ) + c^(2:ℕ)) = m) (h : 0 < a^(2:ℕ) + b^(2:ℕ) + c^(2:ℕ)) :
    0 < m ∧ (a/m)^(2:ℕ) + (b/m)^(2:ℕ) + (c/m)^(2:ℕ) = 1 ∧ m * (a/m) = a ∧ m * (b/m) = b ∧ m * (c/m) = c := by
  have h0 : 0 < m := hm ▸ Real.sqrt_pos.mpr h
  refine ⟨h0, ?_, mul_div_cancel₀ a h0.ne', mul_div_cancel₀ b h0.ne', mul_div_cancel₀ c h0.ne'⟩
  rw [div_pow, div_pow, div_pow, ← add_div, ← add_div, ← hm, Real.sq_sqrt h.le, div_self h.ne']

/-- the axial direction cosine of the marginal cone of object NA `s`: with `c = √(1 - s²)/s` and a
unit pupil vector `(a, b)`, `N² = c²/(1 + c²) = 1 - s²` -/
theorem objectNA_cone {a b c m s : ℝ} (hs0 : 0 < s) (hs1 : s < 1) (hab : a^(2:ℕ) + b^(2:ℕ) = 1)
    (hc : Real.sqrt (1 - s * s) / s = c) (hm : Real.sqrt (a^(2:ℕ) + b^(2:ℕ) + c^(2:ℕ)) = m) :
    (c / m)^(2:ℕ) = 1 - s^(2:ℕ) := by
  have hc2 : c^(2:ℕ) * s^(2:ℕ) = 1 - s * s := by
    rw [← hc, div_pow, Real.sq_sqrt (sub_nonneg.2 (mul_le_one₀ hs1.le hs0.le hs1.le)),
      div_mul_cancel₀ _ (pow_ne_zero 2 hs0.ne')]
  rw [← hm, div_pow, Real.sq_sqrt (by positivity), hab, div_eq_iff (by positivity)]
  linear_combination hc2

/-! ### `generateRay` once the origin `(x0, y0, z0)` is known, with `(a, b, c)` = aim − origin and
`m` its length -/

/-- non-telecentric branch: aim point `(Px·EPD·vx/2, Py·EPD·vy/2, EPL)`, `vx = 1 - vig.1` -/
theorem generateRay_nontele_dir (S : RGSys ℝ) (Hx Hy Px Py x0 y0 z0 a b c m : ℝ)
    (hx : S.fields.any (fun f => !(Num.isZero f.x)) = false) (ht : S.telecentric = false)
    (ho : rayOrigin S Hx Hy Px Py (1 - (vigFactor S.fields Hx Hy).1) (1 - (vigFactor S.fields Hx Hy).2)
        = .ok (x0, y0, z0))
    (ha : Px * EPD S.psys * (1 - (vigFactor S.fields Hx Hy).1) / 2 - x0 = a)
    (hb : Py * EPD S.psys * (1 - (vigFactor S.fields Hx Hy).2) / 2 - y0 = b)
    (hc : EPL S.psys - z0 = c) (hm : Real.sqrt (a^(2:ℕ) + b^(2:ℕ) + c^(2:ℕ)) = m) :
    generateRay S Hx Hy Px Py = .ok ⟨x0, y0, z0, a / m, b / m, c / m, 1, 0⟩ := by
  unfold generateRay
  simp only [hx, Bool.false_eq_true, if_false, ht, ho, ← hm, ← ha, ← hb, ← hc, sq, NumReal.sub_eq,
    NumReal.add_eq, NumReal.mul_eq, NumReal.div_eq, NumReal.two_eq, NumReal.one_eq, NumReal.zero_eq,
    NumReal.sqrt_eq]

/-- telecentric branch (finite object, object-height fields, object-NA aperture) -/
theorem generateRay_tele_dir (S : RGSys ℝ) (Hx Hy Px Py x0 y0 z0 a b c m : ℝ)
    (hx : S.fields.any (fun f => !(Num.isZero f.x)) = false) (ht : S.telecentric = true)
    (hf : S.psys.fieldType = .objectHeight) (hap : S.psys.apType = .objectNA)
    (ho : rayOrigin S Hx Hy Px Py (1 - (vigFactor S.fields Hx Hy).1) (1 - (vigFactor S.fields Hx Hy).2)
        = .ok (x0, y0, z0))
    (ha : Px * (1 - (vigFactor S.fields Hx Hy).1) + x0 - x0 = a)
    (hb : Py * (1 - (vigFactor S.fields Hx Hy).2) + y0 - y0 = b)
    (hc : Real.sqrt (1 - S.psys.apValue * S.psys.apValue) / S.psys.apValue + z0 - z0 = c)
    (hm : Real.sqrt (a^(2:ℕ) + b^(2:ℕ) + c^(2:ℕ)) = m) :
    generateRay S Hx Hy Px Py = .ok ⟨x0, y0, z0, a / m, b / m, c / m, 1, 0⟩ := by
  unfold generateRay
  simp only [hx, Bool.false_eq_true, if_false, ht, if_true, hf, hap, ho, ← hm, ← ha, ← hb, ← hc, sq,
    NumReal.sub_eq, NumReal.add_eq, NumReal.mul_eq, NumReal.div_eq, NumReal.two_eq, NumReal.one_eq,
    NumReal.zero_eq, NumReal.sqrt_eq]

/-- infinite object, angle fields, not telecentric: the launch in terms of the field tangents
`tx`, `ty` and `D = offset + EPL` -/
theorem generateRay_infinite (S : RGSys ℝ) (Hx Hy Px Py tx ty D m : ℝ)
    (hx : S.fields.any (fun f => !(Num.isZero f.x)) = false)
    (hinf : S.psys.objInf = true) (hf : S.psys.fieldType = .angle) (ht : S.telecentric = false)
    (htx : Real.tan (maxField S.fields * Hx * (Real.pi / 180)) = tx)
    (hty : Real.tan (maxField S.fields * Hy * (Real.pi / 180)) = ty)
    (hD : startOffset S + EPL S.psys = D)
    (hm : Real.sqrt ((-(tx * D))^(2:ℕ) + (ty * D)^(2:ℕ) + (D - posOf S.psys.surfs 1)^(2:ℕ)) = m) :
    generateRay S Hx Hy Px Py = .ok
      ⟨Px * EPD S.psys / 2 * (1 - (vigFactor S.fields Hx Hy).1) + tx * D,
       Py * EPD S.psys / 2 * (1 - (vigFactor S.fields Hx Hy).2) + -ty * D,
       posOf S.psys.surfs 1 - startOffset S,
       -(tx * D) / m, ty * D / m, (D - posOf S.psys.surfs 1) / m, 1, 0⟩ := by
  subst htx hty hD
  exact generateRay_nontele_dir S Hx Hy Px Py _ _ _ _ _ _ m hx ht
    (rayOrigin_infinite S Hx Hy Px Py _ _ hinf hf ht) (by ring) (by ring) (by ring) hm

theorem generateRay_origin_error (S : RGSys ℝ) (Hx Hy Px Py : ℝ) (e : GenErr)
    (hx : S.fields.any (fun f => !(Num.isZero f.x)) = false)
    (ho : rayOrigin S Hx Hy Px Py (1 - (vigFactor S.fields Hx Hy).1) (1 - (vigFactor S.fields Hx Hy).2)
        = .error e) :
    generateRay S Hx Hy Px Py = .error e := by
  unfold generateRay
  simp only [hx, Bool.false_eq_true, if_false, NumReal.sub_eq, NumReal.one_eq, ho]

theorem generateRay_fields_error (S : RGSys ℝ) (Hx Hy Px Py : ℝ)
    (hx : S.fields.any (fun f => !(Num.isZero f.x)) = true) :
    generateRay S Hx Hy Px Py = .error .notImplemented := by
  unfold generateRay
  rw [if_pos hx]

/-! ### `Optic.trace` with a named distribution

`Optic.trace(Hx, Hy, wavelength, num_rays, 'name')` (optic.py 422–430) does
`vx, vy = get_vig_factor(Hx, Hy)`; `distribution.generate_points(num_rays, vx, vy)` — every named
distribution multiplies its raw points `(px, py)` (the model's `dist*`) by `(1 - vx, 1 - vy)` —;
`Px = distribution.x * (1 - vx)`; `generate_rays(Hx, Hy, Px, Py)`.  The model file has no entry for it
(the driver compares `generateRay` and `genericLaunch` only); this is its transcription for one raw
distribution point, next to `genericLaunch`. -/
noncomputable def traceLaunch (S : RGSys ℝ) (Hx Hy px py : ℝ) : Except GenErr (Ray ℝ) :=
  generateRay S Hx Hy
    (px * (1 - (vigFactor S.fields Hx Hy).1) * (1 - (vigFactor S.fields Hx Hy).1))
    (py * (1 - (vigFactor S.fields Hx Hy).2) * (1 - (vigFactor S.fields Hx Hy).2))

/-! ### clamping of `interp` outside the table -/

/-- at or right of the largest knot of a strictly increasing table: its value -/
theorem interp_clamp_right (x : ℝ) (q : ℝ × ℝ) : ∀ (l : List (ℝ × ℝ)), l.Pairwise (fun a b => a.1 < b.1) →
    q ∈ l → (∀ r ∈ l, r.1 ≤ q.1) → q.1 ≤ x → interp x l = q.2
  | [], _, hq, _, _ => by simp at hq
  | [a], _, hq, _, _ => by rw [List.mem_singleton] at hq; subst hq; simp [interp]
  | a :: b :: rest, hs, hq, hmax, hx => by
      have hs' := List.pairwise_cons.mp hs
      have hab : a.1 < b.1 := hs'.1 b (by simp)
      have hq' : q ∈ b :: rest := by
        rcases List.mem_cons.mp hq with rfl | h
        · exact absurd (hmax b (by simp)) (not_le.mpr hab)
        · exact h
      rw [interp_skip _ a b rest hab (le_trans (hmax b (by simp)) hx)]
      exact interp_clamp_right x q (b :: rest) hs'.2 hq' (fun r hr => hmax r (List.mem_cons_of_mem _ hr)) hx

/-- at or left of the smallest knot of a strictly increasing table: its value -/
theorem interp_clamp_left' (x : ℝ) (q : ℝ × ℝ) (l : List (ℝ × ℝ)) (hs : l.Pairwise (fun a b => a.1 < b.1))
    (hq : q ∈ l) (hmin : ∀ r ∈ l, q.1 ≤ r.1) (hx : x ≤ q.1) : interp x l = q.2 := by
  rcases lt_or_eq_of_le hx with h | h
  · cases l with
    | nil => simp at hq
    | cons a rest =>
      have hqa : q = a := by
        rcases List.mem_cons.mp hq with h' | h'
        · exact h'
        · exact absurd (hmin a (by simp)) (not_le.mpr ((List.pairwise_cons.mp hs).1 q h'))
      subst hqa
      cases rest with
      | nil => simp [interp]
      | cons b r =>
        have h1 : Num.lt x q.1 = true := by rw [NumReal.lt_eq]; exact h
        rw [interp, if_pos h1]
  · rw [h]; exact interp_at_knot l hs q hq

end Launch
