import OptiModel.Model.Effects
import OptiModel.Proofs.NumReal
/-!
  Helper lemmas for `Props/C13.lean` (side-effect model `Model/Effects.lean`): every paraxial query
  written against the records returns the pure function of `Model/Parax.lean`; one call is
  independent of the records it starts from; the specification variant never writes the heap; the
  code variant does not when the vignetting factor is zero; closed-form surfaces trace ray by ray;
  a Newton–Raphson sweep treats every ray separately.
-/
namespace C13
open Model hiding Op step
open Model.Fx

variable {α : Type} [Num α]

theorem ptraceB_single (r : PRay α) (ss : List (PSurf α)) :
    ptraceB [r] ss = (ptrace r ss).map fun p => [p] := by
  induction ss generalizing r with
  | nil => rfl
  | cons s ss ih => simp only [ptraceB, ptrace, List.map_cons, List.map_nil, ih]

/-- after `reset` no slot contributes a row -/
theorem filterMap_reset_take {β : Type} (f : Rec α → Option β) (hf : f .empty = none) (l : Recs α) (n : Nat) :
    List.filterMap f ((resetRecs l).take n) = [] := by
  rw [List.filterMap_eq_nil_iff]
  intro a ha
  obtain ⟨_, _, rfl⟩ := List.mem_map.mp (List.mem_of_mem_take ha)
  exact hf

/-- the rows of one-ray records, read at their first entry, are the column of that ray -/
theorem rowsHead_single (row : Rec α → Option (List α)) (fld : PRay α → α)
    (h : ∀ p, row (.parax [p]) = some [fld p]) (ps : List (PRay α)) :
    rowsHead (List.filterMap row ((ps.map fun p => [p]).map Rec.parax)) = ps.map fld := by
  induction ps with
  | nil => rfl
  | cons p ps ih =>
    simp only [List.map_cons, List.filterMap_cons, h, rowsHead, List.headD_cons] at ih ⊢
    rw [ih]

/-- what `_trace_generic` returns is the trace of the launched ray through the (possibly
inverted) surfaces – whatever the records held before: `reset` wiped them. -/
theorem tgM_val (S : PSys α) (y u z : α) (rev : Bool) (skip : Nat) (recs : Recs α) :
    (tgM S y u z rev skip recs).1 =
      (ys (traceGeneric S.surfs y u z rev skip), us (traceGeneric S.surfs y u z rev skip)) := by
  cases rev <;>
    simp only [tgM, traceGeneric, groupWrite, groupY, groupU, List.filterMap_append,
      filterMap_reset_take Rec.yRow rfl, filterMap_reset_take Rec.uRow rfl, List.nil_append, ptraceB_single,
      rowsHead_single Rec.yRow (·.y) fun _ => rfl, rowsHead_single Rec.uRow (·.u) fun _ => rfl, ys, us, if_true,
      Bool.false_eq_true, if_false]

/-- a reverse trace runs on the deep copy: the lens' own records are untouched -/
theorem tgM_recs_rev (S : PSys α) (y u z : α) (skip : Nat) (recs : Recs α) :
    (tgM S y u z true skip recs).2 = recs := by
  simp only [tgM, if_true]

theorem f2M_val (S : PSys α) (recs : Recs α) : (f2M S recs).1 = f2 S := by
  simp only [f2M, tgM_val, f2, f2raw]
theorem F2M_val (S : PSys α) (recs : Recs α) : (F2M S recs).1 = F2 S := by
  simp only [F2M, tgM_val, F2]
theorem f1M_val (S : PSys α) (recs : Recs α) : (f1M S recs).1 = f1 S := by
  simp only [f1M, tgM_val, f1]
theorem F1M_val (S : PSys α) (recs : Recs α) : (F1M S recs).1 = F1 S := by
  simp only [F1M, tgM_val, F1]
theorem P1M_val (S : PSys α) (recs : Recs α) : (P1M S recs).1 = P1 S := by
  simp only [P1M, F1M_val, f1M_val, P1]
theorem P2M_val (S : PSys α) (recs : Recs α) : (P2M S recs).1 = P2 S := by
  simp only [P2M, F2M_val, f2M_val, P2]
theorem N1M_val (S : PSys α) (recs : Recs α) : (N1M S recs).1 = N1 S := by
  simp only [N1M, P1M_val, f1M_val, f2M_val, N1]
theorem N2M_val (S : PSys α) (recs : Recs α) : (N2M S recs).1 = N2 S := by
  simp only [N2M, P2M_val, f1M_val, f2M_val, N2]

theorem EPLM_val (S : PSys α) (recs : Recs α) : (EPLM S recs).1 = EPL S := by
  rcases h : stopIndex S.surfs with _ | _ | n <;> simp only [EPLM, EPL, h, tgM_val]

theorem EPDM_val (S : PSys α) (recs : Recs α) : (EPDM S recs).1 = EPD S := by
  cases h : S.apType <;> simp only [EPDM, EPD, h, f2M_val, EPLM_val]

theorem XPLM_val (S : PSys α) (recs : Recs α) : (XPLM S recs).1 = XPL S := by
  unfold XPLM XPL
  simp only []
  split <;> simp only [tgM_val]

theorem marginalRayM_val (S : PSys α) (recs : Recs α) :
    (marginalRayM S recs).1 = (ys (marginalRay S), us (marginalRay S)) := by
  unfold marginalRayM marginalRay
  simp only []
  split <;> simp only [tgM_val, EPDM_val, EPLM_val]

theorem XPDM_val (S : PSys α) (recs : Recs α) : (XPDM S recs).1 = XPD S := by
  simp only [XPDM, marginalRayM_val, XPLM_val, XPD]

theorem FNOM_val (S : PSys α) (recs : Recs α) : (FNOM S recs).1 = FNO S := by
  cases h : S.apType <;> simp only [FNOM, FNO, h, f2M_val, EPDM_val]

theorem magnificationM_val (S : PSys α) (recs : Recs α) : (magnificationM S recs).1 = magnification S := by
  simp only [magnificationM, marginalRayM_val, magnification]

theorem chiefRayM_val (S : PSys α) (recs : Recs α) :
    (chiefRayM S recs).1 = (ys (chiefRay S), us (chiefRay S)) := by
  cases h : S.fieldType <;> simp only [chiefRayM, chiefRay, h, tgM_val]

theorem invariantM_val (S : PSys α) (recs : Recs α) : (invariantM S recs).1 = invariant S := by
  simp only [invariantM, marginalRayM_val, chiefRayM_val, invariant]

theorem distance_closed (g : Geom α) (h : closedForm g = true) (rays : List (Ray α)) :
    g.distance rays = rays.map (distance1 g) := by
  cases g <;> first | rfl | (simp [closedForm] at h)

/-- on a closed-form surface the batch trace is the single-ray trace applied to every ray -/
theorem traceSurf_eq_map (s : RSurf α) (w : α) (rays : List (Ray α)) (h : closedForm s.geom = true) :
    traceSurf s w rays = rays.map (traceRay s w) := by
  unfold traceSurf traceRay
  cases hk : s.kind
  · simp only [List.map_id']
  · simp only [distance_closed s.geom h, List.map_map, List.zip_map', Function.comp_def]
  · simp only [distance_closed s.geom h, List.map_map, List.zip_map', Function.comp_def]

theorem traceSurf_append (s : RSurf α) (w : α) (a b : List (Ray α)) (h : closedForm s.geom = true) :
    traceSurf s w (a ++ b) = traceSurf s w a ++ traceSurf s w b := by
  simp only [traceSurf_eq_map s w _ h, List.map_append]

theorem traceSurf_length (s : RSurf α) (w : α) (a : List (Ray α)) (h : closedForm s.geom = true) :
    (traceSurf s w a).length = a.length := by
  simp only [traceSurf_eq_map s w _ h, List.length_map]

/-- one sweep treats every ray separately -/
theorem nrSweep_pts (g : Geom α) (rays : List (Ray α)) (pts : List (α × α × α)) :
    (nrSweep g rays pts).1 = (pts.zip rays).map fun pr => (nrStep g pr.2 pr.1).1 := by
  simp only [nrSweep, nrStep, List.map_map, Function.comp_def]

theorem nrSweep_pts_append (g : Geom α) (a b : List (Ray α)) (pa pb : List (α × α × α))
    (hl : pa.length = a.length) :
    (nrSweep g (a ++ b) (pa ++ pb)).1 = (nrSweep g a pa).1 ++ (nrSweep g b pb).1 := by
  simp only [nrSweep_pts, List.zip_append hl, List.map_append]

theorem nrSweep_pts_length (g : Geom α) (a : List (Ray α)) (pa : List (α × α × α))
    (hl : pa.length = a.length) : (nrSweep g a pa).1.length = a.length := by
  simp only [nrSweep_pts, List.length_map, List.length_zip, hl, Nat.min_self]

/-- `k` sweeps of a batch are `k` sweeps of each block -/
theorem nrIter_append (g : Geom α) (a b : List (Ray α)) (k : Nat) (pa pb : List (α × α × α))
    (hl : pa.length = a.length) :
    nrIter g (a ++ b) k (pa ++ pb) = nrIter g a k pa ++ nrIter g b k pb := by
  induction k generalizing pa pb with
  | zero => rfl
  | succ k ih =>
    simp only [nrIter, nrSweep_pts_append g a b pa pb hl]
    exact ih _ _ (nrSweep_pts_length g a pa hl)

theorem nrIter_length (g : Geom α) (a : List (Ray α)) (k : Nat) (pa : List (α × α × α))
    (hl : pa.length = a.length) : (nrIter g a k pa).length = a.length := by
  induction k generalizing pa with
  | zero => exact hl
  | succ k ih => exact ih _ (nrSweep_pts_length g a pa hl)

theorem nrIter_take (g : Geom α) (a b : List (Ray α)) (k : Nat) (pa pb : List (α × α × α))
    (hl : pa.length = a.length) : (nrIter g (a ++ b) k (pa ++ pb)).take a.length = nrIter g a k pa := by
  rw [nrIter_append g a b k pa pb hl, ← nrIter_length g a k pa hl, List.take_left]

theorem nrIter_drop (g : Geom α) (a b : List (Ray α)) (k : Nat) (pa pb : List (α × α × α))
    (hl : pa.length = a.length) : (nrIter g (a ++ b) k (pa ++ pb)).drop a.length = nrIter g b k pb := by
  rw [nrIter_append g a b k pa pb hl, ← nrIter_length g a k pa hl, List.drop_left]

/-- every `Paraxial` query returns the pure function of the prescription of `Model/Parax.lean`,
for every content of the records -/
theorem queryM_val (S : PSys α) (q : Query) (recs : Recs α) : (queryM S q recs).1 = queryPure S q := by
  cases q <;>
    simp only [queryM, queryPure, f1M_val, f2M_val, F1M_val, F2M_val, P1M_val, P2M_val, N1M_val, N2M_val,
      EPLM_val, EPDM_val, XPLM_val, XPDM_val, FNOM_val, magnificationM_val, invariantM_val,
      marginalRayM_val, chiefRayM_val]

theorem groupWrite_zero (recs new : Recs α) : groupWrite recs 0 new = new := by
  simp only [groupWrite, List.take_zero, List.nil_append]

/-- one call: value, heap afterwards and – for tracing calls – records afterwards do not depend on
the records before the call -/
theorem stepCall_indep (env : Env α) (code : Bool) (L : Lens α) (c : Call α) (r₁ r₂ : Recs α) (h : Heap α) :
    (stepCall env code L c (r₁, h)).1 = (stepCall env code L c (r₂, h)).1 ∧
    (stepCall env code L c (r₁, h)).2.2 = (stepCall env code L c (r₂, h)).2.2 ∧
    (c.exposes = true → (stepCall env code L c (r₁, h)).1.err = false →
      (stepCall env code L c (r₁, h)).2.1 = (stepCall env code L c (r₂, h)).2.1) := by
  cases c with
  | trace Hx Hy w pts =>
    simp only [stepCall, opticTraceM, genM, groupTraceR, EPLM_val, EPDM_val, groupWrite_zero,
      and_self, implies_true]
  | traceGeneric Hx Hy Px Py w =>
    simp only [stepCall, traceGenericM, genM, groupTraceR, EPLM_val, EPDM_val, groupWrite_zero,
      and_self, implies_true]
  | query q =>
    simp only [stepCall, queryM_val, Call.exposes, Bool.false_eq_true, false_implies, and_self]
  | paraxTrace Hy Py =>
    simp only [stepCall, paraxTraceM, EPLM_val, EPDM_val, groupWrite_zero]
    split <;> simp

theorem runCalls_indep (env : Env α) (code : Bool) (L : Lens α) (cs : List (Call α)) (r₁ r₂ : Recs α)
    (h : Heap α) :
    (runCalls env code L cs (r₁, h)).1 = (runCalls env code L cs (r₂, h)).1 ∧
    (runCalls env code L cs (r₁, h)).2.2 = (runCalls env code L cs (r₂, h)).2.2 := by
  induction cs generalizing r₁ r₂ h with
  | nil => exact ⟨rfl, rfl⟩
  | cons c cs ih =>
    obtain ⟨hv, hh, hr⟩ := stepCall_indep env code L c r₁ r₂ h
    simp only [runCalls]
    generalize stepCall env code L c (r₁, h) = t₁ at hv hh hr ⊢
    generalize stepCall env code L c (r₂, h) = t₂ at hv hh hr ⊢
    obtain ⟨v₁, q₁, h₁⟩ := t₁
    obtain ⟨v₂, q₂, h₂⟩ := t₂
    dsimp only at hv hh hr ⊢
    subst hv hh
    -- the records differ at most where no snapshot shows them
    have hs : snapOf c (v₁, q₁, h₁) = snapOf c (v₁, q₂, h₁) := by
      unfold snapOf
      cases hc : c.exposes && !v₁.err
      · rfl
      · rw [Bool.and_eq_true, Bool.not_eq_true'] at hc
        rw [hr hc.1 hc.2]
    rw [hs, (ih q₁ q₂ h₁).1, (ih q₁ q₂ h₁).2]
    exact ⟨rfl, rfl⟩

theorem scaleArg_spec_heap (h : Heap α) (vs : List α) (a : Arg α) : (scaleArg false h vs a).1 = h := by
  cases a <;> simp [scaleArg]

theorem stepCall_spec_heap (env : Env α) (L : Lens α) (c : Call α) (st : Recs α × Heap α) :
    (stepCall env false L c st).2.2 = st.2 := by
  cases c <;> simp only [stepCall, traceGenericM, scaleArg_spec_heap]

theorem runCalls_spec_heap (env : Env α) (L : Lens α) (cs : List (Call α)) (st : Recs α × Heap α) :
    (runCalls env false L cs st).2.2 = st.2 := by
  induction cs generalizing st with
  | nil => rfl
  | cons c cs ih => simp only [runCalls, ih, stepCall_spec_heap]

theorem set_getD_self {β : Type} (h : List (List β)) (a : Nat) : h.set a (h.getD a []) = h := by
  induction h generalizing a with
  | nil => rfl
  | cons x h ih =>
    cases a with
    | zero => rfl
    | succ a => simp only [List.set_cons_succ, List.getD_cons_succ, ih]

theorem mulB_zero (xs : List ℝ) : mulB xs [0] = xs := by
  simp only [mulB]
  num_real
  simp

theorem scaleArg_code_zero_heap (h : Heap ℝ) (a : Arg ℝ) : (scaleArg true h [0] a).1 = h := by
  cases a with
  | arr addr => simp only [scaleArg, if_true, mulB_zero, set_getD_self]
  | scalar v => rfl
  | fresh xs => rfl

/-- zero vignetting at the requested field point (scalar `Hx, Hy`) -/
def ZeroVig (env : Env ℝ) : Prop := ∀ fs hx hy, env.vig fs hx hy = ([0], [0])

theorem stepCall_code_zero_heap (env : Env ℝ) (hz : ZeroVig env) (L : Lens ℝ) (c : Call ℝ)
    (st : Recs ℝ × Heap ℝ) : (stepCall env true L c st).2.2 = st.2 := by
  cases c <;> simp only [stepCall, traceGenericM, hz _ _ _, scaleArg_code_zero_heap]

theorem runCalls_code_zero_heap (env : Env ℝ) (hz : ZeroVig env) (L : Lens ℝ) (cs : List (Call ℝ))
    (st : Recs ℝ × Heap ℝ) : (runCalls env true L cs st).2.2 = st.2 := by
  induction cs generalizing st with
  | nil => rfl
  | cons c cs ih => simp only [runCalls, ih, stepCall_code_zero_heap env hz]

/-- the fold is the body of `Model.npMax`; over ℝ its NaN tests are all false -/
theorem npMax_fold_lt (l : List ℝ) (a t : ℝ) :
    (l.foldl (fun acc v => if isNaN acc then acc else if isNaN v then v
        else if Num.lt acc v then v else acc) a) < t ↔ a < t ∧ ∀ x ∈ l, x < t := by
  induction l generalizing a with
  | nil => simp
  | cons v l ih =>
    rw [List.foldl_cons, ih]
    simp only [isNaN, NumReal.isNaN_false, Bool.false_eq_true, if_false, List.mem_cons, forall_eq_or_imp]
    by_cases h : Num.lt a v = true
    · simp only [h, if_true]
      rw [NumReal.lt_eq] at h
      constructor
      · rintro ⟨hv, hr⟩; exact ⟨lt_trans h hv, hv, hr⟩
      · rintro ⟨_, hv, hr⟩; exact ⟨hv, hr⟩
    · simp only [h]
      rw [NumReal.lt_eq, not_lt] at h
      constructor
      · rintro ⟨ha, hr⟩; exact ⟨ha, lt_of_le_of_lt h ha, hr⟩
      · rintro ⟨ha, _, hr⟩; exact ⟨ha, hr⟩

theorem npMax_lt (l : List ℝ) (t : ℝ) (hne : l ≠ []) : npMax l < t ↔ ∀ x ∈ l, x < t := by
  cases l with
  | nil => exact absurd rfl hne
  | cons a l => simp only [npMax, npMax_fold_lt, List.mem_cons, forall_eq_or_imp]

/-- the `|dz|` of every ray in one sweep -/
def dzs (g : Geom α) (rays : List (Ray α)) (pts : List (α × α × α)) : List α :=
  (pts.zip rays).map fun pr => (nrStep g pr.2 pr.1).2

theorem nrSweep_max (g : Geom α) (rays : List (Ray α)) (pts : List (α × α × α)) :
    (nrSweep g rays pts).2 = npMax (dzs g rays pts) := by
  simp only [nrSweep, nrStep, dzs, List.map_map, Function.comp_def]

theorem dzs_append (g : Geom α) (a b : List (Ray α)) (pa pb : List (α × α × α)) (hl : pa.length = a.length) :
    dzs g (a ++ b) (pa ++ pb) = dzs g a pa ++ dzs g b pb := by
  simp only [dzs, List.zip_append hl, List.map_append]

theorem dzs_ne_nil (g : Geom α) (a : List (Ray α)) (pa : List (α × α × α)) (hl : pa.length = a.length)
    (hne : a ≠ []) : dzs g a pa ≠ [] := by
  cases a with
  | nil => exact absurd rfl hne
  | cons r a =>
    cases pa with
    | nil => nomatch hl
    | cons p pa => exact List.cons_ne_nil _ _

/-- over ℝ (no NaN) the batch-wide stopping test says that every ray of the batch has `|dz| < tol` -/
theorem sweep_test_iff (g : Geom ℝ) (rays : List (Ray ℝ)) (pts : List (ℝ × ℝ × ℝ)) (tol : ℝ)
    (hne : dzs g rays pts ≠ []) :
    Num.lt (nrSweep g rays pts).2 tol = true ↔ ∀ x ∈ dzs g rays pts, x < tol := by
  rw [NumReal.lt_eq, nrSweep_max, npMax_lt _ _ hne]

/-- if every `|dz|` of both blocks meets the test, the batch meets it; and conversely -/
theorem sweep_test_append (g : Geom ℝ) (a b : List (Ray ℝ)) (pa pb : List (ℝ × ℝ × ℝ)) (tol : ℝ)
    (hl : pa.length = a.length) (hne : a ≠ []) :
    Num.lt (nrSweep g (a ++ b) (pa ++ pb)).2 tol = true ↔
      (Num.lt (nrSweep g a pa).2 tol = true ∧ ∀ x ∈ dzs g b pb, x < tol) := by
  have hA := dzs_ne_nil g a pa hl hne
  have hAB : dzs g (a ++ b) (pa ++ pb) ≠ [] := by
    rw [dzs_append g a b pa pb hl]
    exact fun e => hA (List.append_eq_nil_iff.mp e).1
  rw [sweep_test_iff _ _ _ _ hAB, sweep_test_iff _ _ _ _ hA, dzs_append g a b pa pb hl]
  simp only [List.mem_append, or_imp, forall_and]

theorem sweep_test_mono (g : Geom ℝ) (a b : List (Ray ℝ)) (pa pb : List (ℝ × ℝ × ℝ)) (tol : ℝ)
    (hl : pa.length = a.length) (hne : a ≠ [])
    (h : Num.lt (nrSweep g (a ++ b) (pa ++ pb)).2 tol = true) : Num.lt (nrSweep g a pa).2 tol = true :=
  ((sweep_test_append g a b pa pb tol hl hne).mp h).1

/-- one Newton–Raphson step over ℝ: the point moves along its ray by `t = -dz/N`, and `|dz|` is reported -/
theorem nrStep_eq (g : Geom ℝ) (r : Ray ℝ) (p : ℝ × ℝ × ℝ) :
    nrStep g r p =
      ((p.1 + -((p.2.2 - g.nrSag p.1 p.2.1) / r.N) * r.L, p.2.1 + -((p.2.2 - g.nrSag p.1 p.2.1) / r.N) * r.M,
        p.2.2 + -((p.2.2 - g.nrSag p.1 p.2.1) / r.N) * r.N), |p.2.2 - g.nrSag p.1 p.2.1|) := by
  simp only [neg_mul, ← sub_eq_add_neg]
  rfl

end C13
