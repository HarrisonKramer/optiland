import OptiModel.Proofs.TraceLaws
import Mathlib.Tactic.FieldSimp
import Mathlib.Tactic.Ring
/-!
# Helpers for C07: from step-level equivariance to a whole surface and a whole lens

* `traceSurf_eq_map` : for a plane / standard-conic geometry `traceSurf` acts ray by ray
  (`List.map` of `surfRay`); only the Newton–Raphson geometries couple the rays of one batch.
* `traceSurf_equivariant` : one surface (any geometry) under a ray transformation `φ`, from what `φ`
  does to `localize`, to the batch of distances and to the per-ray body `surfStep`.
* `traceLens_equivariant` : the induction over the surface list, once and for all, for an
  arbitrary ray transformation `φ` and an arbitrary pairing of surfaces.
* `traceLens_append`, `finalRays` : the record list of a concatenated lens.
* rigid motions commute with advancing a ray along its direction (`localize_advance`).
-/
namespace Cov
open Model RayReal

theorem zip_map_self {β γ : Type} (l : List β) (f : β → γ) :
    l.zip (l.map f) = l.map (fun a => (a, f a)) := by
  induction l with
  | nil => rfl
  | cons a l ih => simp only [List.map_cons, List.zip_cons_cons, ih]

/-! ### one ray through one surface -/

/-- a geometry whose `distance` is evaluated ray by ray: `Plane`, `StandardGeometry` -/
def Simple (g : Geom ℝ) : Prop := g = .plane ∨ ∃ R k, g = .standard R k

noncomputable def dist1 : Geom ℝ → Ray ℝ → ℝ
  | .plane, r => planeDistance r
  | .standard R k, r => stdDistance R k r
  | _, _ => 0

/-- the body of the `map` in `traceSurf`: what happens to one localised ray `r` once its
distance `t` is known (propagate, add `|t·n1|`, clip, interact, globalize) -/
noncomputable def surfStep (s : RSurf ℝ) (w : ℝ) (r : Ray ℝ) (t : ℝ) : Ray ℝ :=
  s.cs.globalize (interact s (clip s.aperture
    { (r.propagate t s.k1 w) with opd := (r.propagate t s.k1 w).opd + Num.abs (t * s.n1) }))

noncomputable def surfRay (s : RSurf ℝ) (w : ℝ) (r : Ray ℝ) : Ray ℝ :=
  surfStep s w (s.cs.localize r) (dist1 s.geom (s.cs.localize r))

theorem distance_simple (g : Geom ℝ) (hg : Simple g) (rays : List (Ray ℝ)) :
    g.distance rays = rays.map (dist1 g) := by
  rcases hg with h | ⟨R, k, h⟩ <;> subst h <;> rfl

theorem traceSurf_eq_map (s : RSurf ℝ) (w : ℝ) (rays : List (Ray ℝ))
    (hk : s.kind ≠ .object) (hg : Simple s.geom) :
    traceSurf s w rays = rays.map (surfRay s w) := by
  rw [TraceLaws.traceSurf_body s w rays hk, distance_simple _ hg, zip_map_self, List.map_map, List.map_map]
  rfl

theorem traceSurf_object (s : RSurf ℝ) (w : ℝ) (rays : List (Ray ℝ)) (hk : s.kind = .object) :
    traceSurf s w rays = rays :=
  TraceLaws.traceSurf_object s w rays hk

/-- one surface under a map `φ` of rays (`s'`, `w'` the surface and wavelength for the transformed
batch, `f` what happens to the distances): if `φ` commutes with `localize`, the geometry returns the
distances `f t` for the transformed batch, and the per-ray body takes `(φ r, f t)` to `φ` of what it
makes of `(r, t)`, then the transformed batch gives the transformed record -/
theorem traceSurf_equivariant (φ : Ray ℝ → Ray ℝ) (f : ℝ → ℝ) (s s' : RSurf ℝ) (w w' : ℝ)
    (hk : s'.kind = s.kind) (hloc : ∀ r, s'.cs.localize (φ r) = φ (s.cs.localize r))
    (hdist : ∀ rays, s'.geom.distance (rays.map φ) = (s.geom.distance rays).map f)
    (hstep : ∀ r t, surfStep s' w' (φ r) (f t) = φ (surfStep s w r t)) (rays : List (Ray ℝ)) :
    traceSurf s' w' (rays.map φ) = (traceSurf s w rays).map φ := by
  by_cases hko : s.kind = .object
  · rw [traceSurf_object _ _ _ hko, traceSurf_object _ _ _ (hk.trans hko)]
  · rw [TraceLaws.traceSurf_body _ _ _ hko, TraceLaws.traceSurf_body _ _ _ (hk ▸ hko), List.map_map,
      show s'.cs.localize ∘ φ = φ ∘ s.cs.localize from funext hloc, ← List.map_map, hdist, List.zip_map,
      List.map_map, List.map_map]
    exact List.map_congr_left fun rt _ => hstep rt.1 rt.2

/-! ### the induction over the surface list -/

/-- If surface `s'` does to the transformed batch what `s` does to the original batch, pairwise
along two surface lists, then the whole record list of the transformed batch through `ss'` is
the transformed record list of the original batch through `ss`. -/
theorem traceLens_equivariant (φ : Ray ℝ → Ray ℝ) (w w' : ℝ) :
    ∀ (ss ss' : List (RSurf ℝ)),
      List.Forall₂ (fun s s' => ∀ rays, traceSurf s' w' (rays.map φ) = (traceSurf s w rays).map φ) ss ss' →
      ∀ rays, traceLens w' ss' (rays.map φ) = (traceLens w ss rays).map (List.map φ) := by
  intro ss ss' h
  induction h with
  | nil => intro rays; rfl
  | cons h1 _ ih =>
    intro rays
    simp only [traceLens, List.map_cons]
    rw [h1 rays, ih]

/-- the batch that leaves the last surface of `ss` -/
noncomputable def finalRays (w : ℝ) : List (RSurf ℝ) → List (Ray ℝ) → List (Ray ℝ)
  | [], rays => rays
  | s :: ss, rays => finalRays w ss (traceSurf s w rays)

theorem traceLens_append (w : ℝ) (a b : List (RSurf ℝ)) (rays : List (Ray ℝ)) :
    traceLens w (a ++ b) rays = traceLens w a rays ++ traceLens w b (finalRays w a rays) := by
  induction a generalizing rays with
  | nil => rfl
  | cons s a ih => simp only [List.cons_append, traceLens, finalRays, ih]

theorem finalRays_eq_getLastD (w : ℝ) (ss : List (RSurf ℝ)) (rays : List (Ray ℝ)) :
    finalRays w ss rays = (traceLens w ss rays).getLastD rays := by
  induction ss generalizing rays with
  | nil => rfl
  | cons s ss ih => simp only [finalRays, traceLens, List.getLastD_cons, ih]

theorem traceLens_length (w : ℝ) (ss : List (RSurf ℝ)) (rays : List (Ray ℝ)) :
    (traceLens w ss rays).length = ss.length := by
  induction ss generalizing rays with
  | nil => rfl
  | cons s ss ih => simp only [traceLens, List.length_cons, ih]

/-! ### advancing a ray along its own direction -/

/-- the first two lines of the `map` body of `traceSurf`: move the ray by `t` along its direction
through a medium with extinction coefficient `k` and index `n` (position, intensity, path) -/
noncomputable def advance (r : Ray ℝ) (t k w n : ℝ) : Ray ℝ :=
  { (r.propagate t k w) with opd := (r.propagate t k w).opd + Num.abs (t * n) }

theorem surfStep_eq (s : RSurf ℝ) (w : ℝ) (r : Ray ℝ) (t : ℝ) :
    surfStep s w r t = s.cs.globalize (interact s (clip s.aperture (advance r t s.k1 w s.n1))) := rfl

/-- `Surface._interact` under a map `φ` of rays that leaves the intensity alone: `n`, `n'` are the normals
at `r` and at `φ r`; `s'` has the kind, indices, mirror flag and coating of `s` -/
theorem interact_equivariant (φ : Ray ℝ → Ray ℝ) (s s' : RSurf ℝ) (r : Ray ℝ) (n n' : ℝ × ℝ × ℝ)
    (hs : s' = { s with cs := s'.cs, geom := s'.geom, aperture := s'.aperture })
    (hn : s.geom.normal r = n) (hn' : s'.geom.normal (φ r) = n')
    (hrefr : (φ r).refract n'.1 n'.2.1 n'.2.2 s.n1 s.n2 = φ (r.refract n.1 n.2.1 n.2.2 s.n1 s.n2))
    (hrefl : (φ r).reflect n'.1 n'.2.1 n'.2.2 = φ (r.reflect n.1 n.2.1 n.2.2))
    (hi : ∀ (q : Ray ℝ) (c : ℝ), ({ φ q with i := (φ q).i * c } : Ray ℝ) = φ { q with i := q.i * c }) :
    interact s' (φ r) = φ (interact s r) := by
  obtain ⟨nx, ny, nz⟩ := n
  obtain ⟨mx, my, mz⟩ := n'
  dsimp only at hrefr hrefl
  rw [hs]
  obtain ⟨kind, cs, geom, n1, n2, k1, refl, ap, coat⟩ := s
  cases kind <;> cases refl <;> rcases coat with _ | ⟨T, Rc⟩ <;>
    simp only [interact, hn, hn', hrefr, hrefl, hi, Bool.false_eq_true, if_false, if_true]

/-- the per-ray body under a map `φ` of rays, stage by stage: advance, clip, interact, globalize -/
theorem surfStep_equivariant (φ : Ray ℝ → Ray ℝ) (s s' : RSurf ℝ) (w w' t t' : ℝ) (r : Ray ℝ)
    (hadv : advance (φ r) t' s'.k1 w' s'.n1 = φ (advance r t s.k1 w s.n1))
    (hclip : ∀ q, clip s'.aperture (φ q) = φ (clip s.aperture q))
    (hint : ∀ q, interact s' (φ q) = φ (interact s q))
    (hglob : ∀ q, s'.cs.globalize (φ q) = φ (s.cs.globalize q)) :
    surfStep s' w' (φ r) t' = φ (surfStep s w r t) := by
  rw [surfStep_eq, surfStep_eq, hadv, hclip, hint, hglob]

theorem advance_eq (r : Ray ℝ) (t k w n : ℝ) : advance r t k w n =
    { r with x := r.x + t * r.L, y := r.y + t * r.M, z := r.z + t * r.N,
             i := r.i * Real.exp (-(4 * Real.pi * k / w) * t * 1000), opd := r.opd + |t * n| } := by
  rw [advance, propagate_eq]
  rfl

theorem translate_advance (r : Ray ℝ) (dx dy dz t k w n : ℝ) :
    (advance r t k w n).translate dx dy dz = advance (r.translate dx dy dz) t k w n := by
  simp only [advance_eq, translate_eq, Ray.mk.injEq, and_true]
  exact ⟨add_right_comm _ _ _, add_right_comm _ _ _, add_right_comm _ _ _⟩

theorem rotateX_advance (r : Ray ℝ) (a t k w n : ℝ) :
    (advance r t k w n).rotateX a = advance (r.rotateX a) t k w n := by
  simp only [advance_eq, rotateX_eq, Ray.mk.injEq, true_and, and_true]
  exact ⟨by ring, by ring⟩

theorem rotateY_advance (r : Ray ℝ) (a t k w n : ℝ) :
    (advance r t k w n).rotateY a = advance (r.rotateY a) t k w n := by
  simp only [advance_eq, rotateY_eq, Ray.mk.injEq, true_and, and_true]
  exact ⟨by ring, by ring⟩

theorem rotateZ_advance (r : Ray ℝ) (a t k w n : ℝ) :
    (advance r t k w n).rotateZ a = advance (r.rotateZ a) t k w n := by
  simp only [advance_eq, rotateZ_eq, Ray.mk.injEq, and_true]
  exact ⟨by ring, by ring⟩

theorem localize_advance (cs : Cs ℝ) (r : Ray ℝ) (t k w n : ℝ) :
    cs.localize (advance r t k w n) = advance (cs.localize r) t k w n := by
  rw [localize_eq, localize_eq, translate_advance, rotateX_advance, rotateY_advance, rotateZ_advance]

/-- the optical paths `|t·n|` of two consecutive forward segments in one medium add up -/
theorem abs_mul_add (t u n : ℝ) (ht : 0 ≤ t) (hu : 0 ≤ u) : |t * n| + |u * n| = |(t + u) * n| := by
  rw [abs_mul, abs_mul, abs_mul, abs_of_nonneg ht, abs_of_nonneg hu, abs_of_nonneg (add_nonneg ht hu), add_mul]

/-- two consecutive forward segments in the same medium are one segment: positions add, the
Beer–Lambert factors multiply, the paths add (`abs_mul_add`) -/
theorem advance_add (r : Ray ℝ) (t u k w n : ℝ) (ht : 0 ≤ t) (hu : 0 ≤ u) :
    advance (advance r t k w n) u k w n = advance r (t + u) k w n := by
  rw [advance_eq, advance_eq, advance_eq]
  simp only [Ray.mk.injEq, true_and]
  refine ⟨by ring, by ring, by ring, ?_, ?_⟩
  · rw [mul_assoc, ← Real.exp_add]
    congr 2
    ring
  · rw [add_assoc, abs_mul_add t u n ht hu]

/-! ### the distance to the next surface after an advance -/

theorem conicABC_eq (R k : ℝ) (r : Ray ℝ) : conicABC R k r =
    (k*(r.N*r.N) + r.L*r.L + r.M*r.M + r.N*r.N,
     2*k*r.N*r.z + 2*r.L*r.x + 2*r.M*r.y - 2*r.N*R + 2*r.N*r.z,
     k*(r.z*r.z) - 2*R*r.z + r.x*r.x + r.y*r.y + r.z*r.z) := RayReal.conicABC_eq R k r

theorem conicABC_advance (R k : ℝ) (r : Ray ℝ) (t k' w n : ℝ) :
    conicABC R k (advance r t k' w n) =
      ((conicABC R k r).1, (conicABC R k r).2.1 + 2 * (conicABC R k r).1 * t,
       (conicABC R k r).2.2 + (conicABC R k r).2.1 * t + (conicABC R k r).1 * t^2) := by
  rw [conicABC_eq, conicABC_eq, advance_eq]
  simp only [Prod.mk.injEq]
  refine ⟨trivial, by ring, by ring⟩

/-- The point reached after `t` is not beyond the intersection that `selectRoot` picks.  With
`t₁,₂ = (-b ± √(b²-4ac))/(2a)` the roots of the quadratic (`-c/b` when `a = 0`):
* `a = 0`: the single root is ahead;
* both roots ahead (`t ≤ t₁`, `t ≤ t₂`): no root is masked, before or after;
* one root behind the ray (`tᵢ < 0`, e.g. a concave surface seen from inside its sphere): that root
  is masked to `inf` before and after.  In floating point `|z + inf·N| = inf` loses the comparison;
  over ℝ `inf` is the junk value 0, so the guard also asks that the model's comparison
  `|z₁| ≤ |z₂|` still picks the other root: the selected intersection is nearer to the vertex
  plane than the start point `z` and than the advanced point `z + tN`. -/
def RootsAhead (a b c z N t : ℝ) : Prop :=
  (a = 0 ∧ b ≠ 0 ∧ t ≤ -c / b) ∨
  (a ≠ 0 ∧ t ≤ (-b + Real.sqrt (b * b - 4 * a * c)) / (2 * a) ∧
    t ≤ (-b - Real.sqrt (b * b - 4 * a * c)) / (2 * a)) ∨
  (a ≠ 0 ∧ (-b - Real.sqrt (b * b - 4 * a * c)) / (2 * a) < 0 ∧
    t ≤ (-b + Real.sqrt (b * b - 4 * a * c)) / (2 * a) ∧
    |z + (-b + Real.sqrt (b * b - 4 * a * c)) / (2 * a) * N| ≤ |z| ∧
    |z + (-b + Real.sqrt (b * b - 4 * a * c)) / (2 * a) * N| ≤ |z + t * N|) ∨
  (a ≠ 0 ∧ (-b + Real.sqrt (b * b - 4 * a * c)) / (2 * a) < 0 ∧
    t ≤ (-b - Real.sqrt (b * b - 4 * a * c)) / (2 * a) ∧
    |z + (-b - Real.sqrt (b * b - 4 * a * c)) / (2 * a) * N| < |z| ∧
    |z + (-b - Real.sqrt (b * b - 4 * a * c)) / (2 * a) * N| < |z + t * N|)

/-- moving the start point forward by `t` (not beyond the selected intersection) reduces the selected
intersection distance by `t`: same discriminant, same intersection heights `z + tᵢ N`, hence the same
choice between the two roots -/
theorem selectRoot_advance (a b c z N t : ℝ) (h0 : 0 ≤ t) (h : RootsAhead a b c z N t) :
    selectRoot a (b + 2 * a * t) (c + b * t + a * t^2) (z + t * N) N = selectRoot a b c z N - t ∧
      t ≤ selectRoot a b c z N := by
  have hd : (b + 2 * a * t) * (b + 2 * a * t) - 4 * a * (c + b * t + a * t ^ 2) = b * b - 4 * a * c := by ring
  rw [selectRoot_eq, selectRoot_eq, hd]
  unfold RootsAhead at h
  generalize Real.sqrt (b * b - 4 * a * c) = q at h ⊢
  have t1 : a ≠ 0 → (-(b + 2 * a * t) + q) / (2 * a) = (-b + q) / (2 * a) - t := fun ha => by
    field_simp; ring
  have t2 : a ≠ 0 → (-(b + 2 * a * t) - q) / (2 * a) = (-b - q) / (2 * a) - t := fun ha => by
    field_simp; ring
  rcases h with ⟨ha, hb, hle⟩ | ⟨ha, h1, h2⟩ | ⟨ha, h2, h1, hz, hz'⟩ | ⟨ha, h1, h2, hz, hz'⟩
  · rw [if_pos ha, if_pos ha, ha, show b + 2 * 0 * t = b by ring]
    refine ⟨?_, hle⟩
    field_simp
    ring
  all_goals
    rw [if_neg ha, if_neg ha, t1 ha, t2 ha]
    clear t1 t2
    generalize (-b + q) / (2 * a) = T1 at *
    generalize (-b - q) / (2 * a) = T2 at *
    have hzz : ∀ T, z + t * N + (T - t) * N = z + T * N := fun T => by ring
  · rw [masked_of_nonneg (sub_nonneg.mpr h1), masked_of_nonneg (sub_nonneg.mpr h2),
      masked_of_nonneg (h0.trans h1), masked_of_nonneg (h0.trans h2), hzz, hzz]
    split_ifs
    · exact ⟨rfl, h1⟩
    · exact ⟨rfl, h2⟩
  · rw [masked_of_nonneg (sub_nonneg.mpr h1), masked_of_neg (sub_neg.mpr (h2.trans_le h0)),
      masked_of_nonneg (h0.trans h1), masked_of_neg h2, hzz, zero_mul, add_zero, add_zero, if_pos hz', if_pos hz]
    exact ⟨rfl, h1⟩
  · rw [masked_of_neg (sub_neg.mpr (h1.trans_le h0)), masked_of_nonneg (sub_nonneg.mpr h2), masked_of_neg h1,
      masked_of_nonneg (h0.trans h2), hzz, zero_mul, add_zero, add_zero, if_neg (not_le.mpr hz'),
      if_neg (not_le.mpr hz)]
    exact ⟨rfl, h2⟩

/-- "the point reached after `t` lies before the surface" for the per-ray geometries, in the local
frame of the surface -/
def Ahead : Geom ℝ → Ray ℝ → ℝ → Prop
  | .plane, r, t => r.N ≠ 0 ∧ t ≤ -r.z / r.N
  | .standard R k, r, t => RootsAhead (conicABC R k r).1 (conicABC R k r).2.1 (conicABC R k r).2.2 r.z r.N t
  | _, _, _ => False

theorem planeDistance_advance (r : Ray ℝ) (t k w n : ℝ) (h0 : 0 ≤ t) (hN : r.N ≠ 0) (h : t ≤ -r.z / r.N) :
    planeDistance (advance r t k w n) = planeDistance r - t ∧ t ≤ planeDistance r := by
  rw [planeDistance_eq, planeDistance_eq, advance_eq,
    show -(r.z + t * r.N) / r.N = -r.z / r.N - t by field_simp; ring,
    masked_of_nonneg (sub_nonneg.mpr h), masked_of_nonneg (h0.trans h)]
  exact ⟨rfl, h⟩

theorem stdDistance_advance (R k : ℝ) (r : Ray ℝ) (t k' w n : ℝ) (h0 : 0 ≤ t)
    (h : RootsAhead (conicABC R k r).1 (conicABC R k r).2.1 (conicABC R k r).2.2 r.z r.N t) :
    stdDistance R k (advance r t k' w n) = stdDistance R k r - t ∧ t ≤ stdDistance R k r := by
  rw [stdDistance_eq, stdDistance_eq, conicABC_advance, advance_eq]
  exact selectRoot_advance _ _ _ _ _ _ h0 h

theorem dist1_advance (g : Geom ℝ) (r : Ray ℝ) (t k w n : ℝ) (h0 : 0 ≤ t) (h : Ahead g r t) :
    dist1 g (advance r t k w n) = dist1 g r - t ∧ t ≤ dist1 g r := by
  cases g with
  | plane => exact planeDistance_advance r t k w n h0 h.1 h.2
  | standard R k' => exact stdDistance_advance R k' r t k w n h0 h
  | _ => exact absurd h id

theorem simple_of_ahead (g : Geom ℝ) (r : Ray ℝ) (t : ℝ) (h : Ahead g r t) : Simple g := by
  cases g with
  | plane => exact Or.inl rfl
  | standard R k => exact Or.inr ⟨R, k, rfl⟩
  | _ => exact absurd h id

end Cov
