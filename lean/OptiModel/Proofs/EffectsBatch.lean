import OptiModel.Proofs.Effects
/-!
  Helper definitions and lemmas for section F of `Props/C13.lean`:
  per-ray form of the surface loop (`rayThrough`), arbitrary regrouping of a batch (`gather`),
  the two branches of `selectRoot` named separately, the edit subsequence of a history, and the
  number of sweeps of the shared Newton–Raphson loop.
-/
namespace C13
open Model hiding Op step
open Model.Fx
open scoped Num

variable {α : Type} [Num α]

/-- the value `selectRoot` takes on a ray with `a ≠ 0` (both roots, negative ones masked with `inf`,
the one whose intersection is nearer to the vertex plane) -/
def selectRootQuad (a b c : α) (z N : α) : α :=
  let d := b * b - Num.ofRat 4 1 * a * c
  let t1 := (-b + Num.sqrt d) / (2 * a)
  let t2 := (-b - Num.sqrt d) / (2 * a)
  let t1 := maskNeg t1 Num.inf
  let t2 := maskNeg t2 Num.inf
  let z1 := z + t1 * N
  let z2 := z + t2 * N
  if Num.le (Num.abs z1) (Num.abs z2) then t1 else t2

theorem selectRoot_eq (a b c z N : α) :
    selectRoot a b c z N = if Num.isZero a then -c / b else selectRootQuad a b c z N := rfl

theorem stdDistance_eq (R k : α) (r : Ray α) :
    stdDistance R k r = selectRoot (conicABC R k r).1 (conicABC R k r).2.1 (conicABC R k r).2.2 r.z r.N := rfl

/-- one ray through the surfaces `ss` (closed-form geometries), alone -/
def rayThrough (w : α) (ss : List (RSurf α)) (r : Ray α) : Ray α :=
  ss.foldl (fun r s => traceRay s w r) r

/-- an arbitrary regrouping of a batch: the rays at the positions `idx`, in that order
(reordering, selection of a sub-batch, duplication; positions out of range are dropped) -/
def gather {β : Type} (idx : List Nat) (l : List β) : List β := idx.filterMap fun i => l[i]?

theorem gather_map {β γ : Type} (f : β → γ) (idx : List Nat) (l : List β) :
    (gather idx l).map f = gather idx (l.map f) := by
  simp only [gather, List.map_filterMap, List.getElem?_map]

theorem getLastD_map {β γ : Type} (f : β → γ) (l : List β) (d : β) :
    (l.map f).getLastD (f d) = f (l.getLastD d) := by
  induction l generalizing d with
  | nil => rfl
  | cons a l ih =>
    simp only [List.map_cons, List.getLastD_cons]
    exact ih a

theorem traceLens_length (w : α) (ss : List (RSurf α)) (rays : List (Ray α)) :
    (traceLens w ss rays).length = ss.length := by
  induction ss generalizing rays with
  | nil => rfl
  | cons s ss ih => simp only [traceLens, List.length_cons, ih]

def editOf : Op α → Option (Lens α → Lens α)
  | .edit f => some f
  | _ => none

def edits (ops : List (Op α)) : List (Lens α → Lens α) := ops.filterMap editOf

/-- the number of sweeps the shared loop executes (`break` included): the `i + 1` of the first sweep
whose batch-wide `max |dz|` is below `tol`, or `max_iter` -/
def nrCount (g : Geom α) (rays : List (Ray α)) (tol : α) : Nat → List (α × α × α) → Nat
  | 0, _ => 0
  | n+1, pts => if Num.lt (nrSweep g rays pts).2 tol then 1 else nrCount g rays tol n (nrSweep g rays pts).1 + 1

theorem nrLoop_eq_count (g : Geom α) (rays : List (Ray α)) (tol : α) (n : Nat) (pts : List (α × α × α)) :
    nrLoop g rays tol n pts = nrIter g rays (nrCount g rays tol n pts) pts := by
  induction n generalizing pts with
  | zero => rfl
  | succ n ih =>
    simp only [nrLoop, nrCount]
    by_cases hm : Num.lt (nrSweep g rays pts).2 tol = true
    · simp only [hm, if_true, nrIter]
    · simp only [hm, if_false, nrIter, ih]; rfl

theorem nrCount_le (g : Geom α) (rays : List (Ray α)) (tol : α) (n : Nat) (pts : List (α × α × α)) :
    nrCount g rays tol n pts ≤ n := by
  induction n generalizing pts with
  | zero => exact Nat.le_refl 0
  | succ n ih =>
    simp only [nrCount]
    by_cases hm : Num.lt (nrSweep g rays pts).2 tol = true
    · simp only [hm, if_true]; exact Nat.succ_le_succ (Nat.zero_le n)
    · simp only [hm, if_false]; exact Nat.succ_le_succ (ih _)

/-- two loops whose stopping tests agree along the run make the same number of sweeps -/
theorem nrCount_congr (g : Geom α) (r₁ r₂ : List (Ray α)) (tol : α) (n : Nat) (p₁ p₂ : List (α × α × α))
    (h : ∀ i < n, Num.lt (nrSweep g r₁ (nrIter g r₁ i p₁)).2 tol = Num.lt (nrSweep g r₂ (nrIter g r₂ i p₂)).2 tol) :
    nrCount g r₁ tol n p₁ = nrCount g r₂ tol n p₂ := by
  induction n generalizing p₁ p₂ with
  | zero => rfl
  | succ n ih =>
    have h0 : Num.lt (nrSweep g r₁ p₁).2 tol = Num.lt (nrSweep g r₂ p₂).2 tol := h 0 (Nat.succ_pos n)
    simp only [nrCount, h0]
    rw [ih _ _ fun i hi => h (i + 1) (Nat.succ_lt_succ hi)]

/-- the point of one ray after `k` Newton–Raphson steps of its own -/
def nrPt (g : Geom α) (r : Ray α) : Nat → α × α × α → α × α × α
  | 0, p => p
  | k+1, p => nrPt g r k (nrStep g r p).1

theorem nrIter_single (g : Geom α) (r : Ray α) (k : Nat) (p : α × α × α) :
    nrIter g [r] k [p] = [nrPt g r k p] := by
  induction k generalizing p with
  | zero => rfl
  | succ k ih =>
    simp only [nrIter, nrPt, nrSweep_pts, List.zip_cons_cons, List.zip_nil_right, List.map_cons, List.map_nil]
    exact ih _

end C13
