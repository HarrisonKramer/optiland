import OptiModel.Proofs.Aberr
import OptiModel.Proofs.OptimPresc
/-! List bookkeeping for `Props/C08.lean`: scaled arrays (`nth`, `last` of `map (c * ·)`) and
`modifyAt` of the prescription edits. -/
namespace C08
open Model Model.Classical

theorem nth_map_mul (c : ℝ) (l : List ℝ) (k : ℕ) : nth (l.map fun x => c * x) k = c * nth l k := by
  rw [nth, nth, ← getD_map' (fun x => c * x)]
  exact congrArg _ (mul_zero c).symm

theorem last_map_mul (c : ℝ) (l : List ℝ) : last (l.map fun x => c * x) = c * last l := by
  unfold last
  induction l using List.reverseRecOn with
  | nil => simp
  | append_singleton l a _ => simp

theorem map_modifyAt {β γ : Type} (g : β → γ) (f : β → β) (l : List β) (k : ℕ) (h : ∀ s, g (f s) = g s) :
    (modifyAt l k f).map g = l.map g :=
  OptimProofs.map_modifyAt l k f g fun x _ => h x

theorem modifyAt_fix {β : Type} (f : β → β) (l : List β) (k : ℕ) (h : ∀ s, l[k]? = some s → f s = s) :
    modifyAt l k f = l := by
  simpa only [List.map_id] using OptimProofs.map_modifyAt l k f id h

end C08
