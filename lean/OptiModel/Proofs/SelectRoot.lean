import OptiModel.Model.Merid
import OptiModel.Proofs.RayReal
import Mathlib.Tactic.FieldSimp
import Mathlib.Tactic.Linarith
/-!
# Root selection of the conic quadratic over ℝ

`selectRoot` (shared by `StandardGeometry.distance` and `_intersection_sphere`) masks negative roots
with `inf` and keeps the root whose end point has the smaller `|z|`.  Over ℝ the mask value is the junk
value `0`, so the end point of a masked root is the start point and it is compared through `|z|` itself
(`hsel` of the two `_masked` lemmas).  First one lemma per branch, named by the hypotheses that select it,
with the discriminant given as a square `r²`; then the same with the two roots given through Vieta's
formulas; last `mdist` as `selectRoot` of its coefficients, and what the Vieta forms say about it.
-/
namespace ConicMirrors
open Model

theorem inf_real : (Num.inf : ℝ) = 0 := rfl

/-- linear branch (`a == 0`) -/
theorem selectRoot_linear (a b c z N : ℝ) (ha : a = 0) : selectRoot a b c z N = -c / b := by
  simp only [RayReal.selectRoot_eq, if_pos ha]

/-- quadratic branch, second root negative (masked), first root kept -/
theorem selectRoot_t1_masked (a b c z N r : ℝ) (ha : a ≠ 0) (hr : 0 ≤ r) (hd : b*b - 4*a*c = r^2)
    (h1 : 0 ≤ (-b + r)/(2*a)) (h2 : (-b - r)/(2*a) < 0)
    (hsel : |z + (-b + r)/(2*a) * N| ≤ |z|) :
    selectRoot a b c z N = (-b + r)/(2*a) := by
  simp only [RayReal.selectRoot_eq, hd, Real.sqrt_sq hr, if_neg ha, RayReal.masked_of_nonneg h1,
    RayReal.masked_of_neg h2, zero_mul, add_zero, if_pos hsel]

/-- quadratic branch, both roots non-negative, first root has the smaller `|z|` -/
theorem selectRoot_t1_both (a b c z N r : ℝ) (ha : a ≠ 0) (hr : 0 ≤ r) (hd : b*b - 4*a*c = r^2)
    (h1 : 0 ≤ (-b + r)/(2*a)) (h2 : 0 ≤ (-b - r)/(2*a))
    (hsel : |z + (-b + r)/(2*a) * N| ≤ |z + (-b - r)/(2*a) * N|) :
    selectRoot a b c z N = (-b + r)/(2*a) := by
  simp only [RayReal.selectRoot_eq, hd, Real.sqrt_sq hr, if_neg ha, RayReal.masked_of_nonneg h1,
    RayReal.masked_of_nonneg h2, if_pos hsel]

/-- quadratic branch, both roots non-negative, second root has the strictly smaller `|z|` -/
theorem selectRoot_t2_both (a b c z N r : ℝ) (ha : a ≠ 0) (hr : 0 ≤ r) (hd : b*b - 4*a*c = r^2)
    (h1 : 0 ≤ (-b + r)/(2*a)) (h2 : 0 ≤ (-b - r)/(2*a))
    (hsel : |z + (-b - r)/(2*a) * N| < |z + (-b + r)/(2*a) * N|) :
    selectRoot a b c z N = (-b - r)/(2*a) := by
  simp only [RayReal.selectRoot_eq, hd, Real.sqrt_sq hr, if_neg ha, RayReal.masked_of_nonneg h1,
    RayReal.masked_of_nonneg h2, if_neg (not_le.mpr hsel)]

/-- quadratic branch, first root negative (masked), second root kept -/
theorem selectRoot_t2_masked (a b c z N r : ℝ) (ha : a ≠ 0) (hr : 0 ≤ r) (hd : b*b - 4*a*c = r^2)
    (h1 : (-b + r)/(2*a) < 0) (h2 : 0 ≤ (-b - r)/(2*a))
    (hsel : |z + (-b - r)/(2*a) * N| < |z|) :
    selectRoot a b c z N = (-b - r)/(2*a) := by
  simp only [RayReal.selectRoot_eq, hd, Real.sqrt_sq hr, if_neg ha, RayReal.masked_of_neg h1,
    RayReal.masked_of_nonneg h2, zero_mul, add_zero, if_neg (not_le.mpr hsel)]

/-! ### the roots given through Vieta's formulas

`t`, `t'` are the roots of `a τ² + b τ + c`: `b = −a (t + t')`, `c = a t t'`; the discriminant is then the
square of `a (t − t')`, and which of the two is `t₁ = (−b+√d)/(2a)` depends on the sign of that number. -/

theorem vieta_roots (a t t' : ℝ) (ha : a ≠ 0) :
    (-(-(a * (t + t'))) + a * (t - t')) / (2 * a) = t ∧
    (-(-(a * (t + t'))) - a * (t - t')) / (2 * a) = t' := by
  have h2a : 2 * a ≠ 0 := mul_ne_zero two_ne_zero ha
  constructor <;> rw [div_eq_iff h2a] <;> ring

/-- both intersections ahead of the start point: the one whose end point has the smaller `|z|` is kept -/
theorem selectRoot_of_roots (a t t' z N : ℝ) (ha : a ≠ 0) (ht : 0 ≤ t) (ht' : 0 ≤ t')
    (hsel : |z + t * N| < |z + t' * N|) : selectRoot a (-(a * (t + t'))) (a * (t * t')) z N = t := by
  obtain ⟨e1, e2⟩ := vieta_roots a t t' ha
  rcases le_total 0 (a * (t - t')) with hr | hr
  · rw [selectRoot_t1_both _ _ _ _ _ (a * (t - t')) ha hr (by ring) (ht.trans_eq e1.symm) (ht'.trans_eq e2.symm)
      (by rw [e1, e2]; exact hsel.le), e1]
  · rw [← sub_neg_eq_add] at e1
    rw [sub_eq_add_neg] at e2
    rw [selectRoot_t2_both _ _ _ _ _ (-(a * (t - t'))) ha (neg_nonneg.mpr hr) (by ring) (ht'.trans_eq e2.symm)
      (ht.trans_eq e1.symm) (by rw [e1, e2]; exact hsel), e1]

/-- one intersection behind the start point (masked): the other is kept if it ends nearer to the vertex
plane than the start point (the comparison is against the junk value `0` of `inf`) -/
theorem selectRoot_of_roots_masked (a t t' z N : ℝ) (ha : a ≠ 0) (ht : 0 ≤ t) (ht' : t' < 0)
    (hsel : |z + t * N| < |z|) : selectRoot a (-(a * (t + t'))) (a * (t * t')) z N = t := by
  obtain ⟨e1, e2⟩ := vieta_roots a t t' ha
  rcases le_total 0 (a * (t - t')) with hr | hr
  · rw [selectRoot_t1_masked _ _ _ _ _ (a * (t - t')) ha hr (by ring) (ht.trans_eq e1.symm) (e2.trans_lt ht')
      (by rw [e1]; exact hsel.le), e1]
  · rw [← sub_neg_eq_add] at e1
    rw [sub_eq_add_neg] at e2
    rw [selectRoot_t2_masked _ _ _ _ _ (-(a * (t - t'))) ha (neg_nonneg.mpr hr) (by ring) (e2.trans_lt ht')
      (ht.trans_eq e1.symm) (by rw [e1]; exact hsel), e1]

theorem mdist_eq (k R y z M N : ℝ) : mdist k R ⟨y, z, M, N⟩ =
    selectRoot (k * (N * N) + M * M + N * N) (2 * k * N * z + 2 * M * y - 2 * N * R + 2 * N * z)
      (k * (z * z) - 2 * R * z + y * y + z * z) z N := rfl

/-- `mdist` when both intersections lie ahead of the start point -/
theorem mdist_of_roots (k R y z M N a t t' : ℝ) (ha0 : a ≠ 0)
    (ha : k * (N * N) + M * M + N * N = a)
    (hb : 2 * k * N * z + 2 * M * y - 2 * N * R + 2 * N * z = -(a * (t + t')))
    (hc : k * (z * z) - 2 * R * z + y * y + z * z = a * (t * t'))
    (ht : 0 ≤ t) (ht' : 0 ≤ t') (hsel : |z + t * N| < |z + t' * N|) :
    mdist k R ⟨y, z, M, N⟩ = t := by
  rw [mdist_eq, ha, hb, hc, selectRoot_of_roots a t t' z N ha0 ht ht' hsel]

/-- A ray parallel to the axis meets the conic (`1 + k ≠ 0`) where `(1+k) z = R ∓ w`,
`w = R √(1 − (1+k) h²/R²)` (signed like `R`): the root selection keeps `z = (R − w)/(1+k) = sag(h)`.
Guards: the start plane is before both intersections.  For `1 + k = 0` (paraboloid) the quadratic is
linear and `selectRoot_linear` applies. -/
theorem mdist_collimated (k R h z0 w : ℝ) (hk : 1 + k ≠ 0) (hw2 : w^2 = R^2 - (1 + k) * h^2)
    (hwR : 0 < w * R) (h1 : 0 ≤ (R - w) / (1 + k) - z0) (h2 : 0 ≤ (R + w) / (1 + k) - z0) :
    mdist k R ⟨h, z0, 0, 1⟩ = (R - w) / (1 + k) - z0 := by
  refine mdist_of_roots k R h z0 0 1 (1 + k) _ ((R + w) / (1 + k) - z0) hk (by ring)
    (by field_simp; ring) (by field_simp; linear_combination hw2) h1 h2 ?_
  rw [mul_one, mul_one, add_sub_cancel, add_sub_cancel, abs_div, abs_div]
  refine div_lt_div_of_pos_right (sq_lt_sq.mp ?_) (abs_pos.mpr hk)
  linarith

end ConicMirrors
