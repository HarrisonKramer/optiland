import OptiModel.Model.Wavefront
import OptiModel.Proofs.NumReal
import Mathlib.Tactic.LinearCombination
import Mathlib.Tactic.NormNum
/-! Facts behind C09 that are about real numbers and lists rather than about the wavefront model:
the direction of a vector `(0, s·tan θ, s)`, the slices of a list zipped with the cross
distribution, and the linear coefficient `qb` of the ray–sphere quadratic over ℝ. -/
namespace WfProofs
open Model Model.Wf

theorem qb_eq (s : Sphere ℝ) (r : Ray ℝ) :
    qb s r = 2 * -r.L * (r.x - s.xc) + 2 * -r.M * (r.y - s.yc) + 2 * -r.N * (r.z - s.zc) := rfl

/-- a vector `(0, s·tan θ, s)` with `s > 0` and `cos θ > 0`, divided by its length, is
`(0, sin θ, cos θ)` -/
theorem unit_of_tan (dx dy dz s θ : ℝ) (hdx : dx = 0) (hdy : dy = Real.tan θ * s) (hdz : dz = s)
    (hs : 0 < s) (hc : 0 < Real.cos θ) :
    (dx / Real.sqrt (dx * dx + dy * dy + dz * dz), dy / Real.sqrt (dx * dx + dy * dy + dz * dz),
      dz / Real.sqrt (dx * dx + dy * dy + dz * dz)) = (0, Real.sin θ, Real.cos θ) := by
  have hc' := hc.ne'
  have ht : Real.tan θ * Real.cos θ = Real.sin θ := Real.tan_mul_cos hc'
  have hmag : Real.sqrt (dx * dx + dy * dy + dz * dz) = s / Real.cos θ := by
    rw [hdx, hdy, hdz, ← Real.sqrt_sq (div_pos hs hc).le, div_pow]
    congr 1
    rw [eq_div_iff (pow_ne_zero 2 hc')]
    -- `(tan² + 1)·cos² = sin² + cos² = 1`
    linear_combination s ^ 2 * (Real.tan θ * Real.cos θ + Real.sin θ) * ht + s ^ 2 * Real.sin_sq_add_cos_sq θ
  rw [hmag, hdx, hdy, hdz, zero_div, div_div_cancel₀ hs.ne', div_div_eq_mul_div, mul_right_comm, ht,
    mul_div_cancel_right₀ _ hs.ne']

/-- field angles below 90° have positive cosine -/
theorem cos_deg_pos (d : ℝ) (h1 : -90 < d) (h2 : d < 90) : 0 < Real.cos (d * (Real.pi / 180)) := by
  have hu : 0 < Real.pi / 180 := div_pos Real.pi_pos (by norm_num)
  have e : Real.pi / 2 = 90 * (Real.pi / 180) := by ring
  refine Real.cos_pos_of_mem_Ioo ⟨?_, ?_⟩
  · rw [e, ← neg_mul]
    exact mul_lt_mul_of_pos_right h1 hu
  · rw [e]
    exact mul_lt_mul_of_pos_right h2 hu

/-- slicing at `n` a list zipped with `n` points followed by the rest separates the two parts -/
theorem take_drop_zipWith_append {β γ δ : Type} (f : β → γ → δ) (xs : List β) (p q : List γ) (n : ℕ)
    (hp : p.length = n) :
    (List.zipWith f xs (p ++ q)).take n = List.zipWith f (xs.take n) p ∧
    (List.zipWith f xs (p ++ q)).drop n = List.zipWith f (xs.drop n) q := by
  rw [List.take_zipWith, List.drop_zipWith, List.take_left' hp, List.drop_left' hp]
  exact ⟨rfl, rfl⟩

end WfProofs
