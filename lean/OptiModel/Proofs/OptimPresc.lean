import OptiModel.Model.Presc
import OptiModel.Proofs.NumReal
import Mathlib.Tactic.Ring
/-! What the setters of the prescription do to a look-up: lists under `modifyAt` and `assignZ`, and
`set_thickness` on the vector of vertex positions.  The read/write laws of the variables
(`Proofs/Optim.lean` for the optimisation layer, `Proofs/TolerPresc.lean` for tolerancing) rest on these;
nothing here is about the optimiser itself (the namespace `OptimProofs` is shared with `Proofs/Optim.lean`). -/
namespace OptimProofs
open Model

/-! ### lists -/
section Lists
variable {β γ : Type}

theorem getElem?_modifyAt (l : List β) (k j : Nat) (f : β → β) :
    (modifyAt l k f)[j]? = (l[j]?).map fun x => if j = k then f x else x := by
  simp [modifyAt, List.getElem?_mapIdx]

theorem length_modifyAt (l : List β) (k : Nat) (f : β → β) : (modifyAt l k f).length = l.length := by
  simp [modifyAt]

theorem getD_map (l : List β) (g : β → γ) (j : Nat) (d : γ) :
    (l.map g).getD j d = (l[j]?.map g).getD d := by
  rw [List.getD_eq_getElem?_getD, List.getElem?_map]

/-- reading entry `j` of a column after entry `k` has been modified -/
theorem getD_map_modifyAt (l : List β) (k : Nat) (f : β → β) (g : β → γ) (j : Nat) (d : γ) :
    ((modifyAt l k f).map g).getD j d = (l[j]?.map fun x => g (if j = k then f x else x)).getD d := by
  rw [getD_map, getElem?_modifyAt, Option.map_map]
  rfl

theorem getD_map_modifyAt_self (l : List β) (k : Nat) (f : β → β) (g : β → γ) (d : γ) (hk : k < l.length) :
    ((modifyAt l k f).map g).getD k d = g (f l[k]) := by
  rw [getD_map_modifyAt, List.getElem?_eq_getElem hk, Option.map_some, Option.getD_some, if_pos rfl]

theorem getD_modifyAt (l : List β) (k : Nat) (f : β → β) (j : Nat) (d : β) :
    (modifyAt l k f).getD j d = (l[j]?.map fun x => if j = k then f x else x).getD d := by
  rw [List.getD_eq_getElem?_getD, getElem?_modifyAt]

/-- a column that `f` does not change (at the entry it is applied to) stays as it is -/
theorem map_modifyAt (l : List β) (k : Nat) (f : β → β) (g : β → γ)
    (h : ∀ x, l[k]? = some x → g (f x) = g x) : (modifyAt l k f).map g = l.map g := by
  apply List.ext_getElem?
  intro j
  rw [List.getElem?_map, List.getElem?_map, getElem?_modifyAt, Option.map_map]
  cases hx : l[j]? with
  | none => rfl
  | some x =>
    by_cases e : j = k
    · subst e
      simp only [Option.map_some, Function.comp, if_true, h x hx]
    · simp only [Option.map_some, Function.comp, e, if_false]

/-- … and a column to which `f` gives the value `c` is rewritten at that entry -/
theorem map_modifyAt_const (l : List β) (k : Nat) (f : β → β) (g : β → γ) (c : γ) (h : ∀ x, g (f x) = c) :
    (modifyAt l k f).map g = modifyAt (l.map g) k fun _ => c := by
  apply List.ext_getElem?
  intro j
  rw [List.getElem?_map, getElem?_modifyAt, getElem?_modifyAt, List.getElem?_map, Option.map_map, Option.map_map]
  cases l[j]? with
  | none => rfl
  | some x => by_cases e : j = k <;> simp [e, h]

theorem modifyAt_twice (l : List β) (k : Nat) (f g h : β → β) (e : ∀ x, f (g x) = h x) :
    modifyAt (modifyAt l k g) k f = modifyAt l k h := by
  apply List.ext_getElem?
  intro j
  rw [getElem?_modifyAt, getElem?_modifyAt, getElem?_modifyAt, Option.map_map]
  cases l[j]? with
  | none => rfl
  | some x => by_cases c : j = k <;> simp [c, e]

theorem mem_modifyAt (l : List β) (k : Nat) (f : β → β) (t : β) (h : t ∈ modifyAt l k f) :
    ∃ x, x ∈ l ∧ (t = x ∨ t = f x) := by
  obtain ⟨j, hj⟩ := List.mem_iff_getElem?.mp h
  rw [getElem?_modifyAt] at hj
  cases hx : l[j]? with
  | none => simp [hx] at hj
  | some x =>
    simp only [hx, Option.map_some, Option.some.injEq] at hj
    refine ⟨x, List.mem_of_getElem? hx, ?_⟩
    split at hj
    · exact Or.inr hj.symm
    · exact Or.inl hj.symm

theorem getD_of_length_le (l : List γ) (d : γ) (n : Nat) (h : l.length ≤ n) : l.getD n d = d := by
  rw [List.getD_eq_getElem?_getD, List.getElem?_eq_none h]; rfl

theorem list_ext_getD (d : γ) (l1 l2 : List γ) (hl : l1.length = l2.length)
    (h : ∀ i, i < l1.length → l1.getD i d = l2.getD i d) : l1 = l2 := by
  apply List.ext_getElem hl
  intro i h1 h2
  have := h i h1
  simpa [List.getD_eq_getElem?_getD, List.getElem?_eq_getElem h1, List.getElem?_eq_getElem h2] using this

end Lists

/-! ### `assignZ` -/

theorem getElem?_assignZ (ss : List (SRec ℝ)) (pos : List ℝ) (j : Nat) :
    (assignZ ss pos)[j]? = ss[j]?.map fun s => { s with z := pos.getD j s.z } := by
  unfold assignZ
  rw [List.getElem?_mapIdx]

/-- a column that does not look at `z` stays as it is -/
theorem map_assignZ {γ : Type} (ss : List (SRec ℝ)) (pos : List ℝ) (g : SRec ℝ → γ)
    (h : ∀ (s : SRec ℝ) (z : ℝ), g { s with z := z } = g s) : (assignZ ss pos).map g = ss.map g := by
  apply List.ext_getElem?
  intro j
  rw [List.getElem?_map, List.getElem?_map, getElem?_assignZ]
  cases ss[j]? <;> simp [h]

theorem map_z_assignZ (ss : List (SRec ℝ)) (pos : List ℝ) (h : pos.length = ss.length) :
    (assignZ ss pos).map (·.z) = pos := by
  apply List.ext_getElem (by simp [assignZ, h])
  intro j h1 h2
  simp [assignZ, List.getD_eq_getElem?_getD, List.getElem?_eq_getElem h2]

/-- `set_index` gives two records the fresh identifier and leaves all other identifiers alone -/
theorem mem_setIndex (P : Presc ℝ) (x : ℝ) (k : Nat) (t : SRec ℝ) (h : t ∈ (setIndex P x k).surfs) :
    ∃ s ∈ P.surfs, (t.mPre = s.mPre ∨ t.mPre = P.mats.length) ∧ (t.mPost = s.mPost ∨ t.mPost = P.mats.length) := by
  obtain ⟨u, hu, h1⟩ := mem_modifyAt _ _ _ _ h
  obtain ⟨s, hs, h2⟩ := mem_modifyAt _ _ _ _ hu
  refine ⟨s, hs, ?_⟩
  rcases h1 with rfl | rfl <;> rcases h2 with rfl | rfl
  exacts [⟨.inl rfl, .inl rfl⟩, ⟨.inl rfl, .inr rfl⟩, ⟨.inr rfl, .inl rfl⟩, ⟨.inr rfl, .inr rfl⟩]

/-! ### `set_thickness` on the vector of vertex positions -/

/-- `positions[k+1:] += d` -/
def bump (pos : List ℝ) (k : Nat) (d : ℝ) : List ℝ :=
  pos.mapIdx fun i z => if k + 1 ≤ i then z + d else z

theorem setThicknessPos_eq (pos : List ℝ) (v : ℝ) (k : Nat) :
    setThicknessPos pos v k =
      (bump pos k (v - pos.getD (k+1) 0 + pos.getD k 0)).map fun z =>
        z - (bump pos k (v - pos.getD (k+1) 0 + pos.getD k 0)).getD 1 0 := rfl

theorem getD_bump (pos : List ℝ) (k i : Nat) (d : ℝ) (hi : i < pos.length) :
    (bump pos k d).getD i 0 = if k + 1 ≤ i then pos.getD i 0 + d else pos.getD i 0 := by
  simp [bump, List.getD_eq_getElem?_getD, hi]

theorem getD_map_sub (l : List ℝ) (c : ℝ) (i : Nat) (h : i < l.length) :
    (l.map fun z => z - c).getD i 0 = l.getD i 0 - c := by
  simp [List.getD_eq_getElem?_getD, List.getElem?_eq_getElem h]

theorem length_setThicknessPos (pos : List ℝ) (v : ℝ) (k : Nat) :
    (setThicknessPos pos v k).length = pos.length := by
  simp [setThicknessPos_eq, bump]

theorem getD_setThicknessPos (pos : List ℝ) (v : ℝ) (k i : Nat) (hi : i < pos.length) :
    (setThicknessPos pos v k).getD i 0 =
      (bump pos k (v - pos.getD (k+1) 0 + pos.getD k 0)).getD i 0
        - (bump pos k (v - pos.getD (k+1) 0 + pos.getD k 0)).getD 1 0 := by
  rw [setThicknessPos_eq]
  exact getD_map_sub _ _ _ (by simpa [bump] using hi)

/-- thickness `k` reads back, every other thickness is kept (the common shift by the new `z` of
surface 1 drops out of a difference) -/
theorem thick_setThicknessPos (pos : List ℝ) (v : ℝ) (k j : Nat) (hj : j + 1 < pos.length) :
    (setThicknessPos pos v k).getD (j+1) 0 - (setThicknessPos pos v k).getD j 0
      = if j = k then v else pos.getD (j+1) 0 - pos.getD j 0 := by
  rw [getD_setThicknessPos pos v k (j+1) hj, getD_setThicknessPos pos v k j (by omega),
    getD_bump pos k (j+1) _ hj, getD_bump pos k j _ (by omega)]
  by_cases h : j = k
  · subst h
    rw [if_pos le_rfl, if_neg (by omega), if_pos rfl]; ring
  · rw [if_neg h]
    by_cases h1 : k + 1 ≤ j
    · rw [if_pos h1, if_pos (by omega)]; ring
    · rw [if_neg h1, if_neg (by omega)]; ring

/-- `set_thickness` puts surface 1 at `z = 0` -/
theorem getD_one_setThicknessPos (pos : List ℝ) (v : ℝ) (k : Nat) : (setThicknessPos pos v k).getD 1 0 = 0 := by
  by_cases h : 1 < pos.length
  · rw [getD_setThicknessPos _ _ _ _ h]; exact sub_self _
  · exact getD_of_length_le _ _ _ (by rw [length_setThicknessPos]; omega)

/-- a vector of vertex positions is determined by its length, the position of surface 1 and the
thicknesses: one step down from surface 1 to the object, step by step up to the image -/
theorem positions_ext (p q : List ℝ) (hl : p.length = q.length) (h2 : 2 ≤ p.length)
    (h1 : p.getD 1 0 = q.getD 1 0)
    (hd : ∀ i, i + 1 < p.length → p.getD (i+1) 0 - p.getD i 0 = q.getD (i+1) 0 - q.getD i 0) : p = q := by
  have both : ∀ i, i + 1 < p.length → p.getD i 0 = q.getD i 0 ∧ p.getD (i+1) 0 = q.getD (i+1) 0 := by
    intro i
    induction i with
    | zero =>
      intro h0
      have : p.getD 1 0 - p.getD 0 0 = q.getD 1 0 - q.getD 0 0 := hd 0 h0
      rw [h1] at this
      exact ⟨sub_right_injective this, h1⟩
    | succ i ih =>
      intro hi
      have e := (ih (by omega)).2
      have := hd (i+1) hi
      rw [e] at this
      exact ⟨e, sub_left_injective this⟩
  refine list_ext_getD 0 p q hl fun i hi => ?_
  match i with
  | 0 => exact (both 0 (by omega)).1
  | i+1 => exact (both i hi).2

/-- positions after `set_thickness` are the transformed position vector -/
theorem positions_setThickness (P : Presc ℝ) (v : ℝ) (k : Nat) :
    positions (setThickness P v k) = setThicknessPos (positions P) v k :=
  map_z_assignZ _ _ (by rw [length_setThicknessPos]; simp [positions])

theorem thickness_setThickness (P : Presc ℝ) (a : ℝ) (k j : Nat) (hj : j + 1 < P.surfs.length) :
    thickness (setThickness P a k) j = if j = k then a else thickness P j := by
  unfold thickness posAt
  rw [positions_setThickness]
  exact thick_setThicknessPos _ a k j (by simpa [positions] using hj)

end OptimProofs
