import OptiModel.Model.Serial
/-! Helper lemmas for C19: every component's `from_dict ∘ to_dict`.  Core Lean only. -/
set_option linter.unusedSectionVars false
namespace Serial
variable {ν : Type} [Num ν]

@[simp] theorem bind_ok {α β : Type} (a : α) (f : α → R β) : (Except.ok a >>= f) = f a := rfl
@[simp] theorem bind_error {α β : Type} (e : String) (f : α → R β) : ((Except.error e : R α) >>= f) = .error e := rfl
@[simp] theorem map_ok' {α β : Type} (f : α → β) (a : α) : Except.map f (Except.ok a : R α) = .ok (f a) := rfl
@[simp] theorem map_error' {α β : Type} (f : α → β) (e : String) : Except.map f (Except.error e : R α) = .error e := rfl
@[simp] theorem pure_ok {α : Type} (a : α) : (pure a : R α) = .ok a := rfl

theorem lookup_cons (key k : String) (v : J ν) (rest : List (String × J ν)) :
    J.lookup key ((k, v) :: rest) = if k = key then some v else J.lookup key rest := rfl
theorem req_cons (key k : String) (v : J ν) (rest : List (String × J ν)) :
    req key ((k, v) :: rest) = if k = key then .ok v else req key rest := by
  by_cases h : k = key <;> simp only [req, lookup_cons, h, if_true, if_false]
theorem getD_cons (key k : String) (v d : J ν) (rest : List (String × J ν)) :
    getD key ((k, v) :: rest) d = if k = key then v else getD key rest d := by
  by_cases h : k = key <;> simp only [getD, lookup_cons, h, if_true, if_false, Option.getD_some]
theorem getD_nil (key : String) (d : J ν) : getD key [] d = d := rfl

/-- `read_keys [defs, lemmas]` runs a reader on a written dictionary: the literal keys are looked up (`req`, `getD`,
`J.lookup` on a `::` list, the string comparisons decided), the leaves read, the `Except` binds of successful steps
carried out; `defs` are the reader and writer to unfold, `lemmas` the round trips of the components. -/
macro "read_keys" "[" ls:Lean.Parser.Tactic.simpLemma,* "]" loc:(Lean.Parser.Tactic.location)? : tactic =>
  `(tactic| simp only [lookup_cons, req_cons, getD_cons, getD_nil, asObj, asNum, asNat, asBool, asStr, asArr,
      bind_ok, pure_ok, map_ok', String.reduceEq, ↓reduceIte, $ls,*] $[$loc]?)

theorem mapE_map {α β γ : Type} (f : β → R γ) (g : α → β) (r : α → γ) (l : List α)
    (h : ∀ a ∈ l, f (g a) = .ok (r a)) : mapE f (l.map g) = .ok (l.map r) := by
  induction l with
  | nil => rfl
  | cons a as ih =>
    simp only [List.map_cons, mapE, h a List.mem_cons_self, ih fun b hb => h b (List.mem_cons_of_mem _ hb)]

theorem mapE_map_self {α β : Type} (f : β → R α) (g : α → β) (h : ∀ a, f (g a) = .ok a) (l : List α) :
    mapE f (l.map g) = .ok l := by
  simpa only [List.map_id] using mapE_map f g id l fun a _ => h a

theorem mapE_asNum (l : List ν) : mapE asNum (l.map J.num) = .ok l := mapE_map_self asNum J.num (fun _ => rfl) l

theorem asZ_zToJ (z : ZRep ν) : asZ (zToJ z) = .ok z := by
  cases z <;> rfl

theorem frameFrom_frameKV (f : Frame ν) (ref : J ν) : frameFrom (frameKV f ref) = .ok f := by
  read_keys [frameFrom, frameKV, asZ_zToJ]

theorem refOf_frameKV (f : Frame ν) (ref : J ν) :
    refOf (frameKV f ref) = some (if J.truthy ref then some (csFrom ref) else none) := by
  simp only [frameKV, refOf, String.reduceEq, ↓reduceIte]

theorem truthy_csToDict (c : CsRec ν) : J.truthy (csToDict c) = true := by
  cases c <;> rfl

/-- `CoordinateSystem.from_dict(cs.to_dict()) = cs` -/
theorem csFrom_csToDict (c : CsRec ν) : csFrom (csToDict c) = .ok c := by
  induction c with
  | root f => simp only [csToDict, csFrom, refOf_frameKV, J.truthy, frameFrom_frameKV, map_ok', Bool.false_eq_true, ↓reduceIte]
  | child f r ih => simp only [csToDict, csFrom, refOf_frameKV, truthy_csToDict, ih, frameFrom_frameKV, map_ok', ↓reduceIte]

theorem coefFrom_coefToJ (c : CoefRep ν) : coefFrom (coefToJ c) = .ok c := by
  cases c
  · simp only [coefToJ, coefFrom, numsJ, mapE_asNum, map_ok']
  · rfl

theorem rowFrom_numsJ (r : List ν) : rowFrom (numsJ r) = .ok r := mapE_asNum r

/-- a geometry as `from_dict` rebuilds it: the transient `k` of a `Plane` is not in the dictionary -/
def GeomRec.reloaded : GeomRec ν → GeomRec ν
  | .plane cs _ => .plane cs none
  | g => g

/-- matrices are what `np.atleast_2d` returns -/
def GeomRec.wf : GeomRec ν → Bool
  | .polynomial _ _ _ _ _ c => rect c
  | .chebyshev _ _ _ _ _ c _ _ => rect c
  | _ => true

/-- `np.atleast_2d(c.tolist())` gives `c` back for a non-empty rectangular matrix -/
theorem matrixFrom_matrixJ (c : List (List ν)) (h : rect c = true) : matrixFrom (matrixJ c) = .ok c := by
  cases c with
  | nil => cases h
  | cons r rs =>
    have hm : mapE rowFrom (numsJ r :: rs.map numsJ) = .ok (r :: rs) := mapE_map_self rowFrom numsJ rowFrom_numsJ (r :: rs)
    simp only [matrixJ, List.map_cons, matrixFrom]
    rw [show isNumJ (numsJ r) = false from rfl]
    simp only [hm, h, Bool.false_eq_true, ↓reduceIte]

theorem geomFrom_geomToDict (g : GeomRec ν) (h : g.wf = true) :
    geomFrom (geomToDict g) = .ok g.reloaded := by
  cases g with
  | polynomial | chebyshev =>
    read_keys [geomToDict, geomFrom, csFrom_csToDict, matrixFrom_matrixJ _ h, GeomRec.reloaded, or_false, or_true,
      true_or]
  | _ =>
    read_keys [geomToDict, geomFrom, csFrom_csToDict, coefFrom_coefToJ, GeomRec.reloaded, or_false, or_true,
      true_or]

/-- the object was made by the same catalogue lookup that `from_dict` performs -/
def MatRec.wf (env : Env ν) : MatRec ν → Prop
  | .material fn name ref robust lo hi => env.lookup name ref robust lo hi = .ok fn
  | _ => True

theorem asOptStr_optStrJ (o : Option String) : asOptStr (optStrJ o : J ν) = .ok o := by
  cases o <;> rfl
theorem asOptNum_optNumJ (o : Option ν) : asOptNum (optNumJ o) = .ok o := by
  cases o <;> rfl

theorem matFrom_matToDict (env : Env ν) (m : MatRec ν) (h : m.wf env) : matFrom env (matToDict m) = .ok m := by
  cases m with
  | material fn name ref robust lo hi =>
    read_keys [matToDict, matFrom, asOptStr_optStrJ, asOptNum_optNumJ, show env.lookup name ref robust lo hi = .ok fn from h]
  | _ => rfl

theorem apFrom_apToDict (a : ApRec ν) : apFrom (apToDict a) = .ok a := by
  cases a; rfl

theorem bsdfFrom_bsdfToDict (b : BsdfRec ν) : bsdfFrom (bsdfToDict b) = .ok b := by
  cases b <;> rfl

def CoatRec.wf (env : Env ν) : CoatRec ν → Prop
  | .simple _ _ => True
  | .fresnel pre post => pre.wf env ∧ post.wf env

/-- a Fresnel coating comes back when the reader `md` reads the form `mj` in which its two materials are written -/
theorem coatFrom_fresnel (md : Mode) (env : Env ν) (mj : MatRec ν → J ν)
    (hm : ∀ m, m.wf env → matObjFrom md env (mj m) = .ok m) (pre post : MatRec ν)
    (h : (CoatRec.fresnel pre post).wf env) :
    coatFrom md env (.obj [("type", .str "FresnelCoating"), ("material_pre", mj pre), ("material_post", mj post)]) =
      .ok (.fresnel pre post) := by
  read_keys [coatFrom, hm pre h.1, hm post h.2]

/-- in memory: the material objects are handed through -/
theorem coatFrom_code (env : Env ν) (c : CoatRec ν) (h : c.wf env) :
    coatFrom .code env (coatToDict_code c) = .ok c := by
  cases c with
  | simple t r => rfl
  | fresnel pre post => exact coatFrom_fresnel .code env matObj (matFrom_matToDict env) pre post h

theorem matToDict_not_pyobj (m : MatRec ν) : ∀ c d, matToDict m ≠ .pyobj c d := by
  intro c d; cases m <;> simp [matToDict]

/-- a material that is written as a dictionary: read as one exactly when the reader expects dictionaries -/
theorem matObjFrom_matToDict (md : Mode) (env : Env ν) (m : MatRec ν) :
    matObjFrom md env (matToDict m) =
      if md.liveObjects then .error "unusable coating: material is a dict, not a material object"
      else matFrom env (matToDict m) := by
  cases m <;> rfl

theorem coatFrom_spec (env : Env ν) (c : CoatRec ν) (h : c.wf env) :
    coatFrom .spec env (coatToDict_spec c) = .ok c := by
  cases c with
  | simple t r => rfl
  | fresnel pre post =>
    exact coatFrom_fresnel .spec env matToDict
      (fun m hm => (matObjFrom_matToDict ..).trans (matFrom_matToDict env m hm)) pre post h

theorem optFrom_optJ {α : Type} (f : J ν → R α) (g : α → J ν) (o : Option α)
    (hf : ∀ a, o = some a → f (g a) = .ok a) (ht : ∀ a, J.truthy (g a) = true) :
    optFrom f (optJ g o) = .ok o := by
  cases o with
  | none => rfl
  | some a => simp only [optJ, optFrom, ht a, hf a rfl, map_ok', ↓reduceIte]

theorem optFrom_null {α : Type} (f : J ν → R α) : optFrom f .null = .ok none := rfl

theorem truthy_apToDict (a : ApRec ν) : J.truthy (apToDict a) = true := by cases a; rfl
theorem truthy_bsdfToDict (a : BsdfRec ν) : J.truthy (bsdfToDict a) = true := by cases a <;> rfl
theorem truthy_coat_code (a : CoatRec ν) : J.truthy (coatToDict_code a) = true := by cases a <;> rfl
theorem truthy_coat_spec (a : CoatRec ν) : J.truthy (coatToDict_spec a) = true := by cases a <;> rfl

def optWf {α : Type} (P : α → Prop) : Option α → Prop
  | none => True
  | some a => P a

def SurfRec.wf (env : Env ν) : SurfRec ν → Prop
  | .object g post => g.wf = true ∧ post.wf env
  | .standard g pre post _ _ coat _ _ => g.wf = true ∧ pre.wf env ∧ post.wf env ∧ optWf (CoatRec.wf env) coat
  | .image g pre _ => g.wf = true ∧ pre.wf env

def SurfRec.isImage : SurfRec ν → Bool
  | .image .. => true
  | _ => false

/-- a surface as `from_dict` rebuilds it -/
def SurfRec.reloaded : SurfRec ν → SurfRec ν
  | .object g post => .object g.reloaded post
  | .standard g pre post st ap c b r => .standard g.reloaded pre post st ap c b r
  | .image g pre ap => .image g.reloaded pre ap

/-- a reader `md` and a coating writer `coat` that fit together rebuild every surface the reader has a
constructor call for -/
theorem surfFrom_surfToDictWith (md : Mode) (env : Env ν) (coat : CoatRec ν → J ν)
    (hcoat : ∀ c, c.wf env → coatFrom md env (coat c) = .ok c) (ht : ∀ c, J.truthy (coat c) = true)
    (s : SurfRec ν) (h : s.wf env) (hi : s.isImage = true → md.imageRaises = false) :
    surfFrom md env (surfToDictWith coat s) = .ok s.reloaded := by
  have ha (ap : Option (ApRec ν)) : optFrom apFrom (optJ apToDict ap) = .ok ap :=
    optFrom_optJ _ _ ap (fun a _ => apFrom_apToDict a) truthy_apToDict
  cases s with
  | object g post =>
    read_keys [surfToDictWith, surfFrom, geomFrom_geomToDict g h.1, matFrom_matToDict env post h.2,
      SurfRec.reloaded]
  | standard g pre post st ap c b r =>
    have hc : optFrom (coatFrom md env) (optJ coat c) = .ok c :=
      optFrom_optJ _ _ c (fun a e => hcoat a (by have := h.2.2.2; rwa [e] at this)) ht
    have hb : optFrom bsdfFrom (optJ bsdfToDict b) = .ok b :=
      optFrom_optJ _ _ b (fun a _ => bsdfFrom_bsdfToDict a) truthy_bsdfToDict
    read_keys [surfToDictWith, surfFrom, geomFrom_geomToDict g h.1, matFrom_matToDict env pre h.2.1,
      matFrom_matToDict env post h.2.2.1, hc, ha, hb, SurfRec.reloaded]
  | image g pre ap =>
    read_keys [surfToDictWith, surfFrom, geomFrom_geomToDict g h.1, matFrom_matToDict env pre h.2, ha,
      optFrom_null, hi rfl, Bool.false_eq_true, SurfRec.reloaded]

theorem surfFrom_code (env : Env ν) (s : SurfRec ν) (h : s.wf env) (hi : s.isImage = false) :
    surfFrom .code env (surfToDictWith coatToDict_code s) = .ok s.reloaded :=
  surfFrom_surfToDictWith .code env _ (coatFrom_code env) truthy_coat_code s h (by rw [hi]; exact nofun)

theorem surfFrom_spec (env : Env ν) (s : SurfRec ν) (h : s.wf env) :
    surfFrom .spec env (surfToDictWith coatToDict_spec s) = .ok s.reloaded :=
  surfFrom_surfToDictWith .spec env _ (coatFrom_spec env) truthy_coat_spec s h fun _ => rfl

theorem bind_eq_ok {α β : Type} {x : R α} {f : α → R β} {b : β} (h : (x >>= f) = .ok b) :
    ∃ a, x = .ok a ∧ f a = .ok b := by
  cases x with
  | error e => cases h
  | ok a => exact ⟨a, rfl, h⟩

/-- whatever else the dictionary holds: type tag `ImageSurface` ⇒ the code raises -/
theorem surfFrom_code_imageType (env : Env ν) (kv : List (String × J ν))
    (h : J.lookup "type" kv = some (.str "ImageSurface")) : ∀ s, surfFrom .code env (.obj kv) ≠ .ok s := by
  intro s hs
  simp only [surfFrom, asObj, bind_ok, h, asStr, String.reduceEq, ↓reduceIte] at hs
  repeat (obtain ⟨_, _, hs⟩ := bind_eq_ok hs)
  cases hs

/-- the code cannot rebuild an `ImageSurface` -/
theorem surfFrom_code_image (env : Env ν) (g : GeomRec ν) (pre : MatRec ν) (ap : Option (ApRec ν)) :
    ∀ s, surfFrom .code env (surfToDictWith coatToDict_code (.image g pre ap)) ≠ .ok s :=
  surfFrom_code_imageType env _ rfl

theorem fieldFrom_fieldToDict (f : FieldRec ν) : fieldFrom (fieldToDict f) = .ok f := by
  read_keys [fieldToDict, fieldFrom, asOptStr_optStrJ]

theorem PickAttr_parse_name (a : PickAttr) : PickAttr.parse a.name = .ok a := by
  cases a <;> simp only [PickAttr.name, PickAttr.parse, String.reduceEq, ↓reduceIte]
theorem WUnit_parse_name (u : WUnit) : WUnit.parse u.name = .ok u := by
  cases u <;> simp only [WUnit.name, WUnit.parse, String.reduceEq, ↓reduceIte]
theorem ApType_parse_name (t : ApType) : ApType.parse t.name = .ok t := by
  cases t <;> simp only [ApType.name, ApType.parse, String.reduceEq, ↓reduceIte]

theorem pickFrom_pickToDict (p : PickRec ν) : pickFrom (pickToDict p) = .ok p := by
  read_keys [pickToDict, pickFrom, PickAttr_parse_name, List.all_cons, List.all_nil, decide_true, Bool.true_or,
    Bool.or_true, Bool.and_true, Bool.not_true, Bool.false_eq_true]

theorem solveFrom_solveToDict (s : SolveRec ν) : solveFrom (solveToDict s) = .ok s := by
  read_keys [solveToDict, solveFrom]

theorem waveArgs_waveToDict (w : WaveRec ν) : waveArgs (waveToDict w) = .ok w := by
  read_keys [waveToDict, waveArgs, WUnit_parse_name, List.all_cons, List.all_nil, decide_true, Bool.true_or,
    Bool.or_true, Bool.and_true, Bool.not_true, Bool.false_eq_true]

theorem polFrom_code (p : PolRec ν) : polFrom .code (polToJ_code p) = .ok p := by
  cases p with
  | ignore => rfl
  | state => read_keys [polToJ_code, polFrom, Mode.code, asOptNum_optNumJ, and_self]

theorem polFrom_spec (p : PolRec ν) : polFrom .spec (polToJ_spec p) = .ok p := by
  cases p with
  | ignore => rfl
  | state => read_keys [polToJ_spec, polFrom, Mode.spec, asOptNum_optNumJ, Bool.false_eq_true]

def allFalse (l : List (WaveRec ν)) : Prop := ∀ w ∈ l, w.primary = false

theorem eta_primary (w : WaveRec ν) (b : Bool) (h : w.primary = b) : ({ w with primary := b } : WaveRec ν) = w := by
  subst h; rfl

theorem foldl_addWave_allFalse (l acc : List (WaveRec ν)) (hacc : acc ≠ []) (hl : allFalse l) :
    l.foldl addWave acc = acc ++ l := by
  induction l generalizing acc with
  | nil => simp
  | cons w ws ih =>
    have hw : w.primary = false := hl w (by simp)
    have hws : allFalse ws := fun v hv => hl v (by simp [hv])
    have h1 : addWave acc w = acc ++ [w] := by
      cases acc with
      | nil => exact absurd rfl hacc
      | cons a as => simp [addWave, hw, eta_primary w _ hw]
    simp only [List.foldl_cons, h1]
    rw [ih (acc ++ [w]) (by simp) hws]
    simp

theorem map_clear_allFalse (l : List (WaveRec ν)) (h : allFalse l) : l.map clearPrimary = l := by
  simpa using List.map_congr_left (f := clearPrimary) (g := id) fun w hw => eta_primary w false (h w hw)

/-- exactly one primary wavelength: the list is a fixed point of replaying `add_wavelength` -/
theorem foldl_addWave_wf (l1 l2 : List (WaveRec ν)) (w : WaveRec ν) (h1 : allFalse l1) (hw : w.primary = true)
    (h2 : allFalse l2) : (l1 ++ [w] ++ l2).foldl addWave [] = l1 ++ [w] ++ l2 := by
  cases l1 with
  | nil =>
    have : addWave [] w = [w] := by simp [addWave, hw, eta_primary w _ hw]
    simp only [List.nil_append, List.cons_append, List.foldl_cons, this]
    exact foldl_addWave_allFalse l2 [w] (by simp) h2
  | cons a as =>
    have ha : a.primary = false := h1 a (by simp)
    have has : allFalse as := fun v hv => h1 v (by simp [hv])
    have e0 : addWave [] a = [{ a with primary := true }] := by simp [addWave, ha]
    have e1 : as.foldl addWave [{ a with primary := true }] = { a with primary := true } :: as := by
      simpa using foldl_addWave_allFalse as [{ a with primary := true }] (by simp) has
    have e2 : addWave ({ a with primary := true } :: as) w = a :: as ++ [w] := by
      simp [addWave, hw, clearPrimary, eta_primary a _ ha, map_clear_allFalse as has, eta_primary w _ hw]
    have e3 : l2.foldl addWave (a :: as ++ [w]) = (a :: as ++ [w]) ++ l2 :=
      foldl_addWave_allFalse l2 _ (by simp) h2
    simp only [List.cons_append, List.foldl_cons, List.foldl_append, e0, e1, e2]
    simpa using e3

/-- the flags of a wavelength list: none, or exactly one primary -/
def WavesWf (ws : List (WaveRec ν)) : Prop :=
  ws = [] ∨ ∃ l1 w l2, ws = l1 ++ [w] ++ l2 ∧ allFalse l1 ∧ w.primary = true ∧ allFalse l2

theorem wavesFrom_waves (ws : List (WaveRec ν)) (h : WavesWf ws) :
    wavesFrom (ws.map waveToDict) = .ok ws := by
  rw [wavesFrom, mapE_map_self _ _ waveArgs_waveToDict]
  rcases h with rfl | ⟨l1, w, l2, rfl, h1, hw, h2⟩
  · rfl
  · rw [map_ok', foldl_addWave_wf l1 l2 w h1 hw h2]

def SysAp.wf (a : SysAp ν) : Prop := ¬ ((a.ty = .EPD ∨ a.ty = .imageFNO) ∧ a.telecentric = true)

theorem sysApFrom_some (m : Mode) (a : SysAp ν) (h : a.wf) :
    sysApFrom m (optJ sysApToDict (some a)) = .ok (some a) := by
  read_keys [optJ, sysApToDict, sysApFrom, ApType_parse_name, show ¬ ((a.ty = .EPD ∨ a.ty = .imageFNO) ∧ a.telecentric = true) from h]

theorem sysApFrom_none_code : sysApFrom Mode.code (optJ sysApToDict (none : Option (SysAp ν))) =
    .error "TypeError: 'NoneType' object is not iterable" := rfl

theorem sysApFrom_none_spec : sysApFrom Mode.spec (optJ sysApToDict (none : Option (SysAp ν))) = .ok none := rfl

/-- every component is what its constructor makes it -/
structure Wf (env : Env ν) (p : LensRec ν) : Prop where
  surfaces : ∀ s ∈ p.surfaces, s.wf env
  waves : WavesWf p.waves
  aperture : ∀ a, p.aperture = some a → a.wf

def reloadedSurfaces (p : LensRec ν) : List (SurfRec ν) := p.surfaces.map SurfRec.reloaded

theorem mapE_ok_mem {α β : Type} (f : α → R β) (l : List α) (bs : List β) (h : mapE f l = .ok bs) :
    ∀ a ∈ l, ∃ b, f a = .ok b := by
  induction l generalizing bs with
  | nil => intro a ha; simp at ha
  | cons x xs ih =>
    intro a ha
    simp only [mapE] at h
    cases hx : f x with
    | error e => simp [hx] at h
    | ok b =>
      cases hxs : mapE f xs with
      | error e => simp [hx, hxs] at h
      | ok bs' =>
        rcases List.mem_cons.mp ha with rfl | hmem
        · exact ⟨b, hx⟩
        · exact ih bs' hxs a hmem

/-- `Optic.from_dict` on a written dictionary, every key resolved: what is left are the readers of the parts that
can fail or change (aperture, surfaces, wavelength flags, the pickups applied again, polarization) -/
theorem fromDictWith_toDictWith (md : Mode) (env : Env ν) (coat : CoatRec ν → J ν) (pol : PolRec ν → J ν)
    (p : LensRec ν) :
    fromDictWith md env (toDictWith coat pol p) =
      sysApFrom md (optJ sysApToDict p.aperture) >>= fun ap =>
      mapE (surfFrom md env) (p.surfaces.map (surfToDictWith coat)) >>= fun ss =>
      wavesFrom (p.waves.map waveToDict) >>= fun ws =>
      (if md.reapplyPickups then applyPickups true ss p.pickups else pure ss) >>= fun ss =>
      polFrom md (pol p.polarization) >>= fun pl =>
      pure { p with aperture := ap, surfaces := ss, waves := ws, polarization := pl } := by
  read_keys [fromDictWith, toDictWith, mapE_map_self _ _ fieldFrom_fieldToDict,
    mapE_map_self _ _ pickFrom_pickToDict, mapE_map_self _ _ solveFrom_solveToDict, asOptStr_optStrJ]
  cases md.reapplyPickups <;> rfl

/-- `Optic.from_dict(lens.to_dict())` as the tree computes it: everything comes back as it was, except that a
`Plane` loses the attribute `set_conic` may have left on it and that every pickup is applied once more -/
theorem fromDict_toDict_code_general (env : Env ν) (p : LensRec ν) (h : Wf env p) (a : SysAp ν)
    (hap : p.aperture = some a) (hi : ∀ s ∈ p.surfaces, s.isImage = false) :
    fromDict_code env (toDict_code p) =
      (applyPickups true (reloadedSurfaces p) p.pickups).map (fun ss => { p with surfaces := ss }) := by
  rw [fromDict_code, toDict_code, fromDictWith_toDictWith, hap, sysApFrom_some _ a (h.aperture a hap),
    mapE_map _ _ _ _ fun s hs => surfFrom_code env s (h.surfaces s hs) (hi s hs), wavesFrom_waves _ h.waves,
    polFrom_code]
  simp only [bind_ok, show Mode.code.reapplyPickups = true from rfl, ↓reduceIte, reloadedSurfaces]
  cases applyPickups true (p.surfaces.map SurfRec.reloaded) p.pickups <;> rfl

theorem fromDict_toDict_spec_general (env : Env ν) (p : LensRec ν) (h : Wf env p) :
    fromDict_spec env (toDict_spec p) = .ok { p with surfaces := reloadedSurfaces p } := by
  have ha : sysApFrom Mode.spec (optJ sysApToDict p.aperture) = .ok p.aperture := by
    cases hp : p.aperture with
    | none => exact sysApFrom_none_spec
    | some a => exact sysApFrom_some _ a (h.aperture a hp)
  rw [fromDict_spec, toDict_spec, fromDictWith_toDictWith, ha,
    mapE_map _ _ _ _ fun s hs => surfFrom_spec env s (h.surfaces s hs), wavesFrom_waves _ h.waves, polFrom_spec]
  rfl

/-- the dictionary does not depend on the transient `k` of a `Plane` -/
theorem geomToDict_reloaded (g : GeomRec ν) : geomToDict g.reloaded = geomToDict g := by
  cases g <;> rfl

theorem surfToDict_reloaded (coat : CoatRec ν → J ν) (s : SurfRec ν) :
    surfToDictWith coat s.reloaded = surfToDictWith coat s := by
  cases s <;> simp [SurfRec.reloaded, surfToDictWith, geomToDict_reloaded]

theorem toDictWith_reloaded (coat : CoatRec ν → J ν) (pol : PolRec ν → J ν) (p : LensRec ν) :
    toDictWith coat pol { p with surfaces := reloadedSurfaces p } = toDictWith coat pol p := by
  simp [toDictWith, reloadedSurfaces, List.map_map, Function.comp_def, surfToDict_reloaded]

theorem reloaded_idem (s : SurfRec ν) : s.reloaded.reloaded = s.reloaded := by
  cases s with
  | object g post => cases g <;> rfl
  | standard g pre post st ap c b r => cases g <;> rfl
  | image g pre ap => cases g <;> rfl

/-! ### what `json.dump` accepts -/

def ZRep.isScalar : ZRep ν → Bool
  | .scalar _ => true
  | .arr1 _ => false

def CsRec.zScalar : CsRec ν → Bool
  | .root f => f.z.isScalar
  | .child f r => f.z.isScalar && r.zScalar

def CoefRep.isList : CoefRep ν → Bool
  | .list _ => true
  | .ndarray _ => false

def GeomRec.jsonable : GeomRec ν → Bool
  | .evenAsphere cs _ _ _ _ c => cs.zScalar && c.isList
  | g => g.cs.zScalar

def CoatRec.isSimple : CoatRec ν → Bool
  | .simple .. => true
  | .fresnel .. => false

def optAll {α : Type} (f : α → Bool) : Option α → Bool
  | none => true
  | some a => f a

def SurfRec.jsonableWith (coatOk : CoatRec ν → Bool) : SurfRec ν → Bool
  | .standard g _ _ _ _ c _ _ => g.jsonable && optAll coatOk c
  | s => s.geom.jsonable

def PolRec.isIgnore : PolRec ν → Bool
  | .ignore => true
  | .state .. => false

/-- the lenses whose dictionary form the code can write to a file -/
def jsonable_code (p : LensRec ν) : Bool :=
  p.surfaces.all (SurfRec.jsonableWith CoatRec.isSimple) && p.polarization.isIgnore

/-- after the repairs of `FresnelCoating.to_dict` and of the polarization entry -/
def jsonable_spec (p : LensRec ν) : Bool :=
  p.surfaces.all (SurfRec.jsonableWith fun _ => true)

attribute [local simp] J.jsonOk J.jsonOkKV optNumJ optStrJ

theorem jsonOkL_map {α : Type} (f : α → J ν) (l : List α) : J.jsonOkL (l.map f) = l.all (fun a => (f a).jsonOk) := by
  induction l with
  | nil => rfl
  | cons a as ih => simp [J.jsonOkL, ih]

@[simp] theorem jsonOk_optJ {α : Type} (f : α → J ν) (o : Option α) :
    (optJ f o).jsonOk = optAll (fun a => (f a).jsonOk) o := by cases o <;> rfl

@[simp] theorem optAll_true {α : Type} (o : Option α) : optAll (fun _ => true) o = true := by cases o <;> rfl

@[simp] theorem jsonOk_numsJ (l : List ν) : (numsJ l).jsonOk = true := by
  simp [numsJ, jsonOkL_map]

theorem jsonOk_csToDict (c : CsRec ν) : (csToDict c).jsonOk = c.zScalar := by
  have hz (z : ZRep ν) : (zToJ z).jsonOk = z.isScalar := by cases z <;> rfl
  induction c with
  | root f => simp [csToDict, frameKV, hz, CsRec.zScalar]
  | child f r ih => simp [csToDict, frameKV, hz, CsRec.zScalar, ih]

theorem jsonOk_geomToDict (g : GeomRec ν) : (geomToDict g).jsonOk = g.jsonable := by
  cases g with
  | evenAsphere cs r k t m c => cases c <;> simp [geomToDict, jsonOk_csToDict, GeomRec.jsonable, coefToJ, CoefRep.isList]
  | _ => simp [geomToDict, matrixJ, jsonOkL_map, jsonOk_csToDict, GeomRec.jsonable, GeomRec.cs]

@[simp] theorem jsonOk_matToDict (m : MatRec ν) : (matToDict m).jsonOk = true := by
  cases m <;> simp [matToDict]

theorem jsonOk_coat_code (c : CoatRec ν) : (coatToDict_code c).jsonOk = c.isSimple := by
  cases c <;> simp [coatToDict_code, matObj, CoatRec.isSimple]

theorem jsonOk_coat_spec (c : CoatRec ν) : (coatToDict_spec c).jsonOk = true := by
  cases c <;> simp [coatToDict_spec]

theorem jsonOk_surfToDict (coat : CoatRec ν → J ν) (ok : CoatRec ν → Bool) (h : ∀ c, (coat c).jsonOk = ok c)
    (s : SurfRec ν) : (surfToDictWith coat s).jsonOk = s.jsonableWith ok := by
  have ha (a : ApRec ν) : (apToDict a).jsonOk = true := by cases a; rfl
  have hb (b : BsdfRec ν) : (bsdfToDict b).jsonOk = true := by cases b <;> rfl
  cases s <;> simp [surfToDictWith, jsonOk_geomToDict, SurfRec.jsonableWith, SurfRec.geom, h, ha, hb]

theorem jsonOk_pol_code (p : PolRec ν) : (polToJ_code p).jsonOk = p.isIgnore := by
  cases p <;> simp [polToJ_code, PolRec.isIgnore]
theorem jsonOk_pol_spec (p : PolRec ν) : (polToJ_spec p).jsonOk = true := by
  cases p <;> simp [polToJ_spec]

theorem jsonOk_toDictWith (coat : CoatRec ν → J ν) (ok : CoatRec ν → Bool) (h : ∀ c, (coat c).jsonOk = ok c)
    (pol : PolRec ν → J ν) (p : LensRec ν) :
    (toDictWith coat pol p).jsonOk = (p.surfaces.all (SurfRec.jsonableWith ok) && (pol p.polarization).jsonOk) := by
  have t {α : Type} (l : List α) : (l.all fun _ => true) = true := by induction l <;> simp_all
  simp [toDictWith, jsonOkL_map, jsonOk_surfToDict coat ok h, fieldToDict, waveToDict, pickToDict, solveToDict,
    sysApToDict, t]

/-! ### edits and serialisability -/

theorem all_mapIdx {α : Type} (l : List α) (f : Nat → α → α) (P : α → Bool)
    (h : ∀ i s, s ∈ l → P (f i s) = true) : (l.mapIdx f).all P = true := by
  rw [List.all_eq_true]
  intro x hx
  rw [List.mem_mapIdx] at hx
  obtain ⟨i, hi, rfl⟩ := hx
  exact h i _ (List.getElem_mem hi)

theorem all_modifyAt {α : Type} (l : List α) (k : Nat) (f : α → α) (P : α → Bool) (hl : l.all P = true)
    (h : ∀ s, P s = true → P (f s) = true) : (modifyAt l k f).all P = true := by
  rw [List.all_eq_true] at hl
  apply all_mapIdx
  intro i s hs
  by_cases hik : i = k <;> simp [hik, h s (hl s hs), hl s hs]

def CsRec.tailScalar : CsRec ν → Bool
  | .root _ => true
  | .child _ r => r.zScalar

def GeomRec.coefOk : GeomRec ν → Bool
  | .evenAsphere _ _ _ _ _ c => c.isList
  | _ => true

def SurfRec.coatPart (ok : CoatRec ν → Bool) : SurfRec ν → Bool
  | .standard _ _ _ _ _ c _ _ => optAll ok c
  | _ => true

/-- everything `jsonableWith` looks at except the representation of the surface's own `cs.z` -/
def SurfRec.rest (ok : CoatRec ν → Bool) (s : SurfRec ν) : Bool :=
  s.geom.cs.tailScalar && s.geom.coefOk && s.coatPart ok

def SurfRec.headScalar (s : SurfRec ν) : Bool := s.geom.cs.frame.z.isScalar

theorem jsonableWith_split (ok : CoatRec ν → Bool) (s : SurfRec ν) :
    s.jsonableWith ok = (s.headScalar && s.rest ok) := by
  have hc (c : CsRec ν) : c.zScalar = (c.frame.z.isScalar && c.tailScalar) := by
    cases c <;> simp [CsRec.zScalar, CsRec.frame, CsRec.tailScalar]
  have hg (g : GeomRec ν) : g.jsonable = (g.cs.zScalar && g.coefOk) := by
    cases g <;> simp [GeomRec.jsonable, GeomRec.cs, GeomRec.coefOk]
  cases s <;> simp [SurfRec.jsonableWith, SurfRec.headScalar, SurfRec.rest, SurfRec.geom, SurfRec.coatPart, hg, hc,
    Bool.and_assoc]

@[simp] theorem geom_setGeom (s : SurfRec ν) (g : GeomRec ν) : (s.setGeom g).geom = g := by cases s <;> rfl
@[simp] theorem cs_setCs (g : GeomRec ν) (c : CsRec ν) : (g.setCs c).cs = c := by cases g <;> rfl
@[simp] theorem frame_setFrame (c : CsRec ν) (f : Frame ν) : (c.setFrame f).frame = f := by cases c <;> rfl

theorem head_mapFrame (s : SurfRec ν) (f : Frame ν → Frame ν) :
    (mapFrame s f).headScalar = (f s.geom.cs.frame).z.isScalar := by simp [mapFrame, SurfRec.headScalar]

/-- rewriting a surface's own frame touches `jsonableWith` only through the representation of the new `cs.z` -/
theorem jsonableWith_mapFrame (ok : CoatRec ν → Bool) (s : SurfRec ν) (f : Frame ν → Frame ν) :
    (mapFrame s f).jsonableWith ok = ((f s.geom.cs.frame).z.isScalar && s.rest ok) := by
  have h1 (g : GeomRec ν) (c : CsRec ν) : (g.setCs c).coefOk = g.coefOk := by cases g <;> rfl
  have h2 (c : CsRec ν) (f : Frame ν) : (c.setFrame f).tailScalar = c.tailScalar := by cases c <;> rfl
  have h3 (g : GeomRec ν) : (s.setGeom g).coatPart ok = s.coatPart ok := by cases s <;> rfl
  rw [jsonableWith_split, head_mapFrame]
  simp [mapFrame, SurfRec.rest, h1, h2, h3]

theorem jsonable_mapFrame (ok : CoatRec ν → Bool) (s : SurfRec ν) (f : Frame ν → Frame ν)
    (hs : s.jsonableWith ok = true) (hf : (f s.geom.cs.frame).z.isScalar = true) :
    (mapFrame s f).jsonableWith ok = true := by
  rw [jsonableWith_split, Bool.and_eq_true] at hs
  rw [jsonableWith_mapFrame, hf, hs.2]; rfl

/-- `set_radius` and `set_conic` replace the geometry by one with the same frame and coefficients -/
theorem jsonable_setGeom (ok : CoatRec ν → Bool) (s : SurfRec ν) (g : GeomRec ν) (hg : g.jsonable = s.geom.jsonable)
    (hs : s.jsonableWith ok = true) : (s.setGeom g).jsonableWith ok = true := by
  cases s <;> simpa [SurfRec.jsonableWith, SurfRec.setGeom, SurfRec.geom, hg] using hs

theorem jsonable_geom_setRadius (g : GeomRec ν) (v : ν) : (g.setRadius v).jsonable = g.jsonable := by cases g <;> rfl
theorem jsonable_geom_setConic (g : GeomRec ν) (v : ν) : (g.setConic v).jsonable = g.jsonable := by cases g <;> rfl

abbrev AllOk (ok : CoatRec ν → Bool) (ss : List (SurfRec ν)) : Prop := ss.all (SurfRec.jsonableWith ok) = true

/-- `setRadiusAt`, `setConicAt`: one surface edited by a map that keeps it writable -/
theorem setAt_pres (ok : CoatRec ν → Bool) (ss ss' : List (SurfRec ν)) (k : Nat) (f : SurfRec ν → SurfRec ν)
    (hf : ∀ s, s.jsonableWith ok = true → (f s).jsonableWith ok = true) (h : AllOk ok ss)
    (e : (if k < ss.length then .ok (modifyAt ss k f) else .error "IndexError" : R _) = .ok ss') : AllOk ok ss' := by
  split at e
  · cases e; exact all_modifyAt _ _ _ _ h hf
  · cases e

theorem setThickness_false_pres (ok : CoatRec ν → Bool) (ss ss' : List (SurfRec ν)) (v : ν) (k : Nat)
    (h : AllOk ok ss) (e : setThickness false ss v k = .ok ss') : AllOk ok ss' := by
  unfold setThickness at e
  obtain ⟨pos, _, e⟩ := bind_eq_ok e
  split at e
  · cases e
    rw [AllOk, List.all_eq_true] at h
    exact all_mapIdx _ _ _ fun i s hs => jsonable_mapFrame ok s (fun f => { f with z := mkZ false _ }) (h s hs) rfl
  · cases e

/-- a pickup keeps the lens writable unless it is a thickness pickup under the array-storing `set_thickness` -/
theorem applyPickup_pres (arrays : Bool) (ok : CoatRec ν → Bool) (ss ss' : List (SurfRec ν)) (q : PickRec ν)
    (hq : arrays = false ∨ q.attr ≠ .thickness) (h : AllOk ok ss) (e : applyPickup arrays ss q = .ok ss') :
    AllOk ok ss' := by
  unfold applyPickup at e
  split at e
  · cases e
  · cases hattr : q.attr with
    | radius =>
      rw [hattr] at e
      exact setAt_pres ok _ _ _ _ (fun s => jsonable_setGeom ok s _ (jsonable_geom_setRadius ..)) h e
    | conic =>
      rw [hattr] at e
      obtain ⟨old, _, e⟩ := bind_eq_ok e
      exact setAt_pres ok _ _ _ _ (fun s => jsonable_setGeom ok s _ (jsonable_geom_setConic ..)) h e
    | thickness =>
      rcases hq with rfl | hq
      · rw [hattr] at e
        obtain ⟨pos, _, e⟩ := bind_eq_ok e
        split at e
        · exact setThickness_false_pres ok _ _ _ _ h e
        · cases e
      · exact absurd hattr hq

theorem applyPickups_pres (arrays : Bool) (ok : CoatRec ν → Bool) (qs : List (PickRec ν)) :
    ∀ (ss ss' : List (SurfRec ν)), (arrays = false ∨ ∀ q ∈ qs, q.attr ≠ .thickness) → AllOk ok ss →
      applyPickups arrays ss qs = .ok ss' → AllOk ok ss' := by
  induction qs with
  | nil => intro ss ss' _ h e; cases e; exact h
  | cons q qs ih =>
    intro ss ss' hq h e
    simp only [applyPickups] at e
    cases h1 : applyPickup arrays ss q with
    | error m => rw [h1] at e; cases e
    | ok s1 =>
      rw [h1] at e
      exact ih s1 ss' (hq.imp id fun f r hr => f r (List.mem_cons_of_mem _ hr))
        (applyPickup_pres arrays ok ss s1 q (hq.imp id fun f => f q List.mem_cons_self) h h1) e

theorem applySolve_false_pres (ok : CoatRec ν → Bool) (ss : List (SurfRec ν)) (idx : Nat) (o : ν) (h : AllOk ok ss) :
    AllOk ok (applySolve false ss idx o) := by
  rw [AllOk, List.all_eq_true] at h
  apply all_mapIdx
  intro i s hs
  split
  · exact jsonable_mapFrame ok s _ (h s hs) rfl
  · exact h s hs

theorem applySolves_false_pres (ok : CoatRec ν → Bool) (sv : List (SolveRec ν)) :
    ∀ (ss : List (SurfRec ν)) (os : List ν), AllOk ok ss → AllOk ok (applySolves false ss sv os) := by
  induction sv with
  | nil => intro ss os h; exact h
  | cons s rest ih =>
    intro ss os h
    cases os with
    | nil => exact h
    | cons o os => exact ih _ os (applySolve_false_pres ok ss s.idx o h)

theorem orKeep_pres (ok : CoatRec ν → Bool) (ss : List (SurfRec ν)) (r : R (List (SurfRec ν))) (h : AllOk ok ss)
    (hr : ∀ ss', r = .ok ss' → AllOk ok ss') : AllOk ok (orKeep ss r) := by
  cases r with
  | error e => exact h
  | ok a => exact hr a rfl

/-- the edits that never write `cs.z` through `set_thickness` or a solve -/
def Edit.safe : Edit ν → Bool
  | .setThickness .. => false
  | .solveAdd .. => false
  | .pickupAdd q => q.attr != .thickness
  | .setPolarization pol => pol.isIgnore
  | _ => true

def noThicknessPickups (p : LensRec ν) : Prop := ∀ q ∈ p.pickups, q.attr ≠ .thickness

/-- an edit that leaves `cs.z` of every frame in its representation keeps the lens writable -/
theorem frameEdit_pres (ok : CoatRec ν → Bool) (ss : List (SurfRec ν)) (k : Nat) (f : Frame ν → Frame ν)
    (hf : ∀ fr, (f fr).z.isScalar = fr.z.isScalar) (h : AllOk ok ss) :
    AllOk ok (modifyAt ss k fun s => mapFrame s f) := by
  apply all_modifyAt _ _ _ _ h
  intro s hs
  rw [jsonableWith_split] at hs
  rw [jsonableWith_mapFrame, hf]
  exact hs

/-- Every edit keeps every `cs.z` a float, either because `set_thickness` and the solves write floats back, or because
the edit is a safe one on a lens without solves and thickness pickups. -/
theorem step_pres (arrays : Bool) (ok : CoatRec ν → Bool) (p : LensRec ν) (e : Edit ν) (h : AllOk ok p.surfaces)
    (hs : arrays = false ∨ (e.safe = true ∧ noThicknessPickups p ∧ p.solves = [])) :
    AllOk ok (step arrays p e).surfaces := by
  cases e with
  | setRadius v k =>
    exact orKeep_pres ok _ _ h fun _ e =>
      setAt_pres ok _ _ _ _ (fun s => jsonable_setGeom ok s _ (jsonable_geom_setRadius ..)) h e
  | setConic v k =>
    exact orKeep_pres ok _ _ h fun _ e =>
      setAt_pres ok _ _ _ _ (fun s => jsonable_setGeom ok s _ (jsonable_geom_setConic ..)) h e
  | setThickness v k =>
    rcases hs with rfl | ⟨hs, _⟩
    · exact orKeep_pres ok _ _ h fun _ e => setThickness_false_pres ok _ _ _ _ h e
    · cases hs
  | setIndex v k =>
    simp only [step]
    split
    · exact all_modifyAt _ _ _ _ (all_modifyAt _ _ _ _ h fun s hs => by cases s <;> exact hs)
        fun s hs => by cases s <;> exact hs
    · exact h
  | setTilt ax v k => exact frameEdit_pres ok _ k _ (fun fr => by cases ax <;> rfl) h
  | setDecenter ax v k => exact frameEdit_pres ok _ k _ (fun fr => by cases ax <;> rfl) h
  | pickupAdd q =>
    simp only [step]
    cases hq : applyPickup arrays p.surfaces q with
    | error m => exact h
    | ok ss => exact applyPickup_pres arrays ok _ _ q (hs.imp id fun hs => by simpa [Edit.safe] using hs.1) h hq
  | solveAdd s o =>
    rcases hs with rfl | ⟨hs, _⟩
    · exact applySolve_false_pres ok _ _ _ h
    · cases hs
  | update os =>
    have h1 := orKeep_pres ok _ _ h fun _ e => applyPickups_pres arrays ok _ _ _ (hs.imp id (·.2.1)) h e
    rcases hs with rfl | ⟨_, _, hs⟩
    · exact applySolves_false_pres ok _ _ _ h1
    · simp only [step, hs, applySolves]; exact h1
  | imageSolve o => exact frameEdit_pres ok _ _ _ (fun fr => by cases fr.z <;> rfl) h
  | addWave w => exact h
  | setPolarization pol => exact h

/-- with the repaired `set_thickness` / solve (floats written back) every edit keeps every `cs.z` a float -/
theorem step_false_pres (ok : CoatRec ν → Bool) (p : LensRec ν) (e : Edit ν) (h : AllOk ok p.surfaces) :
    AllOk ok (step false p e).surfaces := step_pres false ok p e h (.inl rfl)

/-- invariant of the partial theorem about the `_code` tree -/
structure SafeInv (p : LensRec ν) : Prop where
  ok : jsonable_code p = true
  pickups : noThicknessPickups p
  solves : p.solves = []

theorem step_true_safe (p : LensRec ν) (e : Edit ν) (he : e.safe = true) (h : SafeInv p) : SafeInv (step true p e) := by
  have ⟨hs, hp⟩ := Bool.and_eq_true_iff.mp h.ok
  have hs' := step_pres true _ p e hs (.inr ⟨he, h.pickups, h.solves⟩)
  cases e with
  | setThickness | solveAdd => cases he
  | setPolarization pol => exact ⟨Bool.and_eq_true_iff.mpr ⟨hs', he⟩, h.pickups, h.solves⟩
  | setIndex v k =>
    by_cases hk : k + 1 < p.surfaces.length
    · have e : step true p (.setIndex v k) = _ := if_pos hk
      rw [e] at hs' ⊢
      exact ⟨Bool.and_eq_true_iff.mpr ⟨hs', hp⟩, h.pickups, h.solves⟩
    · rw [show step true p (.setIndex v k) = p from if_neg hk]
      exact h
  | pickupAdd q =>
    have hq : q.attr ≠ .thickness := by simpa [Edit.safe] using he
    simp only [step]
    cases hap : applyPickup true p.surfaces q with
    | error m => exact h
    | ok ss =>
      refine ⟨Bool.and_eq_true_iff.mpr ⟨applyPickup_pres true _ _ _ q (.inr hq) hs hap, hp⟩, fun r hr => ?_, h.solves⟩
      rcases List.mem_append.mp hr with hr | hr
      · exact h.pickups r hr
      · cases List.mem_singleton.mp hr; exact hq
  | _ => exact ⟨Bool.and_eq_true_iff.mpr ⟨hs', hp⟩, h.pickups, h.solves⟩

end Serial
