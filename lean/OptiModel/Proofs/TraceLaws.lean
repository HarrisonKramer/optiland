import OptiModel.Proofs.RayReal
import Mathlib.Data.List.Forall2
/-!
# Plumbing for the whole-surface / whole-lens theorems of C02

`traceSurf` is written for a batch (`List.zip`/`List.map`).  For the two geometries whose distance
is computed ray by ray (`Plane`, `StandardGeometry`) the batch trace is the `List.map` of a per-ray
function `traceRay`; this file names the stages of that per-ray function

    r ─localize→ q ─propagate t, opd += |t·n₁|, clip→ `arrive` ─interact→ · ─globalize→ `traceRay`

and proves which fields of a ray each stage leaves alone.  No optics here: the optical facts are in
`Props/C02.lean`, which composes them along these stages.
-/
namespace TraceLaws
open Model

/-! ### the stages of `traceSurf` for one ray -/

/-- the ray in the surface frame when it arrives at the surface: propagated by `t`, path
updated, clipped — the argument that `traceSurf` hands to `interact` -/
noncomputable def arriveAt (s : RSurf ℝ) (w : ℝ) (q : Ray ℝ) (t : ℝ) : Ray ℝ :=
  clip s.aperture
    { q.propagate t s.k1 w with opd := Num.add (q.propagate t s.k1 w).opd (Num.abs (Num.mul t s.n1)) }

/-- the per-ray body of `traceSurf` (ray already in the surface frame, `t` = its distance) -/
noncomputable def stepRay (s : RSurf ℝ) (w : ℝ) (q : Ray ℝ) (t : ℝ) : Ray ℝ :=
  s.cs.globalize (interact s (arriveAt s w q t))

theorem traceSurf_body (s : RSurf ℝ) (w : ℝ) (rays : List (Ray ℝ)) (hk : s.kind ≠ .object) :
    traceSurf s w rays =
      ((rays.map s.cs.localize).zip (s.geom.distance (rays.map s.cs.localize))).map
        (fun rt => stepRay s w rt.1 rt.2) := by
  unfold traceSurf
  cases h : s.kind with
  | object => exact absurd h hk
  | standard => rfl
  | image => rfl

theorem traceSurf_object (s : RSurf ℝ) (w : ℝ) (rays : List (Ray ℝ)) (hk : s.kind = .object) :
    traceSurf s w rays = rays := by
  unfold traceSurf; rw [hk]

/-- the geometries whose `distance` is evaluated ray by ray in closed form -/
def IsStd : Geom ℝ → Prop
  | .plane => True
  | .standard _ _ => True
  | _ => False

/-- `geometry.distance` for one ray (`Plane.distance`, `StandardGeometry.distance`) -/
noncomputable def dist1 : Geom ℝ → Ray ℝ → ℝ
  | .plane, r => planeDistance r
  | .standard R k, r => stdDistance R k r
  | _, _ => 0

theorem distance_map (g : Geom ℝ) (hg : IsStd g) (rays : List (Ray ℝ)) :
    g.distance rays = rays.map (dist1 g) := by
  cases g <;> first | rfl | exact absurd hg id

/-- the ray in the surface frame on arrival, with the distance the geometry returns for it -/
noncomputable def arrive (s : RSurf ℝ) (w : ℝ) (r : Ray ℝ) : Ray ℝ :=
  arriveAt s w (s.cs.localize r) (dist1 s.geom (s.cs.localize r))

/-- what `traceSurf` does to one ray of a batch through a plane or a standard conic
(`traceSurf_map`) -/
noncomputable def traceRay (s : RSurf ℝ) (w : ℝ) (r : Ray ℝ) : Ray ℝ :=
  s.cs.globalize (interact s (arrive s w r))

theorem traceSurf_map (s : RSurf ℝ) (w : ℝ) (rays : List (Ray ℝ)) (hk : s.kind ≠ .object)
    (hg : IsStd s.geom) : traceSurf s w rays = rays.map (traceRay s w) := by
  rw [traceSurf_body s w rays hk, distance_map _ hg]
  induction rays with
  | nil => rfl
  | cons a l ih =>
    simp only [List.map_cons, List.zip_cons_cons]
    rw [ih]
    rfl

theorem traceSurf_length (s : RSurf ℝ) (w : ℝ) (rays : List (Ray ℝ)) (hg : IsStd s.geom) :
    (traceSurf s w rays).length = rays.length := by
  by_cases hk : s.kind = .object
  · rw [traceSurf_object s w rays hk]
  · rw [traceSurf_map s w rays hk hg, List.length_map]

/-! ### `clip` touches the intensity only -/

theorem clip_eq (ap : Option (ℝ × ℝ)) (q : Ray ℝ) : ∃ i, clip ap q = { q with i := i } := by
  unfold clip
  cases ap with
  | none => exact ⟨q.i, rfl⟩
  | some p =>
    obtain ⟨a, b⟩ := p
    simp only
    split_ifs
    · exact ⟨0, rfl⟩
    · exact ⟨q.i, rfl⟩

/-! ### `interact` touches direction and intensity only -/

/-- the change of direction inside `interact` (before the coating factor) -/
noncomputable def bend (s : RSurf ℝ) (q : Ray ℝ) : Ray ℝ :=
  if s.refl then q.reflect (s.geom.normal q).1 (s.geom.normal q).2.1 (s.geom.normal q).2.2
  else q.refract (s.geom.normal q).1 (s.geom.normal q).2.1 (s.geom.normal q).2.2 s.n1 s.n2

theorem interact_image (s : RSurf ℝ) (q : Ray ℝ) (hk : s.kind = .image) : interact s q = q := by
  unfold interact; rw [hk]

theorem interact_eq (s : RSurf ℝ) (q : Ray ℝ) (hk : s.kind ≠ .image) :
    ∃ i, interact s q = { bend s q with i := i } := by
  obtain ⟨kind, cs, geom, n1, n2, k1, refl, ap, co⟩ := s
  unfold interact bend
  simp only at hk ⊢
  generalize geom.normal q = nrm
  obtain ⟨nx, ny, nz⟩ := nrm
  cases kind with
  | image => exact absurd rfl hk
  | object =>
    cases refl <;> cases co with
    | none => exact ⟨_, rfl⟩
    | some p => obtain ⟨T, R⟩ := p; exact ⟨_, rfl⟩
  | standard =>
    cases refl <;> cases co with
    | none => exact ⟨_, rfl⟩
    | some p => obtain ⟨T, R⟩ := p; exact ⟨_, rfl⟩

theorem interact_frame (s : RSurf ℝ) (q : Ray ℝ) :
    ∃ L M N i, interact s q = { q with L := L, M := M, N := N, i := i } := by
  by_cases hk : s.kind = .image
  · exact ⟨q.L, q.M, q.N, q.i, interact_image s q hk⟩
  · obtain ⟨i, h⟩ := interact_eq s q hk
    refine ⟨(bend s q).L, (bend s q).M, (bend s q).N, i, h.trans ?_⟩
    unfold bend
    split_ifs <;> rfl

theorem interact_x (s : RSurf ℝ) (q : Ray ℝ) : (interact s q).x = q.x := by
  obtain ⟨L, M, N, i, h⟩ := interact_frame s q; rw [h]
theorem interact_y (s : RSurf ℝ) (q : Ray ℝ) : (interact s q).y = q.y := by
  obtain ⟨L, M, N, i, h⟩ := interact_frame s q; rw [h]
theorem interact_z (s : RSurf ℝ) (q : Ray ℝ) : (interact s q).z = q.z := by
  obtain ⟨L, M, N, i, h⟩ := interact_frame s q; rw [h]
theorem interact_opd (s : RSurf ℝ) (q : Ray ℝ) : (interact s q).opd = q.opd := by
  obtain ⟨L, M, N, i, h⟩ := interact_frame s q; rw [h]

theorem interact_L (s : RSurf ℝ) (q : Ray ℝ) (hk : s.kind ≠ .image) : (interact s q).L = (bend s q).L := by
  obtain ⟨i, h⟩ := interact_eq s q hk; rw [h]
theorem interact_M (s : RSurf ℝ) (q : Ray ℝ) (hk : s.kind ≠ .image) : (interact s q).M = (bend s q).M := by
  obtain ⟨i, h⟩ := interact_eq s q hk; rw [h]
theorem interact_N (s : RSurf ℝ) (q : Ray ℝ) (hk : s.kind ≠ .image) : (interact s q).N = (bend s q).N := by
  obtain ⟨i, h⟩ := interact_eq s q hk; rw [h]

section
variable (s : RSurf ℝ) (w : ℝ) (q : Ray ℝ) (t : ℝ)
theorem arriveAt_x : (arriveAt s w q t).x = q.x + t * q.L := by
  unfold arriveAt; obtain ⟨i, h⟩ := clip_eq s.aperture _; rw [h]; rfl
theorem arriveAt_y : (arriveAt s w q t).y = q.y + t * q.M := by
  unfold arriveAt; obtain ⟨i, h⟩ := clip_eq s.aperture _; rw [h]; rfl
theorem arriveAt_z : (arriveAt s w q t).z = q.z + t * q.N := by
  unfold arriveAt; obtain ⟨i, h⟩ := clip_eq s.aperture _; rw [h]; rfl
theorem arriveAt_L : (arriveAt s w q t).L = q.L := by
  unfold arriveAt; obtain ⟨i, h⟩ := clip_eq s.aperture _; rw [h]; rfl
theorem arriveAt_M : (arriveAt s w q t).M = q.M := by
  unfold arriveAt; obtain ⟨i, h⟩ := clip_eq s.aperture _; rw [h]; rfl
theorem arriveAt_N : (arriveAt s w q t).N = q.N := by
  unfold arriveAt; obtain ⟨i, h⟩ := clip_eq s.aperture _; rw [h]; rfl
theorem arriveAt_opd : (arriveAt s w q t).opd = q.opd + |t * s.n1| := by
  unfold arriveAt; obtain ⟨i, h⟩ := clip_eq s.aperture _; rw [h]; rfl
end

/-! ### frame changes leave the accumulated path alone -/

theorem globalize_opd (c : Cs ℝ) (q : Ray ℝ) : (c.globalize q).opd = q.opd := by
  rw [RayReal.globalize_eq]; rfl

theorem localize_opd (c : Cs ℝ) (q : Ray ℝ) : (c.localize q).opd = q.opd := by
  rw [RayReal.localize_eq]; rfl

/-! ### every geometry returns one distance per ray -/

theorem nrSweep_length (g : Geom ℝ) (rays : List (Ray ℝ)) (pts : List (ℝ × ℝ × ℝ))
    (h : pts.length = rays.length) : (nrSweep g rays pts).1.length = rays.length := by
  simp [nrSweep, h]

theorem nrLoop_length (g : Geom ℝ) (rays : List (Ray ℝ)) (tol : ℝ) :
    ∀ (n : Nat) (pts : List (ℝ × ℝ × ℝ)), pts.length = rays.length →
      (nrLoop g rays tol n pts).length = rays.length
  | 0, pts, h => by simpa [nrLoop] using h
  | n+1, pts, h => by
    unfold nrLoop
    have hs := nrSweep_length g rays pts h
    generalize nrSweep g rays pts = sw at hs
    obtain ⟨pts', m⟩ := sw
    simp only
    split
    · exact hs
    · exact nrLoop_length g rays tol n pts' hs

theorem nrDistance_length (g : Geom ℝ) (R tol : ℝ) (mi : Nat) (rays : List (Ray ℝ)) :
    (nrDistance g R tol mi rays).length = rays.length := by
  unfold nrDistance
  simp [nrLoop_length g rays tol mi (rays.map (sphereGuess R)) (by simp)]

theorem distance_length (g : Geom ℝ) (rays : List (Ray ℝ)) : (g.distance rays).length = rays.length := by
  cases g <;> simp [Geom.distance, nrDistance_length]

/-! ### position-wise relations between a batch and its record -/

theorem forall₂_map_self {β γ : Type} (Rel : β → γ → Prop) (f : β → γ) :
    ∀ (l : List β), (∀ a ∈ l, Rel a (f a)) → List.Forall₂ Rel l (l.map f) :=
  fun _ h => List.forall₂_map_right_iff.mpr (List.forall₂_same.mpr h)

theorem forall₂_self {β : Type} (Rel : β → β → Prop) :
    ∀ (l : List β), (∀ a ∈ l, Rel a a) → List.Forall₂ Rel l l :=
  fun _ => List.forall₂_same.mpr

/-- a relation that holds between `a` and `f (g a, t)` for every `t` holds position-wise between
`l` and `((l.map g).zip ts).map f` when `ts` is as long as `l` -/
theorem forall₂_zip_map {β γ : Type} (Rel : β → γ → Prop) (g : β → β) (f : β × ℝ → γ) :
    ∀ (l : List β) (ts : List ℝ), ts.length = l.length →
      (∀ a t, Rel a (f (g a, t))) → List.Forall₂ Rel l (((l.map g).zip ts).map f)
  | [], ts, _, _ => by simp
  | a :: l, [], h, _ => by simp at h
  | a :: l, t :: ts, h, hR => by
    simp only [List.map_cons, List.zip_cons_cons]
    exact List.Forall₂.cons (hR a t) (forall₂_zip_map Rel g f l ts (by simpa using h) hR)

theorem forall₂_of_length {β γ : Type} (Rel : β → γ → Prop) (h : ∀ a b, Rel a b) :
    ∀ (l : List β) (l' : List γ), l.length = l'.length → List.Forall₂ Rel l l' :=
  fun _ _ e => List.forall₂_iff_zip.mpr ⟨e, fun _ => h _ _⟩

end TraceLaws
