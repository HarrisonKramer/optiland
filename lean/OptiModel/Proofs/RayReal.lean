import OptiModel.Model.Real
import OptiModel.Proofs.NumReal
import Mathlib.Tactic.Ring
import Mathlib.Tactic.LinearCombination
/-!
# The ray operations of `Model/Real.lean` over ℝ, in Mathlib notation

One equation per model definition, so that the theorems about the real trace (`Props/C02.lean`,
`Props/C07.lean`) rewrite with these instead of unfolding the model.  Two of them say more than the
definition does:

* over ℝ a rotation by the angle `0` is the identity, so the tests `if self.rx:` of
  `CoordinateSystem.localize/globalize` can be dropped (`localize_eq`, `globalize_eq`);
* `np.sign(k·n) · |k·n| = k·n`, so the aligned normal of `refract`/`reflect` enters the new direction
  only through the coefficient `bendCoef` of `t = (n₁/n₂) k + γ n` (`refract_eq`), and not at all for a
  mirror (`reflect_eq`).

`selectRoot_eq` gives the root selection with all its branches at once, for statements that transform
every branch alike (scaling, moving the start point); `Proofs/SelectRoot.lean` derives from it one lemma
per branch, for statements about the root that a guard selects.
-/
namespace RayReal
open Model

/-! ### rigid motions -/

theorem translate_eq (r : Ray ℝ) (a b c : ℝ) :
    r.translate a b c = { r with x := r.x + a, y := r.y + b, z := r.z + c } := rfl

theorem rotateX_eq (r : Ray ℝ) (a : ℝ) : r.rotateX a =
    { r with y := r.y * Real.cos a - r.z * Real.sin a, z := r.y * Real.sin a + r.z * Real.cos a,
             M := r.M * Real.cos a - r.N * Real.sin a, N := r.M * Real.sin a + r.N * Real.cos a } := rfl

theorem rotateY_eq (r : Ray ℝ) (a : ℝ) : r.rotateY a =
    { r with x := r.x * Real.cos a + r.z * Real.sin a, z := -r.x * Real.sin a + r.z * Real.cos a,
             L := r.L * Real.cos a + r.N * Real.sin a, N := -r.L * Real.sin a + r.N * Real.cos a } := rfl

theorem rotateZ_eq (r : Ray ℝ) (a : ℝ) : r.rotateZ a =
    { r with x := r.x * Real.cos a - r.y * Real.sin a, y := r.x * Real.sin a + r.y * Real.cos a,
             L := r.L * Real.cos a - r.M * Real.sin a, M := r.L * Real.sin a + r.M * Real.cos a } := rfl

theorem rotateX_zero (r : Ray ℝ) : r.rotateX 0 = r := by
  simp only [rotateX_eq, Real.cos_zero, Real.sin_zero, mul_one, mul_zero, sub_zero, zero_add]

theorem rotateY_zero (r : Ray ℝ) : r.rotateY 0 = r := by
  simp only [rotateY_eq, Real.cos_zero, Real.sin_zero, mul_one, mul_zero, add_zero, zero_add]

theorem rotateZ_zero (r : Ray ℝ) : r.rotateZ 0 = r := by
  simp only [rotateZ_eq, Real.cos_zero, Real.sin_zero, mul_one, mul_zero, sub_zero, zero_add]

theorem truthy_iff (a : ℝ) : truthy a = true ↔ a ≠ 0 := by
  rw [truthy, Bool.not_eq_true', ← Bool.not_eq_true, NumReal.isZero_eq]

theorem truthy_zero : truthy (0:ℝ) = false := by
  rw [← Bool.not_eq_true, truthy_iff, not_not]

/-- a step that is the identity for the argument `0` may be taken whether or not the argument is
truthy -/
theorem ite_truthy (a : ℝ) (f : ℝ → Ray ℝ) (r : Ray ℝ) (h0 : f 0 = r) :
    (if truthy a then f a else r) = f a := by
  by_cases h : truthy a = true
  · rw [if_pos h]
  · rw [if_neg h, ← h0, not_not.mp (mt (truthy_iff a).mpr h)]

theorem localize_eq (c : Cs ℝ) (r : Ray ℝ) : c.localize r =
    (((r.translate (-c.x) (-c.y) (-c.z)).rotateX (-c.rx)).rotateY (-c.ry)).rotateZ (-c.rz) := by
  simp only [Cs.localize, NumReal.neg_eq]
  rw [ite_truthy c.rx (fun a => Ray.rotateX _ (-a)) _ (by rw [neg_zero, rotateX_zero]),
    ite_truthy c.ry (fun a => Ray.rotateY _ (-a)) _ (by rw [neg_zero, rotateY_zero]),
    ite_truthy c.rz (fun a => Ray.rotateZ _ (-a)) _ (by rw [neg_zero, rotateZ_zero])]

theorem globalize_eq (c : Cs ℝ) (r : Ray ℝ) : c.globalize r =
    (((r.rotateZ c.rz).rotateY c.ry).rotateX c.rx).translate c.x c.y c.z := by
  simp only [Cs.globalize]
  rw [ite_truthy c.rz (Ray.rotateZ _) _ (rotateZ_zero _), ite_truthy c.ry (Ray.rotateY _) _ (rotateY_zero _),
    ite_truthy c.rx (Ray.rotateX _) _ (rotateX_zero _)]

/-! ### propagate, refract, reflect -/

theorem propagate_eq (r : Ray ℝ) (t k w : ℝ) : r.propagate t k w =
    { r with x := r.x + t * r.L, y := r.y + t * r.M, z := r.z + t * r.N,
             i := r.i * Real.exp (-(4 * Real.pi * k / w) * t * 1000) } := by
  simp only [Ray.propagate, NumReal.ofRat_eq, Nat.cast_ofNat, Nat.cast_one, div_one]
  rfl

theorem sign_mul_abs (d : ℝ) : Num.sign d * |d| = d := by
  unfold Num.sign
  num_real
  rcases lt_trichotomy 0 d with h | h | h
  · rw [if_pos h, abs_of_pos h, one_mul]
  · rw [← h, abs_zero, mul_zero]
  · rw [if_neg (not_lt.mpr h.le), if_pos h, abs_of_neg h, neg_mul_neg, one_mul]

theorem sign_mul_self (d : ℝ) : Num.sign d * d = |d| := by
  unfold Num.sign
  num_real
  rcases lt_trichotomy 0 d with h | h | h
  · rw [if_pos h, abs_of_pos h, one_mul]
  · rw [← h, abs_zero, mul_zero]
  · rw [if_neg (not_lt.mpr h.le), if_pos h, abs_of_neg h, neg_one_mul]

theorem sign_sq (d : ℝ) (hd : d ≠ 0) : Num.sign d * Num.sign d = 1 :=
  mul_right_cancel₀ hd (by rw [mul_assoc, sign_mul_self, sign_mul_abs, one_mul])

/-- the coefficient `γ` of the normal in the refracted direction `t = u k + γ n`, `u = n₁/n₂`,
`d = k·n` -/
noncomputable def bendCoef (u d : ℝ) : ℝ := Num.sign d * Real.sqrt (1 - u * u * (1 - d * d)) - u * d

theorem refract_eq (r : Ray ℝ) (nx ny nz n1 n2 : ℝ) : r.refract nx ny nz n1 n2 =
    let γ := bendCoef (n1 / n2) (r.L * nx + r.M * ny + r.N * nz)
    { r with L := n1 / n2 * r.L + γ * nx, M := n1 / n2 * r.M + γ * ny, N := n1 / n2 * r.N + γ * nz } := by
  have h := sign_mul_abs (r.L * nx + r.M * ny + r.N * nz)
  have e : ∀ l n ρ : ℝ, n1 / n2 * l + n * Num.sign (r.L * nx + r.M * ny + r.N * nz) * ρ -
      n1 / n2 * (n * Num.sign (r.L * nx + r.M * ny + r.N * nz)) * |r.L * nx + r.M * ny + r.N * nz| =
      n1 / n2 * l + (Num.sign (r.L * nx + r.M * ny + r.N * nz) * ρ - n1 / n2 * (r.L * nx + r.M * ny + r.N * nz)) * n :=
    fun l n ρ => by linear_combination (-(n1 / n2) * n) * h
  simp only [Ray.refract, alignNormal]
  num_real
  simp only [e, bendCoef, abs_mul_abs_self]

/-- for unit `k`, `n` this is `|t|² = 1` -/
theorem bendCoef_sq (u d : ℝ) (hd : d ≠ 0) (h : 0 ≤ 1 - u * u * (1 - d * d)) :
    (bendCoef u d + u * d) ^ 2 = 1 - u * u * (1 - d * d) := by
  rw [bendCoef, sub_add_cancel, mul_pow, Real.sq_sqrt h, sq, sign_sq d hd, one_mul]

/-- `t·n = u d + γ` has the sign of `d = k·n` -/
theorem bendCoef_side (u d : ℝ) (hd : d ≠ 0) (h : 0 < 1 - u * u * (1 - d * d)) :
    0 < (u * d + bendCoef u d) * d := by
  rw [bendCoef, add_sub_cancel, mul_right_comm, sign_mul_self]
  exact mul_pos (abs_pos.mpr hd) (Real.sqrt_pos.mpr h)

theorem bendCoef_one (d : ℝ) : bendCoef 1 d = 0 := by
  rw [bendCoef, one_mul, one_mul, one_mul, sub_sub_cancel, Real.sqrt_mul_self_eq_abs, sign_mul_abs, sub_self]

/-- between equal indices `γ = 0`: the ray is not changed, whatever the normal -/
theorem refract_same (r : Ray ℝ) (nx ny nz n : ℝ) (hn0 : n ≠ 0) : r.refract nx ny nz n n = r := by
  simp only [refract_eq, div_self hn0, bendCoef_one, one_mul, zero_mul, add_zero]

theorem reflect_eq (r : Ray ℝ) (nx ny nz : ℝ) : r.reflect nx ny nz =
    let d := r.L * nx + r.M * ny + r.N * nz
    { r with L := r.L - 2 * d * nx, M := r.M - 2 * d * ny, N := r.N - 2 * d * nz } := by
  have h := sign_mul_abs (r.L * nx + r.M * ny + r.N * nz)
  have e : ∀ l n : ℝ, l - 2 * |r.L * nx + r.M * ny + r.N * nz| * (n * Num.sign (r.L * nx + r.M * ny + r.N * nz)) =
      l - 2 * (r.L * nx + r.M * ny + r.N * nz) * n := fun l n => by linear_combination (-2 * n) * h
  simp only [Ray.reflect, alignNormal]
  num_real
  simp only [e]

/-! ### distances, sag, normals, aperture -/

theorem conicABC_eq (R k : ℝ) (r : Ray ℝ) : conicABC R k r =
    (k*(r.N*r.N) + r.L*r.L + r.M*r.M + r.N*r.N,
     2*k*r.N*r.z + 2*r.L*r.x + 2*r.M*r.y - 2*r.N*R + 2*r.N*r.z,
     k*(r.z*r.z) - 2*R*r.z + r.x*r.x + r.y*r.y + r.z*r.z) := rfl

theorem stdDistance_eq (R k : ℝ) (r : Ray ℝ) : stdDistance R k r =
    selectRoot (conicABC R k r).1 (conicABC R k r).2.1 (conicABC R k r).2.2 r.z r.N := rfl

/-- `t[t < 0] = v` with `v = inf` or `v = nan`: over ℝ both are the junk value `0` -/
noncomputable def masked (t : ℝ) : ℝ := if t < 0 then 0 else t

theorem masked_of_nonneg {t : ℝ} (h : 0 ≤ t) : masked t = t := if_neg (not_lt.mpr h)

theorem masked_of_neg {t : ℝ} (h : t < 0) : masked t = 0 := if_pos h

theorem masked_mul {s : ℝ} (hs : 0 < s) (t : ℝ) : masked (s * t) = s * masked t := by
  have h : s * t < 0 ↔ t < 0 := by rw [← not_le, ← not_le, mul_nonneg_iff_of_pos_left hs]
  simp only [masked, h, mul_ite, mul_zero]

theorem planeDistance_eq (r : Ray ℝ) : planeDistance r = masked (-r.z / r.N) := by
  simp only [planeDistance, maskNeg, masked, NumReal.lt_eq, NumReal.fzero_eq, div_zero]

/-- the two candidates are `masked t₁`, `masked t₂`; the one whose end point has the smaller `|z|`
is returned, `masked t₁` on a tie -/
theorem selectRoot_eq (a b c z N : ℝ) : selectRoot a b c z N =
    let t₁ := masked ((-b + Real.sqrt (b * b - 4 * a * c)) / (2 * a))
    let t₂ := masked ((-b - Real.sqrt (b * b - 4 * a * c)) / (2 * a))
    if a = 0 then -c / b else if |z + t₁ * N| ≤ |z + t₂ * N| then t₁ else t₂ := by
  simp only [selectRoot, maskNeg, masked, NumReal.lt_eq, NumReal.le_eq, NumReal.isZero_eq, NumReal.ofRat_eq,
    Nat.cast_ofNat, Nat.cast_one, div_one]
  rfl

theorem conicSag_eq (R k x y : ℝ) : conicSag R k x y =
    (x*x + y*y) / (R * (1 + Real.sqrt (1 - (1 + k) * (x*x + y*y) / (R*R)))) := rfl

theorem conicSlope_eq (R k x y : ℝ) : conicSlope R k x y =
    let d := R * Real.sqrt (1 - (1 + k) * (x*x + y*y) / (R*R))
    (x / d, y / d) := rfl

theorem stdNormal_eq (R k x y : ℝ) : stdNormal R k x y =
    let g := conicSlope R k x y
    let m := Real.sqrt (g.1 * g.1 + g.2 * g.2 + -1 * -1)
    (g.1 / m, g.2 / m, -1 / m) := rfl

/-- a vector divided by its length is a unit vector -/
theorem normalized_unit (a b c m : ℝ) (hm : m^2 = a*a + b*b + c*c) (hm0 : m ≠ 0) :
    (a/m)^2 + (b/m)^2 + (c/m)^2 = 1 := by
  rw [div_pow, div_pow, div_pow, ← add_div, ← add_div, hm, sq, sq, sq]
  exact div_self (hm ▸ pow_ne_zero 2 hm0)

theorem nrNormalize_eq (a b : ℝ) : nrNormalize a b =
    let m := Real.sqrt (a*a + b*b + 1)
    (a / m, b / m, -1 / m) := rfl

theorem clip_some (rmax rmin : ℝ) (r : Ray ℝ) : clip (some (rmax, rmin)) r =
    if rmax * rmax < r.x * r.x + r.y * r.y ∨ r.x * r.x + r.y * r.y < rmin * rmin then { r with i := 0 }
    else r := by
  simp only [clip, Bool.or_eq_true, NumReal.lt_eq]

end RayReal
